/- Line-protocol driver: one JSON request per line on stdin, one JSON answer per line on stdout. -/
import Driver.Codec
open Lean Gamba Driver

def kindOf (s : String) : CheckAll.Kind :=
  match s with
  | "dfa" => .dfa | "nfa" => .nfa | "pda" => .pda | "tm" => .tm | "cfg" => .cfg | _ => .regexp

def handle (j : Json) : Except String Json := do
  let op ← getStr j "op"
  match op with
  | "ping" => pure (okJ (Json.str "pong"))
  -- C01
  | "dfa_accepts" => do
    let D ← decDFA (← j.getObjVal? "D"); let w ← getStrList j "w"
    pure (exc Json.bool (D.accepts w))
  | "eps_closure" => do
    let N ← decNFA (← j.getObjVal? "N"); let S ← getStrList j "S"
    pure (exc encStrs (N.closure (← getSched j) S))
  | "nfa_accepts" => do
    let N ← decNFA (← j.getObjVal? "N"); let w ← getStrList j "w"
    pure (exc Json.bool (N.accepts (← getSched j) w))
  -- C02
  | "dfa_words" => do
    let D ← decDFA (← j.getObjVal? "D")
    pure (okJ (encWords (D.wordsUpTo (← getNat j "n"))))
  | "nfa_words" => do
    let N ← decNFA (← j.getObjVal? "N")
    pure (exc encWords (N.wordsUpTo (← getSched j) (← getNat j "n")))
  | "regexp_words" => do
    let r ← decRegexp (← j.getObjVal? "r")
    pure (okJ (encWords (r.wordsUpTo (← getNat j "n"))))
  | "tm_words" => do
    let T ← decTM (← j.getObjVal? "T")
    pure (okJ (encWords (T.wordsUpTo (← getNat j "n") (← getNat j "k"))))
  -- C03
  | "nfa_to_dfa" => do
    let N ← decNFA (← j.getObjVal? "N")
    pure (exc encDFA (N.toDfa (← getSched j)))
  -- C05
  | "regexp_matches" => do
    let r ← decRegexp (← j.getObjVal? "r"); let w ← getStrList j "w"
    pure (okJ (Json.bool (r.matchesW w)))
  | "regexp_simplify" => do
    let r ← decRegexp (← j.getObjVal? "r")
    pure (okJ (encRegexp r.simplify))
  | "regexp_size" => do
    let r ← decRegexp (← j.getObjVal? "r")
    pure (okJ (Json.num r.size))
  -- C11
  | "tm_accepts" => do
    let T ← decTM (← j.getObjVal? "T"); let w ← getStrList j "w"
    pure (okJ (encOptBool (T.accepts w (← getNat j "k"))))
  | "tm_simulate" => do
    let T ← decTM (← j.getObjVal? "T"); let w ← getStrList j "w"
    pure (okJ (Json.arr ((T.simulate w (← getNat j "k")).map encCfg).toArray))
  | "tm_step" => do
    let T ← decTM (← j.getObjVal? "T")
    let c : TMConfig S S := { q := ← getStr j "q", tape := ← getStrList j "tape", head := ← getNat j "head" }
    pure (exc encCfg (T.doTransition c))
  -- C14
  | "dfa_complement" => do
    let D ← decDFA (← j.getObjVal? "D")
    pure (exc encDFA (DFA.checked D.complement))
  | "dfa_product" => do
    let D1 ← decDFA (← j.getObjVal? "D1"); let D2 ← decDFA (← j.getObjVal? "D2")
    let t ← match (← getStr j "type") with
      | "union" => pure ProductType.union
      | "intersection" => pure ProductType.intersection
      | "symmetric_difference" => pure ProductType.symmetricDifference
      | _ => throw "bad product type"
    if !(seq D1.Sigma D2.Sigma) then pure (errJ .assertion) else
    pure (exc encDFA (DFA.checked ((D1.product D2 t).mapStates productName)))
  | "dfa_reverse" => do
    let D ← decDFA (← j.getObjVal? "D")
    pure (exc encNFA (NFA.checked (D.reverse (freshState D.Q "q") "ε")))
  | "dfa_no_prefix" => do
    let D ← decDFA (← j.getObjVal? "D")
    pure (exc encNFA (NFA.checked (D.noPrefix "ε")))
  | "dfa_reachable" => do
    let D ← decDFA (← j.getObjVal? "D")
    pure (exc encStrs (D.reachableStates (← getStr j "q") (← getNat j "depth")))
  | "dfa_remove_unreachable" => do
    let D ← decDFA (← j.getObjVal? "D")
    pure (exc encDFA D.removeUnreachable)
  | "dfa_no_extend" => do
    let D ← decDFA (← j.getObjVal? "D")
    pure (exc encDFA D.noExtend)
  | "dfa_make_total" => do
    let D ← decDFA (← j.getObjVal? "D")
    pure (okJ (encDFA (D.makeTotal (freshState D.Q "trap"))))
  -- C15
  | "dfa_simulate" => do
    let D ← decDFA (← j.getObjVal? "D"); let w ← getStrList j "w"
    pure (exc (fun rows => Json.arr (rows.map fun r => Json.arr #[Json.str r.1, Json.str (String.join r.2)]).toArray)
      (D.simulate w))
  -- C18
  | "nfa_union" => do
    let N1 ← decNFA (← j.getObjVal? "N1"); let N2 ← decNFA (← j.getObjVal? "N2")
    let (q0, _) := genFresh (sunion N1.Q N2.Q) (← getNat j "counter")
    pure (exc encNFA (N1.union N2 q0))
  | "nfa_concat" => do
    let N1 ← decNFA (← j.getObjVal? "N1"); let N2 ← decNFA (← j.getObjVal? "N2")
    pure (exc encNFA (N1.concat N2))
  | "nfa_repetition" => do
    let N ← decNFA (← j.getObjVal? "N")
    let (q0, _) := genFresh N.Q (← getNat j "counter")
    pure (exc encNFA (N.repetition q0))
  -- finite languages (C14) and language comparison (C12)
  | "lang_reverse" => do pure (okJ (encWords (langReverse (← getWords j "L"))))
  | "lang_no_prefix" => do pure (okJ (encWords (langNoPrefix (← getWords j "L"))))
  | "lang_no_extend" => do pure (okJ (encWords (langNoExtend (← getWords j "L"))))
  | "lang_concat" => do pure (okJ (encWords (langConcat (← getWords j "L1") (← getWords j "L2"))))
  | "lang_union" => do pure (okJ (encWords (langUnion (← getWords j "L1") (← getWords j "L2"))))
  | "lang_inter" => do pure (okJ (encWords (langInter (← getWords j "L1") (← getWords j "L2"))))
  | "lang_symdiff" => do pure (okJ (encWords (langSymDiff (← getWords j "L1") (← getWords j "L2"))))
  | "words_of_length" => do pure (okJ (encWords (wordsOfLength (← getStrList j "Sigma") (← getNat j "n"))))
  | "words_up_to" => do pure (okJ (encWords (Gamba.wordsUpTo (← getStrList j "Sigma") (← getNat j "n"))))
  | "compare_languages" => do
    match compareLanguages (← getWords j "A1") (← getWords j "A2") with
    | none => pure (okJ Json.null)
    | some (w, extra) => pure (okJ (Json.arr #[Json.str (String.join w), Json.bool extra]))
  -- CFG (C02, C07, C08)
  | "cfg_is_chomsky" => do pure (okJ (Json.bool (← decCFG (← j.getObjVal? "G")).isChomsky))
  | "cfg_valid" => do pure (okJ (Json.bool (← decCFG (← j.getObjVal? "G")).valid))
  | "cfg_nullable" => do pure (okJ (encStrs (← decCFG (← j.getObjVal? "G")).nullable))
  | "cfg_derivable" => do pure (okJ (encStrs ((← decCFG (← j.getObjVal? "G")).derivable (← getStr j "A"))))
  | "cfg_fresh_variable" => do
    pure (okJ (Json.str (CFG.freshVariable (← getStrList j "V") (← getStr j "hint"))))
  | "cfg_add_start" => do pure (okJ (encCFG ((← decCFG (← j.getObjVal? "G")).addStart (← getStr j "hint"))))
  | "cfg_remove_eps" => do pure (okJ (encCFG (← decCFG (← j.getObjVal? "G")).removeEps))
  | "cfg_elim_unit" => do pure (okJ (encCFG (← decCFG (← j.getObjVal? "G")).elimUnit))
  | "cfg_binarise" => do pure (okJ (encCFG (← decCFG (← j.getObjVal? "G")).binarise))
  | "cfg_isolate" => do pure (okJ (encCFG (← decCFG (← j.getObjVal? "G")).isolateTerminals))
  | "cfg_to_chomsky" => do pure (okJ (encCFG (← decCFG (← j.getObjVal? "G")).toChomsky))
  | "cfg_apply_chomsky" => do
    pure (okJ (encCFG ((← decCFG (← j.getObjVal? "G")).applyChomsky (← getNat j "phase") (← getStr j "start"))))
  | "cfg_cyk" => do
    pure (exc encCyk ((← decCFG (← j.getObjVal? "G")).cykMatrix (← getStrList j "w")))
  | "cfg_accepts" => do
    pure (exc Json.bool ((← decCFG (← j.getObjVal? "G")).accepts (← getStrList j "w")))
  | "cfg_words" => do
    pure (okJ (encWords ((← decCFG (← j.getObjVal? "G")).wordsUpTo (← getNat j "n"))))
  -- PDA (C02, C09, C10)
  | "pda_eps_closure" => do
    let P ← decPDA (← j.getObjVal? "P")
    let (R, tr) := P.epsClosure (← getNat j "limit") (← getSched j) (← decConfs j "R")
    pure (okJ (Json.mkObj [("confs", encConfs R), ("truncated", Json.bool tr)]))
  | "pda_do_transition" => do
    let P ← decPDA (← j.getObjVal? "P")
    pure (okJ (encConfs (P.doTransition (← getStr j "a") (← decConfs j "R"))))
  | "pda_accepts" => do
    let P ← decPDA (← j.getObjVal? "P")
    let (b, tr) := P.acceptsT (← getNat j "limit") (← getSched j) (← getStrList j "w")
    pure (okJ (Json.mkObj [("accepts", Json.bool b), ("truncated", Json.bool tr)]))
  | "pda_words" => do
    let P ← decPDA (← j.getObjVal? "P")
    let (ws, tr) := P.wordsUpTo (← getNat j "limit") (← getSched j) (← getNat j "n")
    pure (okJ (Json.mkObj [("words", encWords ws), ("truncated", Json.bool tr)]))
  | "pda_is_push_pop" => do pure (okJ (Json.bool (← decPDA (← j.getObjVal? "P")).isPushPop))
  | "pda_one_accepting" => do pure (exc encPDA (PDA.checked (← decPDA (← j.getObjVal? "P")).toOneAcceptingS))
  | "pda_empty_stack" => do
    let P0 ← decPDA (← j.getObjVal? "P")
    pure (exc encPDA (do let P ← P0.toAcceptOnEmptyStackS; PDA.checked P))
  | "pda_push_pop" => do
    let P0 ← decPDA (← j.getObjVal? "P")
    pure (exc encPDA (do let P ← P0.toPushPopS; PDA.checked P))
  -- minimisation (C04)
  | "dfa_minimize" => do
    let D ← decDFA (← j.getObjVal? "D")
    pure (exc encDFA (do let M ← D.minimizeTable; pure (M.mapStates printStateSet)))
  | "dfa_quotient" => do
    let D ← decDFA (← j.getObjVal? "D")
    pure (exc encDFA (do let M ← D.quotient; pure (M.mapStates printStateSet)))
  | "dfa_hopcroft" => do
    let D ← decDFA (← j.getObjVal? "D")
    let sc ← getSched j
    pure (exc encDFA (do let M ← D.hopcroft sc; pure (M.mapStates printStateSet)))
  -- isomorphism (C20)
  | "dfa_isomorphic1" => do
    let D1 ← decDFA (← j.getObjVal? "D1"); let D2 ← decDFA (← j.getObjVal? "D2")
    pure (exc Json.bool (D1.isomorphic1 D2 (← getSched j)))
  | "dfa_isomorphic" => do
    let D1 ← decDFA (← j.getObjVal? "D1"); let D2 ← decDFA (← j.getObjVal? "D2")
    pure (exc Json.bool (D1.isomorphic D2 (← getSched j)))
  -- regexp <-> automata (C06)
  | "regexp_to_nfa" => do
    pure (exc encNFA (regexpToNfa (← decRegexp (← j.getObjVal? "r"))))
  | "dfa_to_regexp" => do
    let D ← decDFA (← j.getObjVal? "D")
    let (qs, qa) := gnfaNames D.Q
    pure (okJ (encRegexp (D.toRegexp qs qa (← getStrList j "order"))))
  | "dfa_to_gnfa" => do
    let D ← decDFA (← j.getObjVal? "D")
    let (qs, qa) := gnfaNames D.Q
    let G := D.toGnfa qs qa
    pure (okJ (Json.mkObj [("Q", encStrs G.Q), ("qs", Json.str G.qStart), ("qa", Json.str G.qAccept),
      ("delta", Json.arr (G.delta.map fun e => Json.arr #[Json.str e.1.1, Json.str e.1.2, encRegexp e.2]).toArray)]))
  -- witnesses (C15)
  | "nfa_simulate" => do
    let N ← decNFA (← j.getObjVal? "N"); let w ← getStrList j "w"
    pure (exc (fun (r : Option (List (String × List String))) => match r with
      | none => Json.null
      | some rows => Json.arr (rows.map fun x => Json.arr #[Json.str x.1, Json.str (String.join x.2)]).toArray)
      (N.simulate (← getSched j) w))
  | "pda_simulate" => do
    let P ← decPDA (← j.getObjVal? "P"); let w ← getStrList j "w"
    pure (exc (fun (r : Option (List (String × List String × List String))) => match r with
      | none => Json.null
      | some rows => Json.arr (rows.map fun x => Json.arr #[Json.str x.1, Json.str (String.join x.2.1), encStrs x.2.2]).toArray)
      (P.simulate (← getNat j "limit") (← getNat j "fuel") (← getSched j) w))
  | "cfg_derive" => do
    let G ← decCFG (← j.getObjVal? "G"); let w ← getStrList j "w"
    let lm ← (← j.getObjVal? "leftmost").getBool?
    pure (exc (fun (d : List (List Sym)) => Json.arr (d.map fun f => Json.arr (f.map encSym).toArray).toArray)
      (G.deriveWord w lm))
  | "cfg_print_cyk" => do
    let G ← decCFG (← j.getObjVal? "G"); let w ← getStrList j "w"
    pure (exc Json.str (do let X ← G.cykMatrix w; Keys.printCyk X w.length))
  | "cfg_derivation_key" => do
    let G ← decCFG (← j.getObjVal? "G"); let w ← getStrList j "w"
    let lm ← (← j.getObjVal? "leftmost").getBool?
    pure (exc Json.str (do let d ← G.deriveWord w lm; pure (Keys.printDerivation d)))
  | "pda_to_cfg" => do
    let P ← decPDA (← j.getObjVal? "P")
    pure (exc (fun (r : List String × List String × List (String × List (Bool × String)) × String) =>
      Json.mkObj [("V", encStrs r.1), ("Sigma", encStrs r.2.1), ("S", Json.str r.2.2.2),
        ("R", Json.arr (r.2.2.1.map fun e => Json.arr #[Json.str e.1,
           Json.arr (e.2.map fun x => encStrs [if x.1 then "v" else "t", x.2]).toArray]).toArray)])
      (P.toCfgRaw (match j.getObjVal? "aes" with | .ok (Json.bool b) => b | _ => false)))
  -- exercise checkers, object level (C12/C13)
  | "chk_language_from_words" => do
    pure (okJ (Json.bool (Check.languageFromWords (← getNat j "nQ") (← getNat j "max") (← getWords j "A") (← getWords j "words"))))
  | "chk_product" => do
    let D1 ← decDFA (← j.getObjVal? "D1"); let D2 ← decDFA (← j.getObjVal? "D2"); let A ← decDFA (← j.getObjVal? "A")
    let t ← match (← getStr j "type") with
      | "union" => pure ProductType.union
      | "intersection" => pure ProductType.intersection
      | "symmetric_difference" => pure ProductType.symmetricDifference
      | _ => throw "bad product type"
    pure (okJ (match Check.productCheck t D1 D2 A (← getNat j "len") with | none => Json.null | some b => Json.bool b))
  | "chk_complement" => do
    let D1 ← decDFA (← j.getObjVal? "D1"); let A ← decDFA (← j.getObjVal? "A")
    pure (okJ (Json.bool (Check.complementCheck D1 A)))
  | "chk_reverse" => do
    let D ← decDFA (← j.getObjVal? "D"); let A ← decNFA (← j.getObjVal? "A")
    pure (exc Json.bool (Check.reverseCheck D A (← getSched j) (← getNat j "len")))
  | "chk_minimal" => do
    let D ← decDFA (← j.getObjVal? "D"); let A ← decDFA (← j.getObjVal? "A")
    pure (exc Json.bool (Check.minimalCheck D A (← getNat j "len")))
  | "chk_nfa2dfa" => do
    let N ← decNFA (← j.getObjVal? "N"); let A ← decNFA (← j.getObjVal? "A")
    pure (exc Json.bool (Check.nfaToDfaCheck N A (← getSched j)))
  | "chk_cyk" => do
    let G ← decCFG (← j.getObjVal? "G")
    pure (exc Json.bool (Check.cykCheck G (← getStrList j "w") (← getStr j "answer")))
  | "chk_derivation" => do
    let G ← decCFG (← j.getObjVal? "G")
    pure (okJ (Json.bool (Check.derivationCheck G (← getStr j "derivation") (← getStrList j "w") (← getNat j "kind"))))
  | "chk_chomsky" => do
    let G ← decCFG (← j.getObjVal? "G"); let G1 ← decCFG (← j.getObjVal? "G1")
    pure (okJ (Json.bool (Check.chomskyCheck G G1 (← getNat j "phase") (← getStr j "start") (← getNat j "len"))))
  | "chk_text" => do
    let name ← getStr j "name"
    let ans ← getStr j "answer"
    let ref ← getStr j "ref"
    let gs := fun (k : String) => match j.getObjVal? k with | .ok (Json.str s) => s | _ => ""
    let gn := fun (k : String) => match j.getObjVal? k with | .ok v => (v.getNat?.toOption.getD 0) | _ => 0
    let sched := match getSched j with | .ok s => s | _ => []
    let v := match name with
      | "product_union" => CheckText.product .union ans ref (gs "ref2") (gn "len")
      | "product_intersection" => CheckText.product .intersection ans ref (gs "ref2") (gn "len")
      | "product_symmetric_difference" => CheckText.product .symmetricDifference ans ref (gs "ref2") (gn "len")
      | "complement" => CheckText.complement ans ref
      | "reverse" => CheckText.reverse ref ans sched (gn "len")
      | "minimal" => CheckText.minimal ref ans (gn "len")
      | "nfa2dfa" => CheckText.nfa2dfa ref ans sched
      | "dfa2regexp" => CheckText.dfa2regexp ref ans (gn "len")
      | "cyk" => CheckText.cyk ref (gs "word") ans
      | "derivation" => CheckText.derivation ref ans (gs "word") (gn "kind")
      | "chomsky" => CheckText.chomsky ref ans (gn "phase") (gs "start") (gn "len")
      | "dfa_accepts_rejects" => CheckText.dfaAcceptsRejects ans (gs "accepted") (gs "rejected")
      | "cfg_accepts_rejects" => CheckText.cfgAcceptsRejects ans (gs "accepted") (gs "rejected")
      | "dfa_language_words" => CheckText.dfaLanguageWords ans (gs "words") (gn "len") (gn "max")
      | "nfa_language_words" => CheckText.nfaLanguageWords ans (gs "words") sched (gn "len") (gn "max")
      | "cfg_language_words" => CheckText.cfgLanguageWords ans (gs "words") (gn "len")
      | "dfa_language_file" => CheckText.dfaLanguageFile ans ref (gn "len")
      | "nfa_language_file" => CheckText.nfaLanguageFile ans ref sched (gn "len")
      | "lang_words" => CheckAll.languageWords (kindOf (gs "kind")) ans (gs "words") { sched := sched } (gn "len") (gn "max")
      | "lang_file" => CheckAll.languageFile (kindOf (gs "kind")) (kindOf (gs "rkind")) ans ref { sched := sched } (gn "len")
      | "nfa_states" => CheckAll.numberOfNfaStates ans (gn "count")
      | "cfg_accepts" => (CheckAll.cfgAccepts ans (gs "words")).1
      | "cfg_rejects" => (CheckAll.cfgRejects ans (gs "words")).1
      | _ => CheckText.Verdict.error
    pure (okJ (Json.str v.toString))
  | "chk_cex" => do
    let name ← getStr j "name"
    let ans ← getStr j "answer"
    let ref ← getStr j "ref"
    let gs := fun (k : String) => match j.getObjVal? k with | .ok (Json.str s) => s | _ => ""
    let gn := fun (k : String) => match j.getObjVal? k with | .ok v => (v.getNat?.toOption.getD 0) | _ => 0
    let sched := match getSched j with | .ok s => s | _ => []
    let r := match name with
      | "product_union" => CheckCex.report (CheckCex.productLangs .union ans ref (gs "ref2") (gn "len"))
      | "product_intersection" => CheckCex.report (CheckCex.productLangs .intersection ans ref (gs "ref2") (gn "len"))
      | "product_symmetric_difference" => CheckCex.report (CheckCex.productLangs .symmetricDifference ans ref (gs "ref2") (gn "len"))
      | "reverse" => CheckCex.report (CheckCex.reverseLangs ref ans sched (gn "len"))
      | "minimal" => CheckCex.report (CheckCex.minimalLangs ref ans (gn "len"))
      | "dfa2regexp" => CheckCex.report (CheckCex.dfa2regexpLangs ref ans (gn "len"))
      | "chomsky" => CheckCex.report (CheckCex.chomskyLangs ref ans (gn "len"))
      | "dfa_accepts_rejects" => CheckCex.dfaAcceptsRejectsReport ans (gs "accepted") (gs "rejected")
      | "cfg_accepts_rejects" => CheckCex.cfgAcceptsRejectsReport ans (gs "accepted") (gs "rejected")
      | "dfa_language_words" => CheckCex.report (CheckCex.dfaLanguageWordsLangs ans (gs "words") (gn "len"))
      | "nfa_language_words" => CheckCex.report (CheckCex.nfaLanguageWordsLangs ans (gs "words") sched (gn "len"))
      | "cfg_language_words" => CheckCex.report (CheckCex.cfgLanguageWordsLangs ans (gs "words") (gn "len"))
      | "dfa_language_file" => CheckCex.report (CheckCex.dfaLanguageFileLangs ans ref (gn "len"))
      | "nfa_language_file" => CheckCex.report (CheckCex.nfaLanguageFileLangs ans ref sched (gn "len"))
      | "lang_words" => CheckCex.report (CheckAll.languageWordsLangs (kindOf (gs "kind")) ans (gs "words") { sched := sched } (gn "len"))
      | "lang_file" => CheckCex.report (CheckAll.languageFileLangs (kindOf (gs "kind")) (kindOf (gs "rkind")) ans ref { sched := sched } (gn "len"))
      | _ => none
    pure (okJ (match r with
      | none => Json.null
      | some (w, extra) => Json.mkObj [("word", Json.str (String.join w)), ("extra", Json.bool extra)]))
  -- text formats (C16/C17)
  | "parse_dfa" => do
    let sr := match j.getObjVal? "state_regex" with | .ok (Json.str s) => s | _ => ""
    let ok : Parse.Word → Bool := match sr with
      | "set" => CheckText.setStateOk | "product" => CheckText.productStateOk | "word_or_set" => CheckText.wordOrSetStateOk
      | _ => Parse.isWord
    pure (exc encDFA (Parse.parseDfa (← getStr j "text").toList ok))
  | "parse_nfa" => do
    let sr := match j.getObjVal? "state_regex" with | .ok (Json.str s) => s | _ => ""
    let ok : Parse.Word → Bool := match sr with
      | "set" => CheckText.setStateOk | "product" => CheckText.productStateOk | "word_or_set" => CheckText.wordOrSetStateOk
      | _ => Parse.isWord
    pure (exc encNFA (Parse.parseNfa (← getStr j "text").toList ok))
  | "parse_pda" => do pure (exc encPDA (Parse.parsePda (← getStr j "text").toList))
  | "parse_tm" => do pure (exc encTM (Parse.parseTm (← getStr j "text").toList))
  | "print_dfa" => do pure (okJ (Json.str (Parse.printDfa (← decDFA (← j.getObjVal? "D")))))
  | "print_nfa" => do pure (okJ (Json.str (Parse.printNfa (← decNFA (← j.getObjVal? "N")))))
  | "print_pda" => do pure (okJ (Json.str (Parse.printPda (← decPDA (← j.getObjVal? "P")))))
  | "print_tm" => do pure (okJ (Json.str (Parse.printTm (← decTM (← j.getObjVal? "T")))))
  | "regexp_print" => do
    let r ← decRegexp (← j.getObjVal? "r")
    pure (okJ (Json.mkObj [("full", Json.str (RegexpText.printFull r)), ("simple", Json.str (RegexpText.printSimple r)),
                           ("str", Json.str (RegexpText.printStr r))]))
  | "regexp_parse_simple" => do
    pure (okJ (match RegexpText.parseSimple (← getStr j "text") with | none => Json.null | some r => encRegexp r))
  | "regexp_parse_full" => do
    pure (okJ (match RegexpText.parseFull (← getStr j "text") with | none => Json.null | some r => encRegexp r))
  | "parse_simple_cfg" => do
    pure (exc (fun (r : CFG × String) => Json.mkObj [("G", encCFG r.1), ("eps", Json.str r.2)]) (CfgText.parseSimpleCfg (← getStr j "text").toList))
  | "print_simple_cfg" => do
    pure (exc Json.str (CfgText.printSimpleCfg (← decCFG (← j.getObjVal? "G"))))
  | _ => throw s!"unknown op {op}"

partial def loop (h : IO.FS.Stream) (out : IO.FS.Stream) : IO Unit := do
  let line ← h.getLine
  if line.isEmpty then return ()
  let ans := match Json.parse line with
    | .error e => Json.mkObj [("bad", Json.str e)]
    | .ok j => match handle j with
      | .ok r => r
      | .error e => Json.mkObj [("bad", Json.str e)]
  out.putStrLn ans.compress
  loop h out

def main : IO Unit := do
  let out ← IO.getStdout
  loop (← IO.getStdin) out
  out.flush
