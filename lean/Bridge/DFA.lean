/-
  Bridge.DFA — the acceptance specification `Gamba.DFA.Accepts` (Gamba/Spec/Automata.lean)
  coincides with Mathlib's `DFA.accepts` for the obvious translation of a (possibly partial)
  Gamba DFA into a total Mathlib DFA over `Option σ` (`none` = stuck / sink state).

  Finding: `Gamba.DFA.Accepts` never consults `D.Sigma` or `D.Q`; a run simply follows
  `D.delta.lookup` and is stuck on a missing entry.  Hence the equivalence needs NO hypothesis
  (neither validity of `D` nor `w` being a word over `D.Sigma`).  The statement under the guard of
  property C01 (valid `D`, `w` over `D.Sigma`) is given as a corollary.
-/
import Mathlib.Computability.DFA
import Gamba.Proofs.DFABasic  -- only for `toMathlib_evalFrom_valid`

namespace Gamba
variable {σ τ : Type} [DecidableEq σ] [DecidableEq τ]

/-- Translation to Mathlib's `DFA τ (Option σ)`: `none` is the sink reached when δ has no entry. -/
def DFA.toMathlib (D : Gamba.DFA σ τ) : _root_.DFA τ (Option σ) where
  step s a := s.bind fun q => D.delta.lookup (q, a)
  start := some D.q0
  accept := {s | ∃ q, s = some q ∧ q ∈ D.F}

theorem DFA.toMathlib_evalFrom_none (D : Gamba.DFA σ τ) (w : List τ) :
    D.toMathlib.evalFrom none w = none := by
  induction w with
  | nil => rfl
  | cons a w ih => simpa [_root_.DFA.evalFrom_cons, DFA.toMathlib] using ih

theorem DFA.run_iff_evalFrom (D : Gamba.DFA σ τ) (q : σ) (w : List τ) (r : σ) :
    D.Run q w r ↔ D.toMathlib.evalFrom (some q) w = some r := by
  induction w generalizing q with
  | nil =>
    constructor
    · intro h; cases h; rfl
    · intro h
      have : q = r := by simpa using h
      subst this; exact DFA.Run.nil q
  | cons a w ih =>
    rw [_root_.DFA.evalFrom_cons]
    have hstep : D.toMathlib.step (some q) a = D.delta.lookup (q, a) := rfl
    rw [hstep]
    constructor
    · intro h
      cases h with
      | cons hl hr => rw [hl]; exact (ih _).mp hr
    · intro h
      cases hl : D.delta.lookup (q, a) with
      | none => rw [hl, DFA.toMathlib_evalFrom_none] at h; cases h
      | some q' => rw [hl] at h; exact DFA.Run.cons hl ((ih _).mpr h)

/-- **Spec = Mathlib (DFA), unconditional.** -/
theorem dfa_accepts_iff_mathlib' (D : Gamba.DFA σ τ) (w : List τ) :
    D.Accepts w ↔ w ∈ D.toMathlib.accepts := by
  rw [_root_.DFA.mem_accepts]
  unfold DFA.Accepts _root_.DFA.eval
  constructor
  · rintro ⟨f, hf, hr⟩
    exact ⟨f, (D.run_iff_evalFrom _ _ _).mp hr, hf⟩
  · rintro ⟨f, he, hf⟩
    exact ⟨f, hf, (D.run_iff_evalFrom _ _ _).mpr he⟩

/-- The statement under the guard of property C01; the two hypotheses are not used (see the header comment). -/
theorem dfa_accepts_iff_mathlib (D : Gamba.DFA σ τ) (_hv : D.valid = true) (w : List τ)
    (_hw : ∀ a, a ∈ w → a ∈ D.Sigma) : D.Accepts w ↔ w ∈ D.toMathlib.accepts :=
  dfa_accepts_iff_mathlib' D w

/-- For a valid (total) DFA and a word over Σ the sink is never entered: Mathlib's evaluation
    stays inside `some '' Q`.  (On the intended domain the `Option` wrapper is inert.) -/
theorem DFA.toMathlib_evalFrom_valid (D : Gamba.DFA σ τ) (hv : D.valid = true) (w : List τ)
    (hw : ∀ a, a ∈ w → a ∈ D.Sigma) (q : σ) (hq : q ∈ D.Q) :
    ∃ r, r ∈ D.Q ∧ D.toMathlib.evalFrom (some q) w = some r :=
  ⟨D.runT q w, DFA.runT_mem hv hq hw, (D.run_iff_evalFrom q w _).mp (DFA.Run_runT hv hq hw)⟩

/-- even number of `1`s over {0,1} -/
def exDFA : Gamba.DFA Nat Nat :=
  { Q := [0, 1], Sigma := [0, 1],
    delta := [((0, 0), 0), ((0, 1), 1), ((1, 0), 1), ((1, 1), 0)], q0 := 0, F := [0] }

example : exDFA.valid = true := by decide +kernel
example : ∀ a, a ∈ [1, 0, 1] → a ∈ exDFA.Sigma := by decide +kernel

example : [1, 0, 1] ∈ exDFA.toMathlib.accepts :=
  (dfa_accepts_iff_mathlib exDFA (by decide +kernel) [1, 0, 1] (by decide +kernel)).mp
    ⟨0, by decide +kernel, .cons (q' := 1) rfl (.cons (q' := 1) rfl (.cons (q' := 0) rfl (.nil 0)))⟩

example : ¬ exDFA.Accepts [1, 0] := by
  rw [dfa_accepts_iff_mathlib', _root_.DFA.mem_accepts]
  rintro ⟨q, he, hq⟩
  have : (some 1 : Option Nat) = some q := he
  cases this
  revert hq; decide

/-- a symbol outside Σ / a missing δ entry: stuck in the spec, sink in Mathlib — still equivalent -/
example : ¬ exDFA.Accepts [7] := by
  rw [dfa_accepts_iff_mathlib', _root_.DFA.mem_accepts]
  rintro ⟨q, he, _⟩
  cases he

end Gamba

#print axioms Gamba.dfa_accepts_iff_mathlib'
#print axioms Gamba.dfa_accepts_iff_mathlib
#print axioms Gamba.DFA.toMathlib_evalFrom_valid
