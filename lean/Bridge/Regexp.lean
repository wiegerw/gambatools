/-
  Bridge.Regexp — the denotational specification `Gamba.Regexp.Lang` (Gamba/Spec/Regexp.lean)
  coincides with Mathlib's `RegularExpression.matches'` under the constructor-by-constructor
  translation.  No hypothesis, no discrepancy.
-/
import Mathlib.Computability.RegularExpressions
import Gamba.Proofs.C05

namespace Gamba
variable {τ : Type}

def Regexp.toMathlib : Gamba.Regexp τ → RegularExpression τ
  | .zero => 0
  | .one => 1
  | .sym a => RegularExpression.char a
  | .sum r s => r.toMathlib + s.toMathlib
  | .cat r s => r.toMathlib * s.toMathlib
  | .star r => RegularExpression.star r.toMathlib

/-- **Spec = Mathlib (regular expressions).** -/
theorem regexp_lang_iff_mathlib (r : Gamba.Regexp τ) (w : List τ) :
    r.Lang w ↔ w ∈ r.toMathlib.matches' := by
  induction r generalizing w with
  | zero => exact Regexp.lang_zero.trans (iff_false_intro (Language.notMem_zero w)).symm
  | one => exact Regexp.lang_one.trans (Language.mem_one w).symm
  | sym a => exact Regexp.lang_sym.trans Set.mem_singleton_iff.symm
  | sum r s ihr ihs =>
    rw [Regexp.lang_sum, ihr, ihs, Regexp.toMathlib, RegularExpression.matches'_add, Language.mem_add]
  | cat r s ihr ihs =>
    rw [Regexp.lang_cat, Regexp.toMathlib, RegularExpression.matches'_mul, Language.mem_mul]
    simp only [ihr, ihs]
    exact ⟨fun ⟨u, v, e, hu, hv⟩ => ⟨u, hu, v, hv, e.symm⟩, fun ⟨u, hu, v, hv, e⟩ => ⟨u, v, e.symm, hu, hv⟩⟩
  | star r ih =>
    -- both sides say: a concatenation of words of the operand
    rw [Regexp.lang_star_flatten, Regexp.toMathlib, RegularExpression.matches'_star, Language.mem_kstar]
    simp only [ih]

theorem regexp_lang_eq_mathlib (r : Gamba.Regexp τ) :
    ({w | r.Lang w} : Language τ) = r.toMathlib.matches' :=
  Language.ext fun w => regexp_lang_iff_mathlib r w

/-! ### concrete instance: `(ab)*a`-/
def exRe : Gamba.Regexp Nat := .cat (.star (.cat (.sym 0) (.sym 1))) (.sym 0)

example : [0, 1, 0] ∈ exRe.toMathlib.matches' :=
  (regexp_lang_iff_mathlib exRe [0, 1, 0]).mp
    (.cat (u := [0, 1]) (v := [0])
      (.starApp (u := [0, 1]) (v := []) (.cat (u := [0]) (v := [1]) (.sym 0) (.sym 1)) .starNil)
      (.sym 0))

example : ¬ (Gamba.Regexp.sym 0 : Gamba.Regexp Nat).Lang [1] := by
  rw [regexp_lang_iff_mathlib]
  change ¬ ([1] ∈ ({[0]} : Set (List Nat)))
  simp

end Gamba

#print axioms Gamba.regexp_lang_iff_mathlib
