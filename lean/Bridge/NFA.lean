/-
  Bridge.NFA — the acceptance specification `Gamba.NFA.Accepts` (Gamba/Spec/Automata.lean)
  coincides with Mathlib's `εNFA.accepts`.

  Two translations are given.

  * `NFA.toMathlib` (the plain one): `step q (some a) = succ q a`, `step q none = succ q eps`.
    FINDING.  In the Gamba model ε is an ordinary element `N.eps : τ` of the symbol type and the
    spec refuses to *read* it (`NFA.Run.sym` demands `a ≠ N.eps`), whereas this translation lets
    the Mathlib automaton read the letter `N.eps` along the ε-edges.  So the equivalence needs
    exactly the hypothesis `N.eps ∉ w` (`nfa_accepts_iff_mathlib'`); it is false without it
    (`nfa_bridge_counterexample` below).  `N.eps ∉ w` follows from `N.valid` (which contains
    `N.eps ∉ N.Sigma`) together with `w` being a word over `N.Sigma`; this gives the
    statement `nfa_accepts_iff_mathlib`.  Nothing else of validity is used: states/symbols outside
    `Q`/`Sigma` and missing δ entries are treated identically on both sides (missing = ∅).

  * `NFA.toMathlibG` (guarded): `step q (some a) = if a = N.eps then ∅ else succ q a`.
    With it the equivalence is unconditional (`nfa_accepts_iff_mathlibG`), which pins down the
    spec completely: `Gamba.NFA.Accepts` *is* the language of that εNFA.
-/
import Mathlib.Computability.EpsilonNFA
import Gamba.Proofs.NFABasic

namespace Gamba
variable {σ τ : Type} [DecidableEq σ] [DecidableEq τ]

def NFA.toMathlib (N : Gamba.NFA σ τ) : εNFA τ σ where
  step q o :=
    match o with
    | some a => {q' | q' ∈ N.succ q a}
    | none => {q' | q' ∈ N.succ q N.eps}
  start := {N.q0}
  accept := {q | q ∈ N.F}

/-- guarded translation: the letter `N.eps` itself can never be read -/
def NFA.toMathlibG (N : Gamba.NFA σ τ) : εNFA τ σ where
  step q o :=
    match o with
    | some a => {q' | a ≠ N.eps ∧ q' ∈ N.succ q a}
    | none => {q' | q' ∈ N.succ q N.eps}
  start := {N.q0}
  accept := {q | q ∈ N.F}

theorem NFA.run_to_path (N : Gamba.NFA σ τ) {q r : σ} {w : List τ} (h : N.Run q w r) :
    ∃ x' : List (Option τ), x'.reduceOption = w ∧ N.toMathlibG.IsPath q r x' := by
  induction h with
  | nil q => exact ⟨[], rfl, εNFA.IsPath.nil q⟩
  | eps hs _ ih =>
    obtain ⟨x', hx, hp⟩ := ih
    refine ⟨none :: x', by rw [List.reduceOption_cons_of_none, hx], εNFA.IsPath.cons _ _ _ _ _ ?_ hp⟩
    exact (N.mem_succ_iff _ _ _).mpr hs
  | @sym q q' r a w hne hs _ ih =>
    obtain ⟨x', hx, hp⟩ := ih
    refine ⟨some a :: x', by rw [List.reduceOption_cons_of_some, hx], εNFA.IsPath.cons _ _ _ _ _ ?_ hp⟩
    exact ⟨hne, (N.mem_succ_iff _ _ _).mpr hs⟩

theorem NFA.path_to_run (N : Gamba.NFA σ τ) {q r : σ} {x' : List (Option τ)}
    (h : N.toMathlibG.IsPath q r x') : N.Run q x'.reduceOption r := by
  induction h with
  | nil s => exact NFA.Run.nil s
  | cons t s u o x hstep _ ih =>
    cases o with
    | none =>
      rw [List.reduceOption_cons_of_none]
      exact NFA.Run.eps ((N.mem_succ_iff _ _ _).mp hstep) ih
    | some a =>
      rw [List.reduceOption_cons_of_some]
      exact NFA.Run.sym hstep.1 ((N.mem_succ_iff _ _ _).mp hstep.2) ih

/-- **Spec = Mathlib (ε-NFA), unconditional, guarded translation.** -/
theorem nfa_accepts_iff_mathlibG (N : Gamba.NFA σ τ) (w : List τ) :
    N.Accepts w ↔ w ∈ N.toMathlibG.accepts := by
  rw [εNFA.mem_accepts_iff_exists_path]
  constructor
  · rintro ⟨f, hf, hr⟩
    obtain ⟨x', hx, hp⟩ := N.run_to_path hr
    exact ⟨N.q0, f, x', rfl, hf, hx, hp⟩
  · rintro ⟨s₁, s₂, x', hs₁, hs₂, rfl, hp⟩
    have : s₁ = N.q0 := hs₁
    subst this
    exact ⟨s₂, hs₂, N.path_to_run hp⟩

theorem NFA.isPath_toMathlib_iff (N : Gamba.NFA σ τ) {q r : σ} {x' : List (Option τ)}
    (hx : N.eps ∉ x'.reduceOption) : N.toMathlib.IsPath q r x' ↔ N.toMathlibG.IsPath q r x' := by
  induction x' generalizing q with
  | nil => simp
  | cons o x ih =>
    cases o with
    | none =>
      rw [List.reduceOption_cons_of_none] at hx
      constructor
      · rintro (_ | ⟨t, _, _, _, _, hs, hp⟩)
        exact εNFA.IsPath.cons t _ _ _ _ hs ((ih hx).mp hp)
      · rintro (_ | ⟨t, _, _, _, _, hs, hp⟩)
        exact εNFA.IsPath.cons t _ _ _ _ hs ((ih hx).mpr hp)
    | some a =>
      rw [List.reduceOption_cons_of_some] at hx
      have hne : a ≠ N.eps := fun h => hx (by simp [h])
      have hx' : N.eps ∉ x.reduceOption := fun h => hx (by simp [h])
      constructor
      · rintro (_ | ⟨t, _, _, _, _, hs, hp⟩)
        exact εNFA.IsPath.cons t _ _ _ _ ⟨hne, hs⟩ ((ih hx').mp hp)
      · rintro (_ | ⟨t, _, _, _, _, hs, hp⟩)
        exact εNFA.IsPath.cons t _ _ _ _ hs.2 ((ih hx').mpr hp)

/-- **Spec = Mathlib (ε-NFA), plain translation; strongest form:** the only hypothesis is
    that the word does not contain the letter that the model uses to denote ε. -/
theorem nfa_accepts_iff_mathlib' (N : Gamba.NFA σ τ) (w : List τ) (heps : N.eps ∉ w) :
    N.Accepts w ↔ w ∈ N.toMathlib.accepts := by
  rw [nfa_accepts_iff_mathlibG, εNFA.mem_accepts_iff_exists_path, εNFA.mem_accepts_iff_exists_path]
  constructor
  · rintro ⟨s₁, s₂, x', hs₁, hs₂, rfl, hp⟩
    exact ⟨s₁, s₂, x', hs₁, hs₂, rfl, (N.isPath_toMathlib_iff heps).mpr hp⟩
  · rintro ⟨s₁, s₂, x', hs₁, hs₂, rfl, hp⟩
    exact ⟨s₁, s₂, x', hs₁, hs₂, rfl, (N.isPath_toMathlib_iff heps).mp hp⟩

/-- The statement under the guard of property C01.  `hv` is used only for `N.eps ∉ N.Sigma`. -/
theorem nfa_accepts_iff_mathlib (N : Gamba.NFA σ τ) (hv : N.valid = true) (w : List τ)
    (hw : ∀ a, a ∈ w → a ∈ N.Sigma) : N.Accepts w ↔ w ∈ N.toMathlib.accepts :=
  nfa_accepts_iff_mathlib' N w fun h => NFA.valid_eps hv (hw _ h)

/-- the spec's ε-reachability is Mathlib's `εClosure` (for either translation) -/
theorem nfa_epsReach_iff_mathlib (N : Gamba.NFA σ τ) (S : List σ) (q : σ) :
    N.EpsReach S q ↔ q ∈ N.toMathlib.εClosure {s | s ∈ S} := by
  constructor
  · intro h
    induction h with
    | base hq => exact εNFA.εClosure.base _ hq
    | step _ hs ih => exact εNFA.εClosure.step _ _ ((N.mem_succ_iff _ _ _).mpr hs) ih
  · intro h
    induction h with
    | base s hs => exact NFA.EpsReach.base hs
    | step s t ht _ ih => exact NFA.EpsReach.step ih ((N.mem_succ_iff _ _ _).mp ht)

/-! ### the hypothesis `N.eps ∉ w` cannot be dropped for `toMathlib` -/

/-- one ε-edge 0 → 1, accepting state 1; ε is denoted by the letter 9 -/
def cexNFA : Gamba.NFA Nat Nat :=
  { Q := [0, 1], Sigma := [5], delta := [((0, 9), [1])], q0 := 0, F := [1], eps := 9 }

/-- `cexNFA` is valid, the spec rejects the one-letter word `[ε]`, but the unguarded Mathlib
    translation accepts it by reading the letter along the ε-edge. -/
theorem nfa_bridge_counterexample :
    cexNFA.valid = true ∧ ¬ cexNFA.Accepts [9] ∧ [9] ∈ cexNFA.toMathlib.accepts := by
  refine ⟨by decide, ?_, ?_⟩
  · exact fun ⟨_, _, hr⟩ => hr.eps_not_mem (List.mem_singleton.mpr rfl)
  · rw [εNFA.mem_accepts_iff_exists_path]
    refine ⟨0, 1, [some 9], rfl, (by decide : 1 ∈ cexNFA.F), rfl, ?_⟩
    refine εNFA.IsPath.cons 1 0 1 (some 9) [] ?_ (εNFA.IsPath.nil 1)
    show 1 ∈ cexNFA.succ 0 9
    decide

/-- `a* b` with an ε-move: 0 --a--> 0, 0 --ε--> 1, 1 --b--> 2; a = 0, b = 1, ε = 9 -/
def exNFA : Gamba.NFA Nat Nat :=
  { Q := [0, 1, 2], Sigma := [0, 1],
    delta := [((0, 0), [0]), ((0, 9), [1]), ((1, 1), [2])], q0 := 0, F := [2], eps := 9 }

example : exNFA.valid = true := by decide +kernel

example : [0, 1] ∈ exNFA.toMathlib.accepts :=
  (nfa_accepts_iff_mathlib exNFA (by decide +kernel) [0, 1] (by decide +kernel)).mp
    ⟨2, by decide +kernel,
      .sym (q' := 0) (by decide +kernel) ⟨[0], by decide +kernel, by decide +kernel⟩
        (.eps (q' := 1) ⟨[1], by decide +kernel, by decide +kernel⟩
          (.sym (q' := 2) (by decide +kernel) ⟨[2], by decide +kernel, by decide +kernel⟩ (.nil 2)))⟩

end Gamba

#print axioms Gamba.nfa_accepts_iff_mathlibG
#print axioms Gamba.nfa_accepts_iff_mathlib'
#print axioms Gamba.nfa_accepts_iff_mathlib
#print axioms Gamba.nfa_epsReach_iff_mathlib
#print axioms Gamba.nfa_bridge_counterexample
