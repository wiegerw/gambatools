/-
  Bridge.PDA — Mathlib has no pushdown automata, but it has context-free languages.  The proved PDA → CFG conversion
  (`pda_toCfg_lang`, Sipser Lemma 2.27 for the model) composed with `cfg_lang_iff_mathlib` ties our PDA acceptance spec to
  Mathlib's `ContextFreeGrammar.language`: the words a PDA accepts (spec `PDA.Accepts`) are exactly the Mathlib language of the
  grammar the library computes from it.  In particular every language accepted by such a PDA is context-free in Mathlib's sense.
-/
import Gamba.Props.C10c
import Bridge.CFG
namespace Gamba

theorem pda_accepts_iff_mathlib_cfg (P : SPDA) (hv : P.valid = true) (hk : (P.delta.map (·.1)).Nodup) (heq : P.epsG = P.eps)
    (hε : freshSymbol P.Gamma ≠ .ok P.epsG) (hd : P.epsG ≠ "∅") (hnames : ∀ q, q ∈ P.Q → '\'' ∉ q.toList)
    (G : CFG) (h : P.toCfg = .ok G) (w : List String) :
    P.Accepts w ↔ w ∈ G.toMathlib.language :=
  ((pda_toCfg_lang P hv hk heq hε hd hnames G h w).symm).trans (cfg_lang_iff_mathlib G w)

theorem pda_language_isContextFree (P : SPDA) (hv : P.valid = true) (hk : (P.delta.map (·.1)).Nodup) (heq : P.epsG = P.eps)
    (hε : freshSymbol P.Gamma ≠ .ok P.epsG) (hd : P.epsG ≠ "∅") (hnames : ∀ q, q ∈ P.Q → '\'' ∉ q.toList)
    (G : CFG) (h : P.toCfg = .ok G) :
    Language.IsContextFree ({w | P.Accepts w} : Language String) :=
  ⟨G.toMathlib, by
    ext w
    exact (pda_accepts_iff_mathlib_cfg P hv hk heq hε hd hnames G h w).symm⟩

#print axioms pda_accepts_iff_mathlib_cfg
#print axioms pda_language_isContextFree
end Gamba
