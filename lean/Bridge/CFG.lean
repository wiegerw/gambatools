/-
  Bridge.CFG — the specification `Gamba.CFG.Lang` (Gamba/Spec/CFG.lean) coincides with Mathlib's
  `ContextFreeGrammar.language`.

  The Gamba spec is *big-step* (`Gen form w`: a sentential form generates a terminal word, i.e.
  a parse forest), whereas Mathlib's definition is *small-step* (`Derives` = reflexive-transitive
  closure of `Produces`).  The bridge therefore also proves that the two styles agree.
  In addition the spec's one-step relation `Gamba.CFG.Step` is shown to be exactly Mathlib's
  `Produces`, hence `Step*` = `Derives`.

  No hypothesis is needed: terminals and variables are told apart by the `Sym` constructor on the
  Gamba side and by the `Symbol` constructor on the Mathlib side; `G.V`, `G.Sigma` and the `aid`
  field of rules play no role in either semantics; duplicate rules are irrelevant (Mathlib keeps
  the rules in a `Finset`, Gamba in a list, and `HasRule` is membership).
-/
import Mathlib.Computability.ContextFreeGrammar
import Gamba.Proofs.CFGBasic

namespace Gamba

def Sym.toMathlib : Sym → Symbol String String
  | .t a => .terminal a
  | .v A => .nonterminal A

def Sym.ofMathlib : Symbol String String → Sym
  | .terminal a => .t a
  | .nonterminal A => .v A

@[simp] theorem Sym.ofMathlib_toMathlib (x : Sym) : Sym.ofMathlib x.toMathlib = x := by
  cases x <;> rfl

@[simp] theorem Sym.toMathlib_ofMathlib (x : Symbol String String) : (Sym.ofMathlib x).toMathlib = x := by
  cases x <;> rfl

theorem Sym.map_of_map_to (f : List Sym) : (f.map Sym.toMathlib).map Sym.ofMathlib = f := by
  induction f with
  | nil => rfl
  | cons x f ih => simp [ih]

theorem Sym.map_to_map_of (f : List (Symbol String String)) :
    (f.map Sym.ofMathlib).map Sym.toMathlib = f := by
  induction f with
  | nil => rfl
  | cons x f ih => simp [ih]

namespace CFG

def ruleToMathlib (r : CRule) : ContextFreeRule String String :=
  ⟨r.lhs, r.rhs.map Sym.toMathlib⟩

@[reducible] def toMathlib (G : CFG) : ContextFreeGrammar String where
  NT := String
  initial := G.S
  rules := (G.R.map ruleToMathlib).toFinset

theorem mem_rules_iff (G : CFG) (r : ContextFreeRule String String) :
    r ∈ G.toMathlib.rules ↔ ∃ A rhs, G.HasRule A rhs ∧ r = ⟨A, rhs.map Sym.toMathlib⟩ := by
  unfold toMathlib HasRule
  simp only [List.mem_toFinset, List.mem_map]
  constructor
  · rintro ⟨cr, hcr, rfl⟩; exact ⟨cr.lhs, cr.rhs, ⟨cr, hcr, rfl, rfl⟩, rfl⟩
  · rintro ⟨A, rhs, ⟨cr, hcr, rfl, rfl⟩, rfl⟩; exact ⟨cr, hcr, rfl⟩

theorem produces_of_hasRule (G : CFG) {A : String} {rhs : List Sym} (hr : G.HasRule A rhs)
    (p q : List (Symbol String String)) :
    G.toMathlib.Produces (p ++ [Symbol.nonterminal A] ++ q) (p ++ rhs.map Sym.toMathlib ++ q) :=
  ⟨⟨A, rhs.map Sym.toMathlib⟩, (G.mem_rules_iff _).mpr ⟨A, rhs, hr, rfl⟩,
    ContextFreeRule.rewrites_of_exists_parts _ p q⟩

theorem produces_iff (G : CFG) (x y : List (Symbol String String)) :
    G.toMathlib.Produces x y ↔ ∃ A rhs p q, G.HasRule A rhs ∧
      x = p ++ [Symbol.nonterminal A] ++ q ∧ y = p ++ rhs.map Sym.toMathlib ++ q := by
  constructor
  · rintro ⟨r, hr, hrw⟩
    obtain ⟨A, rhs, hh, rfl⟩ := (G.mem_rules_iff r).mp hr
    obtain ⟨p, q, hx, hy⟩ := ContextFreeRule.rewrites_iff.mp hrw
    exact ⟨A, rhs, p, q, hh, hx, hy⟩
  · rintro ⟨A, rhs, p, q, hh, rfl, rfl⟩
    exact G.produces_of_hasRule hh p q

theorem step_iff_produces (G : CFG) (f g : List Sym) :
    G.Step f g ↔ G.toMathlib.Produces (f.map Sym.toMathlib) (g.map Sym.toMathlib) := by
  rw [produces_iff]
  constructor
  · rintro ⟨hr⟩
    rename_i A rhs pre post
    exact ⟨A, rhs, pre.map Sym.toMathlib, post.map Sym.toMathlib, hr, by simp [Sym.toMathlib],
      by simp⟩
  · rintro ⟨A, rhs, p, q, hr, hx, hy⟩
    have hf : f = p.map Sym.ofMathlib ++ Sym.v A :: q.map Sym.ofMathlib := by
      have := congrArg (List.map Sym.ofMathlib) hx
      rw [Sym.map_of_map_to] at this
      simpa [Sym.ofMathlib] using this
    have hg : g = p.map Sym.ofMathlib ++ rhs ++ q.map Sym.ofMathlib := by
      have := congrArg (List.map Sym.ofMathlib) hy
      rw [Sym.map_of_map_to, List.map_append, List.map_append, Sym.map_of_map_to] at this
      exact this
    rw [hf, hg]
    exact Step.mk hr

theorem steps_iff_derives (G : CFG) (f g : List Sym) :
    Relation.ReflTransGen G.Step f g ↔
      G.toMathlib.Derives (f.map Sym.toMathlib) (g.map Sym.toMathlib) := by
  constructor
  · intro h
    induction h with
    | refl => exact ContextFreeGrammar.Derives.refl _
    | tail _ hs ih => exact ih.trans_produces ((G.step_iff_produces _ _).mp hs)
  · intro h
    have key : ∀ {x y : List (Symbol String String)}, G.toMathlib.Derives x y →
        Relation.ReflTransGen G.Step (x.map Sym.ofMathlib) (y.map Sym.ofMathlib) := by
      intro x y hxy
      induction hxy with
      | refl => exact Relation.ReflTransGen.refl
      | tail _ hp ih =>
        refine Relation.ReflTransGen.tail ih ((G.step_iff_produces _ _).mpr ?_)
        rw [Sym.map_to_map_of, Sym.map_to_map_of]; exact hp
    have := key h
    rwa [Sym.map_of_map_to, Sym.map_of_map_to] at this

theorem gen_to_derives (G : CFG) {f : List Sym} {w : List String} (h : G.Gen f w) :
    G.toMathlib.Derives (f.map Sym.toMathlib) (w.map Symbol.terminal) := by
  induction h with
  | nil => exact ContextFreeGrammar.Derives.refl _
  | @t a ss w _ ih =>
    exact ContextFreeGrammar.Derives.append_left ih [Symbol.terminal a]
  | @v A rhs ss u w hr _ _ ih1 ih2 =>
    have h0 : G.toMathlib.Produces ([] ++ [Symbol.nonterminal A] ++ ss.map Sym.toMathlib)
        ([] ++ rhs.map Sym.toMathlib ++ ss.map Sym.toMathlib) := G.produces_of_hasRule hr [] _
    have h1 := ContextFreeGrammar.Derives.append_right ih1 (ss.map Sym.toMathlib)
    have h2 := ContextFreeGrammar.Derives.append_left ih2 (u.map Symbol.terminal)
    have h3 := (ContextFreeGrammar.Produces.single h0).trans (h1.trans h2)
    simpa [Sym.toMathlib] using h3

theorem derives_to_gen (G : CFG) {x : List (Symbol String String)} {w : List String}
    (h : G.toMathlib.Derives x (w.map Symbol.terminal)) : G.Gen (x.map Sym.ofMathlib) w := by
  induction h using Relation.ReflTransGen.head_induction_on with
  | refl =>
    rw [List.map_map]
    exact gen_map_t w
  | head hp _ ih =>
    obtain ⟨A, rhs, p, q, hr, rfl, rfl⟩ := (G.produces_iff _ _).mp hp
    simp only [List.map_append, Sym.map_of_map_to] at ih
    simp only [List.map_append, List.map_cons, Sym.ofMathlib, List.append_assoc,
      List.cons_append, List.nil_append]
    exact gen_of_step (.mk hr) ih

theorem gen_iff_derives (G : CFG) (f : List Sym) (w : List String) :
    G.Gen f w ↔ G.toMathlib.Derives (f.map Sym.toMathlib) (w.map Symbol.terminal) := by
  constructor
  · exact G.gen_to_derives
  · intro h
    have := G.derives_to_gen h
    rwa [Sym.map_of_map_to] at this

end CFG

/-- **Spec = Mathlib (context-free grammars).** -/
theorem cfg_lang_iff_mathlib (G : Gamba.CFG) (w : List String) :
    G.Lang w ↔ w ∈ G.toMathlib.language := by
  rw [ContextFreeGrammar.mem_language_iff]
  exact G.gen_iff_derives [.v G.S] w

/-! ### concrete instance: S → a S b | ε -/
def exCFG : Gamba.CFG :=
  { V := ["S"], Sigma := ["a", "b"], S := "S",
    R := [⟨"S", 0, [.t "a", .v "S", .t "b"]⟩, ⟨"S", 1, []⟩] }

example : ["a", "a", "b", "b"] ∈ exCFG.toMathlib.language := by
  rw [← cfg_lang_iff_mathlib]
  have r1 : exCFG.HasRule "S" [.t "a", .v "S", .t "b"] :=
    ⟨⟨"S", 0, [.t "a", .v "S", .t "b"]⟩, by decide +kernel, by decide +kernel, by decide +kernel⟩
  have r2 : exCFG.HasRule "S" [] := ⟨⟨"S", 1, []⟩, by decide +kernel, by decide +kernel, by decide +kernel⟩
  have g0 : exCFG.Gen [.v "S"] [] := .v (u := []) (w := []) r2 .nil .nil
  have g1 : exCFG.Gen [.v "S"] ["a", "b"] :=
    .v (u := ["a", "b"]) (w := []) r1 (.t (CFG.gen_append g0 (.t .nil))) .nil
  exact .v (u := ["a", "a", "b", "b"]) (w := []) r1 (.t (CFG.gen_append g1 (.t .nil))) .nil

end Gamba

#print axioms Gamba.cfg_lang_iff_mathlib
#print axioms Gamba.CFG.gen_iff_derives
#print axioms Gamba.CFG.step_iff_produces
#print axioms Gamba.CFG.steps_iff_derives
