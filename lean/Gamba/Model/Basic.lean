/-
  Gamba.Model.Basic — common conventions of every model (DESIGN.md §3).

  * Python `set`  → `List` read extensionally (`∀ x, x ∈ l ↔ …`).
  * Python `dict` → association list, `lookup` = first match.
  * Python exceptions → `Except Err α`.
  * `while` loops → recursion on a `fuel : Nat`; `Err.fuel` when exhausted.
  * `set.pop()` / iteration orders that can influence control flow → explicit
    scheduler oracle `Sched` (a list of indices); theorems quantify `∀ sched`.
  No imports: core Lean only.
-/
namespace Gamba

inductive Err where
  | keyError | assertion | runtimeError | valueError | fuel | stopIteration
  deriving DecidableEq, Repr, Inhabited

def Err.toString : Err → String
  | .keyError => "keyError" | .assertion => "assertion" | .runtimeError => "runtimeError"
  | .valueError => "valueError" | .fuel => "fuel" | .stopIteration => "stopIteration"

abbrev Dict (κ ν : Type) := List (κ × ν)

section Dict
variable {κ ν : Type} [DecidableEq κ]

/-- `d[k]` on a plain dict: `KeyError` when absent. -/
def Dict.get (d : Dict κ ν) (k : κ) : Except Err ν :=
  match d.lookup k with
  | some v => .ok v
  | none => .error .keyError

/-- `k in d`. -/
def Dict.has (d : Dict κ ν) (k : κ) : Bool := (d.lookup k).isSome

/-- `d[k] = v` (replace the first binding, or append a new one: insertion order kept). -/
def Dict.set : Dict κ ν → κ → ν → Dict κ ν
  | [], k, v => [(k, v)]
  | (k', v') :: d, k, v => if k' = k then (k, v) :: d else (k', v') :: Dict.set d k v

def Dict.keys (d : Dict κ ν) : List κ := d.map (·.1)
end Dict

section SetList
variable {α : Type} [DecidableEq α]

/-- `S.add(x)` / `S | {x}`. -/
def sinsert (l : List α) (x : α) : List α := if x ∈ l then l else l ++ [x]

/-- `A | B`. -/
def sunion (a b : List α) : List α := a ++ b.filter (fun x => x ∉ a)

/-- `A - B`. -/
def sdiff (a b : List α) : List α := a.filter (fun x => x ∉ b)

/-- `A & B`. -/
def sinter (a b : List α) : List α := a.filter (fun x => x ∈ b)

/-- `A.isdisjoint(B)`. -/
def sdisjoint (a b : List α) : Bool := a.all (fun x => x ∉ b)

/-- `A <= B`. -/
def ssubset (a b : List α) : Bool := a.all (fun x => x ∈ b)

/-- `A == B` for sets. -/
def seq (a b : List α) : Bool := ssubset a b && ssubset b a

/-- `set(l)`: duplicates removed, first occurrences kept. -/
def dedup : List α → List α
  | [] => []
  | x :: l => let r := dedup l; if x ∈ r then r else x :: r

/-- `set().union(*ls)`. -/
def sunions (ls : List (List α)) : List α := ls.foldl sunion []

@[simp] theorem mem_sinsert {l : List α} {x y : α} : y ∈ sinsert l x ↔ y ∈ l ∨ y = x := by
  unfold sinsert; split <;> simp_all

@[simp] theorem mem_sunion {a b : List α} {x : α} : x ∈ sunion a b ↔ x ∈ a ∨ x ∈ b := by
  unfold sunion; simp only [List.mem_append, List.mem_filter, decide_eq_true_eq]
  constructor
  · rintro (h | ⟨h, _⟩) <;> simp [h]
  · rintro (h | h)
    · exact Or.inl h
    · by_cases ha : x ∈ a
      · exact Or.inl ha
      · exact Or.inr ⟨h, ha⟩

@[simp] theorem mem_sdiff {a b : List α} {x : α} : x ∈ sdiff a b ↔ x ∈ a ∧ x ∉ b := by
  simp [sdiff]

@[simp] theorem mem_sinter {a b : List α} {x : α} : x ∈ sinter a b ↔ x ∈ a ∧ x ∈ b := by
  simp [sinter]

theorem sdisjoint_iff {a b : List α} : sdisjoint a b = true ↔ ∀ x, x ∈ a → x ∉ b := by
  simp [sdisjoint]

theorem sdisjoint_false_iff {a b : List α} : sdisjoint a b = false ↔ ∃ x, x ∈ a ∧ x ∈ b := by
  rw [← Bool.not_eq_true, sdisjoint_iff]
  constructor
  · intro h
    apply Classical.byContradiction
    intro hn
    apply h
    intro x hx hb
    exact hn ⟨x, hx, hb⟩
  · rintro ⟨x, hx, hb⟩ h
    exact h x hx hb

theorem ssubset_iff {a b : List α} : ssubset a b = true ↔ ∀ x, x ∈ a → x ∈ b := by
  simp [ssubset]

theorem seq_iff {a b : List α} : seq a b = true ↔ ∀ x, x ∈ a ↔ x ∈ b := by
  simp only [seq, Bool.and_eq_true, ssubset_iff]
  constructor
  · rintro ⟨h1, h2⟩ x; exact ⟨h1 x, h2 x⟩
  · intro h; exact ⟨fun x => (h x).1, fun x => (h x).2⟩

@[simp] theorem mem_dedup {l : List α} {x : α} : x ∈ dedup l ↔ x ∈ l := by
  induction l with
  | nil => simp [dedup]
  | cons y l ih =>
    simp only [dedup]
    split
    · rename_i h
      simp only [List.mem_cons, ih]
      constructor
      · exact Or.inr
      · rintro (h' | h')
        · subst h'; exact ih.mp h
        · exact h'
    · simp [ih]

theorem nodup_dedup (l : List α) : (dedup l).Nodup := by
  induction l with
  | nil => simp [dedup]
  | cons y l ih =>
    simp only [dedup]
    split
    · exact ih
    · rename_i h; exact List.nodup_cons.mpr ⟨h, ih⟩

/-- a `foldl` whose step only ever adds `P b` to what the observation `M` shows of the accumulator -/
theorem foldl_obs {σ α β : Type} (M : σ → α → Prop) (step : σ → β → σ) (P : β → α → Prop)
    (hstep : ∀ acc b x, M (step acc b) x ↔ M acc x ∨ P b x) (l : List β) (acc : σ) (x : α) :
    M (l.foldl step acc) x ↔ M acc x ∨ ∃ b, b ∈ l ∧ P b x := by
  induction l generalizing acc with
  | nil => simp
  | cons b l ih =>
    rw [List.foldl_cons, ih, hstep]
    constructor
    · rintro ((h | h) | ⟨b', hb', h⟩)
      · exact Or.inl h
      · exact Or.inr ⟨b, List.mem_cons_self .., h⟩
      · exact Or.inr ⟨b', List.mem_cons_of_mem _ hb', h⟩
    · rintro (h | ⟨b', hb', h⟩)
      · exact Or.inl (Or.inl h)
      · rcases List.mem_cons.mp hb' with rfl | hb'
        · exact Or.inl (Or.inr h)
        · exact Or.inr ⟨b', hb', h⟩

/-- … with membership as the observation -/
theorem mem_foldl_acc {α β : Type} (step : List α → β → List α) (P : β → α → Prop)
    (hstep : ∀ acc b x, x ∈ step acc b ↔ x ∈ acc ∨ P b x) (l : List β) (acc : List α) (x : α) :
    x ∈ l.foldl step acc ↔ x ∈ acc ∨ ∃ b, b ∈ l ∧ P b x :=
  foldl_obs (fun acc x => x ∈ acc) step P hstep l acc x

@[simp] theorem mem_sunions {ls : List (List α)} {x : α} :
    x ∈ sunions ls ↔ ∃ l, l ∈ ls ∧ x ∈ l := by
  rw [sunions, mem_foldl_acc sunion (fun l x => x ∈ l) (fun _ _ _ => mem_sunion)]
  exact or_iff_right List.not_mem_nil

end SetList

/-! ### Scheduler oracle -/

/-- A scheduler is a stream of indices; when it runs out index 0 is used. -/
abbrev Sched := List Nat

def Sched.next : Sched → Nat × Sched
  | [] => (0, [])
  | i :: s => (i, s)

/-- Remove the element at index `i % length` (models `set.pop()` / `next(iter(S))`). -/
def pickAt {α : Type} : (l : List α) → Nat → Option (α × List α)
  | [], _ => none
  | x :: l, i =>
    let k := i % (l.length + 1)
    some ((x :: l).getD k x, (x :: l).eraseIdx k)

/-- An arbitrary permutation of `l`, driven by the scheduler. -/
def shuffle {α : Type} : Nat → Sched → List α → List α × Sched
  | 0, s, l => (l, s)
  | n + 1, s, l =>
    let (i, s') := s.next
    match pickAt l i with
    | none => ([], s')
    | some (x, rest) => let (r, s'') := shuffle n s' rest; (x :: r, s'')

/-- `pickAt` takes one occurrence out of the list -/
theorem pickAt_eq_some {α : Type} {l : List α} {i : Nat} {x : α} {rest : List α}
    (h : pickAt l i = some (x, rest)) : ∃ pre post, l = pre ++ x :: post ∧ rest = pre ++ post := by
  cases l with
  | nil => cases h
  | cons z l =>
    simp only [pickAt, Option.some.injEq, Prod.mk.injEq] at h
    obtain ⟨rfl, rfl⟩ := h
    have hk : i % (l.length + 1) < (z :: l).length := Nat.mod_lt _ (Nat.succ_pos _)
    refine ⟨(z :: l).take (i % (l.length + 1)), (z :: l).drop (i % (l.length + 1) + 1), ?_,
      List.eraseIdx_eq_take_drop_succ ..⟩
    rw [List.getD_eq_getElem?_getD, List.getElem?_eq_getElem hk, Option.getD_some, List.getElem_cons_drop,
      List.take_append_drop]

theorem pickAt_mem {α : Type} {l : List α} {i : Nat} {x : α} {rest : List α}
    (h : pickAt l i = some (x, rest)) : x ∈ l := by
  obtain ⟨pre, post, rfl, _⟩ := pickAt_eq_some h
  exact List.mem_append_right _ List.mem_cons_self

theorem pickAt_mem_iff {α : Type} {l : List α} {i : Nat} {x : α} {rest : List α}
    (h : pickAt l i = some (x, rest)) (y : α) : y ∈ l ↔ y = x ∨ y ∈ rest := by
  obtain ⟨pre, post, rfl, rfl⟩ := pickAt_eq_some h
  simp only [List.mem_append, List.mem_cons]
  exact or_left_comm

theorem pickAt_length {α : Type} {l : List α} {i : Nat} {x : α} {rest : List α}
    (h : pickAt l i = some (x, rest)) : rest.length + 1 = l.length := by
  obtain ⟨pre, post, rfl, rfl⟩ := pickAt_eq_some h
  simp only [List.length_append, List.length_cons]
  omega

theorem pickAt_isSome {α : Type} {l : List α} (i : Nat) (h : l ≠ []) : (pickAt l i).isSome := by
  cases l with
  | nil => exact absurd rfl h
  | cons z l => simp [pickAt]

/-- All words over `Sigma` of length exactly `n` (`itertools.product(Sigma, repeat=n)`). -/
def wordsOfLength {τ : Type} (Sigma : List τ) : Nat → List (List τ)
  | 0 => [[]]
  | n + 1 => (wordsOfLength Sigma n).flatMap (fun w => Sigma.map (fun a => w ++ [a]))

/-- All words over `Sigma` of length at most `n`. -/
def wordsUpTo {τ : Type} (Sigma : List τ) (n : Nat) : List (List τ) :=
  (List.range (n + 1)).flatMap (wordsOfLength Sigma)

end Gamba
