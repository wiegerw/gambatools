/-
  Gamba.Proofs.NFABasic — base layer for everything about NFAs (the counterpart of `Gamba.Proofs.DFABasic`):
  `NFA.valid` unpacked, the transition relation `NFA.Succ` against the executable `NFA.succ`, the run relation
  `NFA.Run` (composition, splitting, ε-reachability, sub-automata), `NFA.Reached` (what a set-based device holds after
  reading a word) and `NFA.Accepts`.  Nothing about the algorithms: those start in `Gamba.Proofs.C01`.
-/
import Gamba.Model.NFA
import Gamba.Spec.Automata
import Gamba.Proofs.Dict
import Gamba.Proofs.ExceptBasic
import Gamba.Proofs.ListFacts
import Gamba.Proofs.Saturate
namespace Gamba

variable {σ τ : Type} [DecidableEq σ] [DecidableEq τ]

theorem NFA.deltaClosed_iff (Q : List σ) (Sigma : List τ) (eps : τ) (delta : Dict (σ × τ) (List σ)) :
    delta.all (fun e => decide (e.1.1 ∈ Q) && (decide (e.1.2 ∈ Sigma) || decide (e.1.2 = eps)) &&
        ssubset e.2 Q) = true ↔
      ∀ q a T, ((q, a), T) ∈ delta → q ∈ Q ∧ (a ∈ Sigma ∨ a = eps) ∧ ∀ x, x ∈ T → x ∈ Q := by
  simp only [List.all_eq_true, Bool.and_eq_true, Bool.or_eq_true, decide_eq_true_eq, ssubset_iff, Prod.forall,
    and_assoc]

theorem NFA.valid_iff (N : NFA σ τ) :
    N.valid = true ↔
      N.q0 ∈ N.Q ∧ (∀ f, f ∈ N.F → f ∈ N.Q) ∧ N.eps ∉ N.Sigma ∧
      (∀ q a T, ((q, a), T) ∈ N.delta → q ∈ N.Q ∧ (a ∈ N.Sigma ∨ a = N.eps) ∧ ∀ x, x ∈ T → x ∈ N.Q) := by
  simp only [NFA.valid, Bool.and_eq_true, NFA.deltaClosed_iff, ssubset_iff, decide_eq_true_eq, and_assoc]

/-- the validity assertion of the `NFA` constructor -/
theorem NFA.checked_eq_ok_iff {N N' : NFA σ τ} : N.checked = .ok N' ↔ N.valid = true ∧ N' = N :=
  Except.ite_eq_ok_error.trans (and_congr_right' ⟨fun h => (Except.ok.inj h).symm, fun h => h ▸ rfl⟩)

theorem NFA.checked_ok {X D : NFA σ τ} (h : NFA.checked X = .ok D) :
    D = X ∧ X.valid = true :=
  (NFA.checked_eq_ok_iff.mp h).symm

theorem NFA.checked_of_valid {X : NFA σ τ} (h : X.valid = true) :
    NFA.checked X = .ok X := NFA.checked_eq_ok_iff.mpr ⟨h, rfl⟩

theorem NFA.valid_q0 {N : NFA σ τ} (hv : N.valid = true) : N.q0 ∈ N.Q := ((NFA.valid_iff N).mp hv).1

theorem NFA.valid_eps {N : NFA σ τ} (hv : N.valid = true) : N.eps ∉ N.Sigma := ((NFA.valid_iff N).mp hv).2.2.1

theorem NFA.valid_ne_eps {N : NFA σ τ} (hv : N.valid = true) {a : τ} (ha : a ∈ N.Sigma) : a ≠ N.eps :=
  fun e => NFA.valid_eps hv (e ▸ ha)

theorem NFA.valid_F {N : NFA σ τ} (h : N.valid = true) {f : σ} (hf : f ∈ N.F) : f ∈ N.Q :=
  ((NFA.valid_iff N).mp h).2.1 f hf

theorem NFA.valid_closed {N : NFA σ τ} (h : N.valid = true) {q : σ} {a : τ} {T : List σ}
    (he : ((q, a), T) ∈ N.delta) : q ∈ N.Q ∧ (a ∈ N.Sigma ∨ a = N.eps) ∧ ∀ x, x ∈ T → x ∈ N.Q :=
  ((NFA.valid_iff N).mp h).2.2.2 q a T he

theorem NFA.valid_Succ_all {N : NFA σ τ} (h : N.valid = true) {q q' : σ} {a : τ}
    (hs : N.Succ q a q') : q ∈ N.Q ∧ (a ∈ N.Sigma ∨ a = N.eps) ∧ q' ∈ N.Q := by
  obtain ⟨T, hl, hm⟩ := hs
  obtain ⟨h1, h2, h3⟩ := NFA.valid_closed h (Dict.mem_of_lookup hl)
  exact ⟨h1, h2, h3 q' hm⟩

theorem NFA.valid_Succ_src {N : NFA σ τ} (h : N.valid = true) {q q' : σ} {a : τ}
    (hs : N.Succ q a q') : q ∈ N.Q := (NFA.valid_Succ_all h hs).1

/-- the target of a transition is declared (`valid_Succ_src`: the source; `valid_Succ_all`: all three) -/
theorem NFA.valid_Succ {N : NFA σ τ} (hv : N.valid = true) {q q' : σ} {a : τ}
    (h : N.Succ q a q') : q' ∈ N.Q := (NFA.valid_Succ_all hv h).2.2

theorem NFA.mem_succ_iff (N : NFA σ τ) (q : σ) (a : τ) (q' : σ) :
    q' ∈ N.succ q a ↔ N.Succ q a q' :=
  mem_getD_nil_iff

theorem NFA.mem_moveSet (N : NFA σ τ) (S : List σ) (a : τ) (x : σ) :
    x ∈ N.moveSet S a ↔ ∃ p, p ∈ S ∧ N.Succ p a x := by
  simp only [NFA.moveSet, mem_sunions, List.mem_map]
  constructor
  · rintro ⟨l, ⟨p, hp, rfl⟩, hx⟩
    exact ⟨p, hp, (N.mem_succ_iff _ _ _).mp hx⟩
  · rintro ⟨p, hp, hs⟩
    exact ⟨_, ⟨p, hp, rfl⟩, (N.mem_succ_iff _ _ _).mpr hs⟩

theorem NFA.Run.single_eps {N : NFA σ τ} {q q' : σ} (h : N.Succ q N.eps q') : N.Run q [] q' :=
  NFA.Run.eps h (NFA.Run.nil _)

theorem NFA.Run.single_sym {N : NFA σ τ} {q q' : σ} {a : τ} (ha : a ≠ N.eps) (h : N.Succ q a q') :
    N.Run q [a] q' :=
  NFA.Run.sym ha h (NFA.Run.nil _)

theorem NFA.Run.append {N : NFA σ τ} {p q r : σ} {u v : List τ}
    (h1 : N.Run p u q) (h2 : N.Run q v r) : N.Run p (u ++ v) r := by
  induction h1 with
  | nil q => exact h2
  | eps hs _ ih => exact NFA.Run.eps hs (ih h2)
  | sym ha hs _ ih => exact NFA.Run.sym ha hs (ih h2)

theorem NFA.Run.split {N : NFA σ τ} {q r : σ} {u v : List τ}
    (h : N.Run q (u ++ v) r) : ∃ m, N.Run q u m ∧ N.Run m v r := by
  generalize hw : u ++ v = w at h
  induction h generalizing u with
  | nil q =>
    obtain ⟨rfl, rfl⟩ := List.append_eq_nil_iff.mp hw
    exact ⟨q, NFA.Run.nil _, NFA.Run.nil _⟩
  | eps hs _ ih =>
    obtain ⟨m, h1, h2⟩ := ih hw
    exact ⟨m, NFA.Run.eps hs h1, h2⟩
  | @sym q q' r a w ha hs hr ih =>
    cases u with
    | nil =>
      simp only [List.nil_append] at hw
      subst hw
      exact ⟨q, NFA.Run.nil _, NFA.Run.sym ha hs hr⟩
    | cons b u =>
      simp only [List.cons_append, List.cons.injEq] at hw
      obtain ⟨rfl, hw⟩ := hw
      obtain ⟨m, h1, h2⟩ := ih hw
      exact ⟨m, NFA.Run.sym ha hs h1, h2⟩

theorem NFA.Run_append_iff {N : NFA σ τ} {q r : σ} {u v : List τ} :
    N.Run q (u ++ v) r ↔ ∃ m, N.Run q u m ∧ N.Run m v r :=
  ⟨NFA.Run.split, fun ⟨_, h1, h2⟩ => h1.append h2⟩

/-- ε-reachability is `Reach` under the ε-successor function: what holds of every saturation loop holds of the closure -/
theorem NFA.EpsReach_iff_Reach {N : NFA σ τ} {S : List σ} {q : σ} :
    N.EpsReach S q ↔ Reach (fun q => N.succ q N.eps) S q := by
  constructor
  · intro h
    induction h with
    | base h => exact .base h
    | step _ hs ih => exact ih.step ((N.mem_succ_iff _ _ _).mpr hs)
  · intro h
    induction h with
    | base h => exact .base h
    | step _ hs ih => exact ih.step ((N.mem_succ_iff _ _ _).mp hs)

/-- the universe that bounds the ε-closure and the ε-path search: states of a valid NFA, and the start set -/
theorem NFA.reach_eps_mem {N : NFA σ τ} (hv : N.valid = true) {S : List σ} {x : σ}
    (hx : Reach (fun q => N.succ q N.eps) S x) : x ∈ N.Q ++ S := by
  rw [List.mem_append]
  induction hx with
  | base h => exact Or.inr h
  | step _ hs _ => exact Or.inl (NFA.valid_Succ hv ((N.mem_succ_iff _ _ _).mp hs))

theorem NFA.EpsReach.mem_Q {N : NFA σ τ} (hv : N.valid = true) {S : List σ}
    (hS : ∀ q, q ∈ S → q ∈ N.Q) {q : σ} (h : N.EpsReach S q) : q ∈ N.Q :=
  (List.mem_append.mp (NFA.reach_eps_mem hv (NFA.EpsReach_iff_Reach.mp h))).elim id (hS q)

theorem NFA.EpsReach.trans {N : NFA σ τ} {S : List σ} {q r : σ}
    (h1 : N.EpsReach S q) (h2 : N.EpsReach [q] r) : N.EpsReach S r :=
  NFA.EpsReach_iff_Reach.mpr
    ((NFA.EpsReach_iff_Reach.mp h2).trans fun _ hx => List.mem_singleton.mp hx ▸ NFA.EpsReach_iff_Reach.mp h1)

theorem NFA.EpsReach.exists_base {N : NFA σ τ} {S : List σ} {q : σ} (h : N.EpsReach S q) :
    ∃ x, x ∈ S ∧ N.EpsReach [x] q := by
  induction h with
  | base hm => exact ⟨_, hm, NFA.EpsReach.base (List.mem_singleton.mpr rfl)⟩
  | step _ hs ih =>
    obtain ⟨x, hx, he⟩ := ih
    exact ⟨x, hx, NFA.EpsReach.step he hs⟩

theorem NFA.epsReach_moveSet_iff {N : NFA σ τ} {E : List σ} {a : τ} {x : σ} :
    N.EpsReach (N.moveSet E a) x ↔ ∃ p y, p ∈ E ∧ N.Succ p a y ∧ N.EpsReach [y] x := by
  constructor
  · intro he
    obtain ⟨y, hy, he'⟩ := he.exists_base
    obtain ⟨p, hp, hs⟩ := (N.mem_moveSet _ _ _).mp hy
    exact ⟨p, y, hp, hs, he'⟩
  · rintro ⟨p, y, hp, hs, he⟩
    exact NFA.EpsReach.trans (NFA.EpsReach.base ((N.mem_moveSet _ _ _).mpr ⟨p, hp, hs⟩)) he

theorem NFA.Run.of_epsReach {N : NFA σ τ} {q q1 r : σ} {w : List τ}
    (h : N.EpsReach [q] q1) (hr : N.Run q1 w r) : N.Run q w r := by
  induction h with
  | base hm =>
    have := List.mem_singleton.mp hm
    subst this
    exact hr
  | step _ hs ih => exact ih (NFA.Run.eps hs hr)

theorem NFA.Run_nil_iff_epsReach {N : NFA σ τ} {q r : σ} : N.Run q [] r ↔ N.EpsReach [q] r := by
  constructor
  · intro h
    generalize hw : ([] : List τ) = w at h
    induction h with
    | nil => exact NFA.EpsReach.base (List.mem_singleton.mpr rfl)
    | eps hs _ ih =>
      exact NFA.EpsReach.trans
        (NFA.EpsReach.step (NFA.EpsReach.base (List.mem_singleton.mpr rfl)) hs) (ih hw)
    | sym => cases hw
  · intro h
    exact NFA.Run.of_epsReach h (NFA.Run.nil r)

theorem NFA.Run_snoc_iff {N : NFA σ τ} {p r : σ} {w : List τ} {a : τ} (ha : a ≠ N.eps) :
    N.Run p (w ++ [a]) r ↔ ∃ q q1, N.Run p w q ∧ N.Succ q a q1 ∧ N.EpsReach [q1] r := by
  constructor
  · intro h
    generalize hx : w ++ [a] = x at h
    induction h generalizing w with
    | nil => simp at hx
    | eps hs _ ih =>
      obtain ⟨q, q1, hr, hs', he⟩ := ih hx
      exact ⟨q, q1, NFA.Run.eps hs hr, hs', he⟩
    | sym hne hs hr ih =>
      cases w with
      | nil =>
        simp only [List.nil_append, List.cons.injEq] at hx
        obtain ⟨rfl, rfl⟩ := hx
        exact ⟨_, _, NFA.Run.nil _, hs, NFA.Run_nil_iff_epsReach.mp hr⟩
      | cons b w' =>
        simp only [List.cons_append, List.cons.injEq] at hx
        obtain ⟨rfl, hx'⟩ := hx
        obtain ⟨q, q1, hr', hs', he⟩ := ih hx'
        exact ⟨q, q1, NFA.Run.sym hne hs hr', hs', he⟩
  · rintro ⟨q, q1, hr, hs, he⟩
    exact NFA.Run.append hr (NFA.Run.sym ha hs (NFA.Run_nil_iff_epsReach.mpr he))

/-- `S` is the set of states that `N` can be in after reading `u`: what a state of the subset automaton stands for -/
def NFA.Reached (N : NFA σ τ) (S : σ → Prop) (u : List τ) : Prop := ∀ q, S q ↔ N.Run N.q0 u q

theorem NFA.Reached.init (N : NFA σ τ) : N.Reached (N.EpsReach [N.q0]) [] :=
  fun _ => NFA.Run_nil_iff_epsReach.symm

/-- one step of the subset construction: `S'` = ε-closure of the `a`-successors of `S` -/
theorem NFA.Reached.step {N : NFA σ τ} {S S' : σ → Prop} {u : List τ} {a : τ} (h : N.Reached S u) (ha : a ≠ N.eps)
    (hS' : ∀ x, S' x ↔ ∃ p y, S p ∧ N.Succ p a y ∧ N.EpsReach [y] x) : N.Reached S' (u ++ [a]) := by
  intro q
  rw [hS', NFA.Run_snoc_iff ha]
  exact exists_congr fun p => exists_congr fun y => and_congr_left fun _ => h p

theorem NFA.Reached.accepts_iff {N : NFA σ τ} {S : σ → Prop} {w : List τ} (h : N.Reached S w) :
    N.Accepts w ↔ ∃ x, S x ∧ x ∈ N.F :=
  ⟨fun ⟨f, hf, hr⟩ => ⟨f, (h f).mpr hr, hf⟩, fun ⟨f, hs, hf⟩ => ⟨f, hf, (h f).mp hs⟩⟩

theorem NFA.Run.mono {N1 N : NFA σ τ} (he : N.eps = N1.eps)
    (hs : ∀ q a q', N1.Succ q a q' → N.Succ q a q') {q r : σ} {w : List τ}
    (h : N1.Run q w r) : N.Run q w r := by
  induction h with
  | nil q => exact NFA.Run.nil _
  | eps h1 _ ih => exact NFA.Run.eps (he ▸ hs _ _ _ h1) ih
  | sym ha h1 _ ih => exact NFA.Run.sym (he ▸ ha) (hs _ _ _ h1) ih

theorem NFA.Run.invariant {N : NFA σ τ} (P : σ → Prop)
    (hP : ∀ q a q', P q → N.Succ q a q' → P q') {q r : σ} {w : List τ}
    (h : N.Run q w r) (hq : P q) : P r := by
  induction h with
  | nil q => exact hq
  | eps h1 _ ih => exact ih (hP _ _ _ hq h1)
  | sym _ h1 _ ih => exact ih (hP _ _ _ hq h1)

theorem NFA.Run_congr {N N' : NFA σ τ} (hs : ∀ q a q', N.Succ q a q' ↔ N'.Succ q a q') (he : N.eps = N'.eps)
    {q r : σ} {w : List τ} : N.Run q w r ↔ N'.Run q w r :=
  ⟨NFA.Run.mono he.symm fun q a q' => (hs q a q').mp, NFA.Run.mono he fun q a q' => (hs q a q').mpr⟩

theorem NFA.Run.mem {N : NFA σ τ} (hv : N.valid = true) {q r : σ} {w : List τ}
    (h : N.Run q w r) (hq : q ∈ N.Q) : r ∈ N.Q ∧ ∀ a, a ∈ w → a ∈ N.Sigma := by
  induction h with
  | nil q => exact ⟨hq, fun a ha => by cases ha⟩
  | eps h1 _ ih => exact ih (NFA.valid_Succ hv h1)
  | sym ha h1 _ ih =>
    obtain ⟨_, hs, hq'⟩ := NFA.valid_Succ_all hv h1
    obtain ⟨hr, hw⟩ := ih hq'
    refine ⟨hr, ?_⟩
    intro b hb
    rcases List.mem_cons.mp hb with rfl | hb
    · rcases hs with hs | hs
      · exact hs
      · exact absurd hs ha
    · exact hw b hb

theorem NFA.Accepts.over {N : NFA σ τ} (hv : N.valid = true) {w : List τ} (h : N.Accepts w) :
    ∀ a, a ∈ w → a ∈ N.Sigma := by
  obtain ⟨f, _, hr⟩ := h
  exact (hr.mem hv (NFA.valid_q0 hv)).2

theorem NFA.Run.eps_not_mem {N : NFA σ τ} {q r : σ} {w : List τ} (h : N.Run q w r) : N.eps ∉ w := by
  induction h with
  | nil => exact List.not_mem_nil
  | eps _ _ ih => exact ih
  | sym ha _ _ ih => exact fun hm => (List.mem_cons.mp hm).elim (fun e => ha e.symm) ih

theorem NFA.Run_nil_iff_of_noEps {N : NFA σ τ} (hn : ∀ q q', ¬ N.Succ q N.eps q') {q r : σ} : N.Run q [] r ↔ r = q :=
  ⟨fun h => by cases h with | nil => rfl | eps hs _ => exact absurd hs (hn _ _), fun h => h ▸ .nil _⟩

theorem NFA.Run_cons_iff_of_noEps {N : NFA σ τ} (hn : ∀ q q', ¬ N.Succ q N.eps q') {q r : σ} {a : τ} {w : List τ} :
    N.Run q (a :: w) r ↔ a ≠ N.eps ∧ ∃ q', N.Succ q a q' ∧ N.Run q' w r :=
  ⟨fun h => by cases h with | eps hs _ => exact absurd hs (hn _ _) | sym ha hs hr => exact ⟨ha, _, hs, hr⟩,
    fun ⟨ha, _, hs, hr⟩ => .sym ha hs hr⟩

theorem NFA.Run.of_no_succ {N : NFA σ τ} {q r : σ} {w : List τ}
    (hn : ∀ a q', ¬ N.Succ q a q') (h : N.Run q w r) : w = [] ∧ r = q := by
  cases h with
  | nil => exact ⟨rfl, rfl⟩
  | eps h1 _ => exact absurd h1 (hn _ _)
  | sym _ h1 _ => exact absurd h1 (hn _ _)

theorem NFA.Accepts_congr {N N' : NFA σ τ} (hs : ∀ q a q', N.Succ q a q' ↔ N'.Succ q a q') (he : N.eps = N'.eps)
    (hq : N.q0 = N'.q0) (hF : ∀ f, f ∈ N.F ↔ f ∈ N'.F) (w : List τ) : N.Accepts w ↔ N'.Accepts w :=
  exists_congr fun f => and_congr (hF f) (hq ▸ NFA.Run_congr hs he)

end Gamba
