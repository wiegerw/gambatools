/-
  Gamba.Proofs.DictFold — dictionaries built by a loop over a list: loops whose writes only ever add to what an entry shows
  (`obs_lookup_foldl`; `d[key t].add(val t)` on a `defaultdict(set)` is one), `d[key t] = val t` (the last write of a key
  wins; with distinct keys the result is the list itself).
-/
import Gamba.Proofs.Dict
namespace Gamba
namespace Dict
section
variable {κ ν : Type} [DecidableEq κ] [BEq κ] [LawfulBEq κ]

/-- a loop `d[key t] = f t (d.get (key t))`: a key that is never written keeps its entry -/
theorem lookup_foldl_other {α : Type} (key : α → κ) (f : α → Option ν → ν) (ts : List α) (d : Dict κ ν) (k : κ)
    (h : ∀ t, t ∈ ts → key t ≠ k) :
    (ts.foldl (fun d t => d.set (key t) (f t (d.lookup (key t)))) d).lookup k = d.lookup k := by
  induction ts generalizing d with
  | nil => rfl
  | cons t ts ih =>
    rw [List.foldl_cons, ih _ fun t' h' => h t' (List.mem_cons_of_mem _ h'), lookup_set,
      if_neg fun e => h t List.mem_cons_self e.symm]

/-- … and if every write ADDS `S t` to what `obs` shows of the entry, the final entry shows what it showed at first and
    what the writes to its key added.  Neither the order of the writes nor how often a key is written matters. -/
theorem obs_lookup_foldl {α X : Type} (key : α → κ) (f : α → Option ν → ν) (obs : Option ν → X → Prop) (S : α → X → Prop)
    (hf : ∀ t o x, obs (some (f t o)) x ↔ obs o x ∨ S t x) (ts : List α) (d : Dict κ ν) (k : κ) (x : X) :
    obs ((ts.foldl (fun d t => d.set (key t) (f t (d.lookup (key t)))) d).lookup k) x ↔
      obs (d.lookup k) x ∨ ∃ t, t ∈ ts ∧ key t = k ∧ S t x := by
  induction ts generalizing d with
  | nil => simp
  | cons t ts ih =>
    rw [List.foldl_cons, ih, lookup_set]
    by_cases hk : k = key t
    · subst hk
      simp [hf, or_assoc]
    · simp [hk, Ne.symm hk]

/-- a dict written key by key (`d[key t] = val t` for `t` in `ts`): the LAST write of a key wins -/
theorem lookup_foldl_set {α : Type} (key : α → κ) (val : α → ν) (ts : List α) (d0 : Dict κ ν) (k : κ) (v : ν) :
    (ts.foldl (fun d t => d.set (key t) (val t)) d0).lookup k = some v ↔
      (∃ pre t post, ts = pre ++ t :: post ∧ key t = k ∧ val t = v ∧ ∀ t', t' ∈ post → key t' ≠ k) ∨
      (d0.lookup k = some v ∧ ∀ t, t ∈ ts → key t ≠ k) := by
  induction ts generalizing d0 with
  | nil => simp
  | cons t ts ih =>
    rw [List.foldl_cons, ih, lookup_set]
    constructor
    · rintro (⟨pre, t', post, rfl, h1, h2, h3⟩ | ⟨h1, h2⟩)
      · exact Or.inl ⟨t :: pre, t', post, rfl, h1, h2, h3⟩
      · split at h1
        · rename_i hk
          cases h1
          exact Or.inl ⟨[], t, ts, rfl, hk.symm, rfl, h2⟩
        · rename_i hk
          refine Or.inr ⟨h1, ?_⟩
          intro t' ht'
          rcases List.mem_cons.mp ht' with rfl | ht'
          · exact fun e => hk e.symm
          · exact h2 t' ht'
    · rintro (⟨pre, t', post, he, h1, h2, h3⟩ | ⟨h1, h2⟩)
      · cases pre with
        | nil =>
          simp only [List.nil_append, List.cons.injEq] at he
          obtain ⟨rfl, rfl⟩ := he
          exact Or.inr ⟨by simp [h1, h2], h3⟩
        | cons x pre =>
          simp only [List.cons_append, List.cons.injEq] at he
          obtain ⟨rfl, rfl⟩ := he
          exact Or.inl ⟨pre, t', post, rfl, h1, h2, h3⟩
      · have hk : ¬ k = key t := fun e => h2 t (by simp) e.symm
        exact Or.inr ⟨by simp [hk, h1], fun t' ht' => h2 t' (List.mem_cons_of_mem _ ht')⟩

theorem lookup_foldl_set_none {α : Type} (key : α → κ) (val : α → ν) (ts : List α) (d0 : Dict κ ν) (k : κ) :
    (ts.foldl (fun d t => d.set (key t) (val t)) d0).lookup k = none ↔
      d0.lookup k = none ∧ ∀ t, t ∈ ts → key t ≠ k := by
  induction ts generalizing d0 with
  | nil => simp
  | cons t ts ih =>
    rw [List.foldl_cons, ih, lookup_set]
    constructor
    · rintro ⟨h1, h2⟩
      split at h1
      · cases h1
      · rename_i hk
        refine ⟨h1, ?_⟩
        intro t' ht'
        rcases List.mem_cons.mp ht' with rfl | ht'
        · exact fun e => hk e.symm
        · exact h2 t' ht'
    · rintro ⟨h1, h2⟩
      have hk : ¬ k = key t := fun e => h2 t (by simp) e.symm
      exact ⟨by simp [hk, h1], fun t' ht' => h2 t' (List.mem_cons_of_mem _ ht')⟩

omit [BEq κ] [LawfulBEq κ] in
theorem foldl_set_of_nodup {α : Type} (key : α → κ) (val : α → ν) (ts : List α) (d0 : Dict κ ν)
    (h : (d0.map (·.1) ++ ts.map key).Nodup) :
    ts.foldl (fun d t => d.set (key t) (val t)) d0 = d0 ++ ts.map fun t => (key t, val t) := by
  induction ts generalizing d0 with
  | nil => simp
  | cons t ts ih =>
    have hnot : key t ∉ d0.map (·.1) := by
      intro hm
      have := (List.nodup_append.mp h).2.2 _ hm (key t) (by simp)
      exact this rfl
    rw [List.foldl_cons, set_of_not_mem _ hnot, ih]
    · simp
    · simpa [List.append_assoc] using h

/-- a `defaultdict(set)` filled entry by entry (`d[key t].add(val t)`) -/
theorem mem_lookup_foldl_add {α μ : Type} [DecidableEq μ] (key : α → κ) (val : α → μ) (ts : List α)
    (d0 : Dict κ (List μ)) (k : κ) (x : μ) :
    x ∈ ((ts.foldl (fun d t => d.set (key t) (sinsert ((d.lookup (key t)).getD []) (val t))) d0).lookup k).getD [] ↔
      x ∈ (d0.lookup k).getD [] ∨ ∃ t, t ∈ ts ∧ key t = k ∧ val t = x :=
  obs_lookup_foldl key (fun t o => sinsert (o.getD []) (val t)) (fun o x => x ∈ o.getD []) (fun t x => val t = x)
    (fun _ _ _ => mem_sinsert.trans (or_congr_right eq_comm)) ts d0 k x

theorem mem_foldl_add {α μ : Type} [DecidableEq μ] (key : α → κ) (val : α → μ) (ts : List α)
    (d0 : Dict κ (List μ)) {e : κ × List μ}
    (he : e ∈ ts.foldl (fun d t => d.set (key t) (sinsert ((d.lookup (key t)).getD []) (val t))) d0) :
    ∀ x, x ∈ e.2 → (∃ e0, e0 ∈ d0 ∧ e0.1 = e.1 ∧ x ∈ e0.2) ∨ ∃ t, t ∈ ts ∧ key t = e.1 ∧ val t = x := by
  induction ts generalizing d0 with
  | nil => intro x hx; exact Or.inl ⟨e, he, rfl, hx⟩
  | cons t ts ih =>
    rw [List.foldl_cons] at he
    intro x hx
    rcases ih _ he x hx with ⟨e0, h0, h1, h2⟩ | ⟨t', h1, h2, h3⟩
    · rcases mem_set h0 with rfl | h0
      · simp only [mem_sinsert] at h2
        rcases h2 with h2 | h2
        · cases hl : List.lookup (key t) d0 with
          | none => rw [hl] at h2; cases h2
          | some vs =>
            rw [hl] at h2
            exact Or.inl ⟨(key t, vs), mem_of_lookup hl, h1, h2⟩
        · exact Or.inr ⟨t, by simp, h1, h2.symm⟩
      · exact Or.inl ⟨e0, h0, h1, h2⟩
    · exact Or.inr ⟨t', List.mem_cons_of_mem _ h1, h2, h3⟩

omit [LawfulBEq κ] in
theorem mem_foldl_add_key {α μ : Type} [DecidableEq μ] (key : α → κ) (val : α → μ) (ts : List α)
    (d0 : Dict κ (List μ)) {e : κ × List μ}
    (he : e ∈ ts.foldl (fun d t => d.set (key t) (sinsert ((d.lookup (key t)).getD []) (val t))) d0) :
    (∃ e0, e0 ∈ d0 ∧ e0.1 = e.1) ∨ ∃ t, t ∈ ts ∧ key t = e.1 := by
  induction ts generalizing d0 with
  | nil => exact Or.inl ⟨e, he, rfl⟩
  | cons t ts ih =>
    rw [List.foldl_cons] at he
    rcases ih _ he with ⟨e0, h0, h1⟩ | ⟨t', h1, h2⟩
    · rcases mem_set h0 with rfl | h0
      · exact Or.inr ⟨t, by simp, h1⟩
      · exact Or.inl ⟨e0, h0, h1⟩
    · exact Or.inr ⟨t', List.mem_cons_of_mem _ h1, h2⟩

theorem mem_foldl_add_nil {α μ : Type} [DecidableEq μ] (key : α → κ) (val : α → μ) {ts : List α} {e : κ × List μ}
    (he : e ∈ ts.foldl (fun d t => Dict.set d (key t) (sinsert ((d.lookup (key t)).getD []) (val t))) []) :
    (∃ t, t ∈ ts ∧ key t = e.1) ∧ ∀ x, x ∈ e.2 → ∃ t, t ∈ ts ∧ key t = e.1 ∧ val t = x :=
  ⟨(mem_foldl_add_key key val ts [] he).resolve_left (fun ⟨_, h, _⟩ => nomatch h),
    fun x hx => (mem_foldl_add key val ts [] he x hx).resolve_left (fun ⟨_, h, _⟩ => nomatch h)⟩

theorem foldl_add_of_nodup {α μ : Type} [DecidableEq μ] (key : α → κ) (val : α → μ) (ts : List α)
    (d : Dict κ (List μ)) (hnd : (d.map (·.1) ++ ts.map key).Nodup) :
    ts.foldl (fun d t => d.set (key t) (sinsert ((d.lookup (key t)).getD []) (val t))) d =
      d ++ ts.map fun t => (key t, [val t]) := by
  induction ts generalizing d with
  | nil => simp
  | cons t ts ih =>
    have hk : key t ∉ d.map (·.1) := fun hm => (List.nodup_append.mp hnd).2.2 _ hm _ (by simp) rfl
    rw [List.foldl_cons, lookup_eq_none_iff.mpr hk, set_of_not_mem _ hk, ih]
    · simp [sinsert]
    · simpa [List.append_assoc] using hnd

omit [BEq κ] [LawfulBEq κ] in
theorem mem_foldl_set {α : Type} (key : α → κ) (val : α → ν) (ts : List α) (d0 : Dict κ ν)
    {e : κ × ν} (he : e ∈ ts.foldl (fun d t => d.set (key t) (val t)) d0) :
    e ∈ d0 ∨ ∃ t, t ∈ ts ∧ e = (key t, val t) := by
  induction ts generalizing d0 with
  | nil => exact Or.inl he
  | cons t ts ih =>
    rw [List.foldl_cons] at he
    rcases ih _ he with h | ⟨t', h1, h2⟩
    · rcases mem_set h with h | h
      · exact Or.inr ⟨t, by simp, h⟩
      · exact Or.inl h
    · exact Or.inr ⟨t', List.mem_cons_of_mem _ h1, h2⟩

end
end Dict

end Gamba
