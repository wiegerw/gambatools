/-
  Gamba.Proofs.C13b — "the library's own NFA→DFA answer key passes the library's checker": `WordName`, the condition on
  the state names of the NFA; `nfaToDfaCheck_key`, stated for every answer that agrees with the key `N.toDfa s` on its sets
  and successor sets (the key read as an NFA, `Keys.dfaAsNfa`, in Props/C13b; the key re-read from its printed text in
  Proofs/C13f); and the NFA `cexN` that shows the condition is needed.
-/
import Gamba.Model.Keys
import Gamba.Proofs.C03n
import Gamba.Proofs.C12b
import Gamba.Proofs.C14a
namespace Gamba

/-- state names made of word characters only, non-empty (what the notebooks use): `isWord q.toList`, stated on the
    string; stronger than `CleanName` (C03n) -/
def WordName (q : String) : Prop := q ≠ "" ∧ ∀ c, c ∈ q.toList → Text.isWordChar c = true

theorem WordName.clean {q : String} (h : WordName q) : CleanName q :=
  ⟨h.1, fun hc => Text.isWordChar_ne_comma (h.2 _ hc) rfl⟩

theorem wordName_iff {q : String} : WordName q ↔ Parse.isWord q.toList = true :=
  (Parse.isWord_iff.trans (and_congr_left' (not_congr String.toList_eq_nil_iff))).symm

namespace C13b
open Check

theorem isStateSetLabel_print {S : List String} (hS : ∀ q, q ∈ S → WordName q) :
    isStateSetLabel (printStateSet S) = true := by
  unfold isStateSetLabel
  rw [C03n.braced_print, C03n.inner_print, Bool.true_and, List.all_eq_true]
  intro c hc
  rcases Text.mem_intercalate hc with h | ⟨x, hx, hcx⟩
  · rw [List.mem_singleton.mp h]; rfl
  · obtain ⟨q, hq, rfl⟩ := List.mem_map.mp hx
    have hq' : q ∈ S := by simpa using hq
    have := (hS q hq').2 c hcx
    simp [isWordChar, this]

section
variable {σ τ : Type} [DecidableEq σ] [DecidableEq τ]

theorem epsReach_mono {N : NFA σ τ} {A B : List σ} (h : ∀ x, x ∈ A → x ∈ B) {q : σ}
    (hr : N.EpsReach A q) : N.EpsReach B q :=
  NFA.EpsReach_iff_Reach.mpr ((NFA.EpsReach_iff_Reach.mp hr).trans fun x hx => .base (h x hx))

end

theorem dfaAsNfa_succ (D : DFA String String) (eps q a : String) :
    (Keys.dfaAsNfa D eps).succ q a = ((D.delta.lookup (q, a)).map fun r => [r]).getD [] :=
  congrArg (·.getD []) (Dict.lookup_map_snd (fun r => [r]) D.delta (q, a))

/-- `s` is the pop order of the construction, `s'` that of the checker; `A` is the key as the checker may see it: read as
    an NFA (`Keys.dfaAsNfa`) or re-parsed from its printed text.  Every state of the subset automaton is a canonical list
    of word names, so `print_state_set` renames it injectively and `extract_states` reads the subset back from its name:
    the clauses of the checker are the facts about the final accumulator, read through the renaming. -/
theorem nfaToDfaCheck_key (N : NFA String String) (hv : N.valid = true) (hn : ∀ q, q ∈ N.Q → WordName q) (s s' : Sched)
    {D : DFA String String} (hD : N.toDfa s = .ok D) {A : NFA String String} (eps : String)
    (hQ : ∀ q, q ∈ A.Q ↔ q ∈ D.Q) (hSig : ∀ a, a ∈ A.Sigma ↔ a ∈ D.Sigma) (hq0 : A.q0 = D.q0)
    (hF : ∀ q, q ∈ A.F ↔ q ∈ D.F) (hsucc : ∀ q a, A.succ q a = (Keys.dfaAsNfa D eps).succ q a)
    (hE : ∀ e, e ∈ A.delta → e.1.2 ≠ A.eps) : nfaToDfaCheck N A s' = .ok true := by
  obtain ⟨acc, hI, ht, hacc⟩ := NFA.toDfaSets_acc hv s
  cases (NFA.toDfa_eq_ok hacc).symm.trans hD
  obtain ⟨hval, -, h0, -, hsubQ, -⟩ := hI.final hv ht
  have hW : ∀ S, S ∈ acc.Q → ∀ q, q ∈ S → CleanName q := fun S hS q hq => (hn q (hsubQ S hS q hq)).clean
  have hinj : ∀ S T, S ∈ acc.Q → T ∈ acc.Q → printStateSet S = printStateSet T → S = T := fun S T hS hT =>
    N.printStateSet_inj_on_canon (fun q hq => (hn q hq).clean) (hI.canon hS) (hI.canon hT)
  have hAQ : ∀ {q}, q ∈ A.Q → ∃ S, S ∈ acc.Q ∧ printStateSet S = q := fun hq => List.mem_map.mp ((hQ _).mp hq)
  refine (C12b.nfaToDfaCheck_iff hv).mpr ⟨?_, ?_, ?_, ?_, ?_, ?_, fun e he hc => absurd hc (hE e he)⟩
  · intro hc
    have := (hQ _).mpr (List.mem_map_of_mem (f := printStateSet) hI.q0)
    rw [hc] at this
    cases this
  · exact fun a => (hSig a).symm
  · intro q hq
    obtain ⟨S, hS, rfl⟩ := hAQ hq
    exact ⟨isStateSetLabel_print fun x hx => hn x (hsubQ S hS x hx),
      fun x hx => hsubQ S hS x ((C03n.mem_extractSet_print (hW S hS) x).mp hx)⟩
  · intro x
    rw [hq0]
    exact (C03n.mem_extractSet_print (hW _ hI.q0) x).trans (h0 x)
  · intro q hq
    obtain ⟨S, hS, rfl⟩ := hAQ hq
    rw [hF, DFA.mapStates_mem_F printStateSet _ hval hinj hS]
    show S ∈ acc.F ↔ _
    rw [hI.fin, sdisjoint_false_iff, and_iff_right hS]
    exact exists_congr fun x => and_congr_left fun _ => (C03n.mem_extractSet_print (hW S hS) x).symm
  · intro q hq a ha
    obtain ⟨S, hS, rfl⟩ := hAQ hq
    have ha' : a ∈ N.Sigma := (hSig a).mp ha
    obtain ⟨hnext, hstep⟩ := hI.next ht hS ha'
    refine ⟨printStateSet (N.stepT s S a), ?_, fun x => ?_⟩
    · rw [hsucc, dfaAsNfa_succ, DFA.mapStates_lookup printStateSet _ hval hinj hS a, DFA.valid_lookup_next hval hS ha',
        hnext]
      rfl
    · rw [C03n.mem_extractSet_print (hW _ hstep), NFA.mem_stepT hv]
      exact exists_congr fun p => exists_congr fun y =>
        and_congr_left fun _ => (C03n.mem_extractSet_print (hW S hS) p).symm

/-! ### the hypothesis on the names is needed -/

/-- a one-symbol NFA whose initial state is called `a,b` -/
def cexN : NFA String String :=
  { Q := ["a,b", "c"], Sigma := ["x"], delta := [(("a,b", "x"), ["c"])], q0 := "a,b", F := ["c"], eps := "eps" }

def cexD : DFA (List String) String :=
  { Q := [["a,b"], ["c"], []], Sigma := ["x"],
    delta := [((["a,b"], "x"), ["c"]), ((["c"], "x"), []), (([], "x"), [])], q0 := ["a,b"], F := [["c"]] }

def cexDnamed : DFA String String :=
  { Q := ["{a,b}", "{c}", "{}"], Sigma := ["x"],
    delta := [(("{a,b}", "x"), "{c}"), (("{c}", "x"), "{}"), (("{}", "x"), "{}")], q0 := "{a,b}", F := ["{c}"] }

theorem cexN_toDfaSets : cexN.toDfaSets [] = .ok cexD := by decide +kernel

theorem cexD_named : cexD.mapStates printStateSet = cexDnamed := by
  simp [DFA.mapStates, cexD, cexDnamed, printStateSet, sortStrings, dedup]

theorem cexN_rejected :
    ∃ D, cexN.toDfa [] = .ok D ∧ nfaToDfaCheck cexN (Keys.dfaAsNfa D "eps") [] = .ok false := by
  exact ⟨cexDnamed, cexD_named ▸ NFA.toDfa_eq_ok cexN_toDfaSets, by decide +kernel⟩

end C13b
end Gamba
