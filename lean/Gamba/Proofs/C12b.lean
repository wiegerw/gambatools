/-
  Gamba.Proofs.C12b — what the checkers with a structured answer test, as equivalences: `Check.hasDerivation`
  (`hasDerivation_iff`: some rule rewrites one occurrence of its left-hand side, the leftmost / rightmost variable for
  kinds 1 / 2) and `Check.derivationCheck` (`derivationCheck_iff`, on the forms read from the answer), each read in one
  direction by Props/C12b and in the other by Proofs/C13d; the CYK checker as a function of the words of the answer's lines
  (`C13c.checkLines`, `C13c.cykCheck_eq`; `checkLines_sound` here, the other direction in Proofs/C13c);
  `Check.nfaToDfaCheck` (`nfaToDfaCheck_eq_ok_true` for any NFA, `nfaToDfaCheck_iff` for a valid one; see Proofs/C12a for
  how the two directions are used) and `subset_answer_lang`: an answer that passes its structural tests accepts the language
  of the NFA, for words of every length; `chomskyCheck_iff`; and the example objects of Props/C12b.
-/
import Gamba.Model.Check
import Gamba.Proofs.Search
import Gamba.Proofs.C01
import Gamba.Props.C07
import Gamba.Props.C14c
namespace Gamba

namespace C12b

theorem mem_take_one {α : Type} {l : List α} {x : α} : x ∈ l.take 1 ↔ l.head? = some x := by
  cases l with
  | nil => simp
  | cons y l => simp [eq_comm]

theorem mem_reverse_take_one {α : Type} {l : List α} {x : α} : x ∈ l.reverse.take 1 ↔ l.getLast? = some x := by
  rw [mem_take_one, List.head?_reverse]

theorem getLast?_sorted_iff {l : List Nat} (hs : l.Pairwise (· < ·)) {k : Nat} :
    l.getLast? = some k ↔ k ∈ l ∧ ∀ j, j ∈ l → j ≤ k := by
  rcases List.eq_nil_or_concat l with rfl | ⟨init, y, rfl⟩
  · simp
  · rw [List.concat_eq_append] at hs ⊢
    have hy : ∀ j, j ∈ init → j < y := fun j hj => (List.pairwise_append.mp hs).2.2 j hj y (by simp)
    simp only [List.getLast?_concat, Option.some.injEq, List.mem_append, List.mem_singleton]
    constructor
    · rintro rfl
      exact ⟨Or.inr rfl, fun j hj => hj.elim (fun h => Nat.le_of_lt (hy j h)) Nat.le_of_eq⟩
    · rintro ⟨hk | hk, hmax⟩
      · exact absurd (hmax y (Or.inr rfl)) (Nat.not_le.mpr (hy k hk))
      · exact hk.symm

/-- the model's list of the positions of `x` in `e` -/
abbrev positions (e : List Sym) (x : Sym) : List Nat := (List.range e.length).filter fun i => e[i]? == some x

/-- kind 1: the first variable of `e` is `A`, and `pos` is the first place where `A` stands. Both are the same place,
    since a place before the first `A` holds no variable and a place before the first variable no `A`. -/
theorem leftmost_iff {e : List Sym} {A : String} {pos : Nat} :
    ((e.filter Sym.isVar).head? = some (Sym.v A) ∧ (positions e (.v A)).head? = some pos) ↔
      ∃ pre post, e = pre ++ Sym.v A :: post ∧ pos = pre.length ∧ ∀ y, y ∈ pre → y.isVar = false := by
  rw [List.head?_filter, List.head?_filter, List.find?_range_eq_some, List.find?_eq_some_iff_append]
  simp only [beq_iff_eq, List.mem_range, Bool.not_eq_eq_eq_not, Bool.not_true, beq_eq_false_iff_ne]
  constructor
  · rintro ⟨⟨-, pre, post, rfl, hpre⟩, hpos, -, hfirst⟩
    refine ⟨pre, post, rfl, ?_, hpre⟩
    rcases Nat.lt_trichotomy pos pre.length with h | h | h
    · rw [List.getElem?_append_left h] at hpos
      exact nomatch hpre _ (List.mem_of_getElem? hpos)
    · exact h
    · exact absurd (by simp) (hfirst _ h)
  · rintro ⟨pre, post, rfl, rfl, hpre⟩
    refine ⟨⟨rfl, pre, post, rfl, hpre⟩, by simp, by simp, fun j hj h => ?_⟩
    rw [List.getElem?_append_left hj] at h
    exact nomatch hpre _ (List.mem_of_getElem? h)

theorem getElem?_after {pre post : List Sym} {x y : Sym} {j : Nat} (hj : pre.length < j)
    (h : (pre ++ x :: post)[j]? = some y) : y ∈ post := by
  rw [List.getElem?_append_right (Nat.le_of_lt hj)] at h
  cases hk : j - pre.length with
  | zero => exact absurd hk (Nat.sub_ne_zero_of_lt hj)
  | succ k => rw [hk] at h; exact List.mem_of_getElem? h

/-- kind 2: the same from the right; the last position is the greatest of an increasing list -/
theorem rightmost_iff {e : List Sym} {A : String} {pos : Nat} :
    ((e.filter Sym.isVar).getLast? = some (Sym.v A) ∧ (positions e (.v A)).getLast? = some pos) ↔
      ∃ pre post, e = pre ++ Sym.v A :: post ∧ pos = pre.length ∧ ∀ y, y ∈ post → y.isVar = false := by
  rw [List.getLast?_filter, List.find?_eq_some_iff_append, getLast?_sorted_iff (List.Pairwise.filter _ List.pairwise_lt_range)]
  simp only [List.mem_filter, List.mem_range, beq_iff_eq, Bool.not_eq_eq_eq_not, Bool.not_true]
  constructor
  · rintro ⟨⟨-, as, bs, hrev, has⟩, ⟨-, hpos⟩, hlast⟩
    obtain rfl : e = bs.reverse ++ .v A :: as.reverse := by simpa using congrArg List.reverse hrev
    refine ⟨_, _, rfl, ?_, fun y hy => has y (List.mem_reverse.mp hy)⟩
    rcases Nat.lt_trichotomy pos bs.reverse.length with h | h | h
    · exact absurd (hlast bs.reverse.length ⟨by simp, by simp⟩) (Nat.not_le.mpr h)
    · exact h
    · exact nomatch has _ (List.mem_reverse.mp (getElem?_after h hpos))
  · rintro ⟨pre, post, rfl, rfl, hpost⟩
    refine ⟨⟨rfl, post.reverse, pre.reverse, by simp, fun y hy => hpost y (List.mem_reverse.mp hy)⟩, ⟨by simp, by simp⟩,
      fun j hj => ?_⟩
    exact Nat.le_of_not_lt fun h => nomatch hpost _ (getElem?_after h hj.2)

theorem anywhere_iff {e : List Sym} {A : String} {pos : Nat} :
    (Sym.v A ∈ e.filter Sym.isVar ∧ pos ∈ positions e (.v A)) ↔ ∃ pre post, e = pre ++ Sym.v A :: post ∧ pos = pre.length := by
  simp only [List.mem_filter, List.mem_range, beq_iff_eq]
  constructor
  · rintro ⟨-, hlt, hpos⟩
    have hx := (List.getElem?_eq_some_iff.mp hpos).2
    exact ⟨e.take pos, e.drop (pos + 1), by rw [← hx, ← List.drop_eq_getElem_cons hlt, List.take_append_drop],
      (List.length_take_of_le (Nat.le_of_lt hlt)).symm⟩
  · rintro ⟨pre, post, rfl, rfl⟩
    exact ⟨⟨by simp, rfl⟩, by simp, by simp⟩

theorem hasDerivation_iff (G : CFG) (e1 e2 : List Sym) (kind : Nat) :
    Check.hasDerivation G e1 e2 kind = true ↔
      ∃ r pre post, r ∈ G.R ∧ e1 = pre ++ Sym.v r.lhs :: post ∧ e2 = pre ++ r.rhs ++ post ∧
        (kind = 1 → ∀ y, y ∈ pre → y.isVar = false) ∧ (kind = 2 → ∀ y, y ∈ post → y.isVar = false) := by
  unfold Check.hasDerivation
  simp only [List.any_eq_true, Bool.and_eq_true, decide_eq_true_eq]
  constructor
  · rintro ⟨r, hr, hall, pos, hpos, rfl⟩
    obtain ⟨pre, post, rfl, rfl, h1, h2⟩ : ∃ pre post, e1 = pre ++ Sym.v r.lhs :: post ∧ pos = pre.length ∧
        (kind = 1 → ∀ y, y ∈ pre → y.isVar = false) ∧ (kind = 2 → ∀ y, y ∈ post → y.isVar = false) := by
      rcases kind with _ | _ | _ | k
      · exact (anywhere_iff.mp ⟨hall, hpos⟩).imp fun _ => .imp fun _ h => ⟨h.1, h.2, nofun, nofun⟩
      · exact (leftmost_iff.mp ⟨mem_take_one.mp hall, mem_take_one.mp hpos⟩).imp fun _ => .imp fun _ h =>
          ⟨h.1, h.2.1, fun _ => h.2.2, nofun⟩
      · exact (rightmost_iff.mp ⟨mem_reverse_take_one.mp hall, mem_reverse_take_one.mp hpos⟩).imp fun _ => .imp fun _ h =>
          ⟨h.1, h.2.1, nofun, fun _ => h.2.2⟩
      · exact (anywhere_iff.mp ⟨hall, hpos⟩).imp fun _ => .imp fun _ h => ⟨h.1, h.2, nofun, nofun⟩
    exact ⟨r, pre, post, hr, rfl, by simp, h1, h2⟩
  · rintro ⟨r, pre, post, hr, rfl, rfl, h1, h2⟩
    refine ⟨r, hr, ?_⟩
    suffices h : _ ∧ pre.length ∈ _ from ⟨h.1, pre.length, h.2, by simp⟩
    rcases kind with _ | _ | _ | k
    · exact anywhere_iff.mpr ⟨pre, post, rfl, rfl⟩
    · exact (leftmost_iff.mpr ⟨pre, post, rfl, rfl, h1 rfl⟩).imp mem_take_one.mpr mem_take_one.mpr
    · exact (rightmost_iff.mpr ⟨pre, post, rfl, rfl, h2 rfl⟩).imp mem_reverse_take_one.mpr mem_reverse_take_one.mpr
    · exact anywhere_iff.mpr ⟨pre, post, rfl, rfl⟩

theorem hasDerivation_sound (G : CFG) (e1 e2 : List Sym) (kind : Nat)
    (h : Check.hasDerivation G e1 e2 kind = true) :
    (kind = 1 → G.LStep e1 e2) ∧ (kind = 2 → G.RStep e1 e2) ∧ G.Step e1 e2 := by
  obtain ⟨r, pre, post, hr, rfl, rfl, h1, h2⟩ := (hasDerivation_iff G e1 e2 kind).mp h
  have hrule : G.HasRule r.lhs r.rhs := ⟨r, hr, rfl, rfl⟩
  exact ⟨fun hk => .mk hrule (h1 hk), fun hk => .mk hrule (h2 hk), .mk hrule⟩

theorem hasDerivation_of_lstep {G : CFG} {e1 e2 : List Sym} (h : G.LStep e1 e2) :
    Check.hasDerivation G e1 e2 1 = true := by
  obtain ⟨⟨r, hr, rfl, rfl⟩, hpre⟩ := h
  exact (hasDerivation_iff G _ _ 1).mpr ⟨r, _, _, hr, rfl, rfl, fun _ => hpre, nofun⟩

theorem hasDerivation_of_rstep {G : CFG} {e1 e2 : List Sym} (h : G.RStep e1 e2) :
    Check.hasDerivation G e1 e2 2 = true := by
  obtain ⟨⟨r, hr, rfl, rfl⟩, hpost⟩ := h
  exact (hasDerivation_iff G _ _ 2).mpr ⟨r, _, _, hr, rfl, rfl, nofun, fun _ => hpost⟩

theorem gen_of_chain {G : CFG} {w : List String} {l : List (List Sym)} (hc : ChainOf G.Step l) :
    ∀ a b, l.head? = some a → l.getLast? = some b → G.Gen b w → G.Gen a w := by
  induction hc with
  | nil => intro a b h; cases h
  | single x =>
    intro a b h1 h2 hg
    simp only [List.head?_cons, Option.some.injEq] at h1
    simp only [List.getLast?_singleton, Option.some.injEq] at h2
    subst h1 h2; exact hg
  | @cons x y l hr _ ih =>
    intro a b h1 h2 hg
    simp only [List.head?_cons, Option.some.injEq] at h1
    subst h1
    rw [List.getLast?_cons_cons] at h2
    exact CFG.gen_of_step hr (ih y b rfl h2 hg)

theorem derivation_forms {G : CFG} {forms : List (List Sym)} {word : List String} {kind : Nat}
    (hfirst : forms.head? = some [.v G.S])
    (hsteps : ∀ p, p ∈ forms.zip forms.tail → Check.hasDerivation G p.1 p.2 kind = true)
    (hlast : forms.getLast? = some (word.map Sym.t)) :
    ChainOf (fun a b => (kind = 1 → G.LStep a b) ∧ (kind = 2 → G.RStep a b) ∧ G.Step a b) forms ∧ G.Lang word := by
  have h3 : ChainOf (fun a b => (kind = 1 → G.LStep a b) ∧ (kind = 2 → G.RStep a b) ∧ G.Step a b) forms :=
    ChainOf.iff_zip_tail.mpr fun p hp => hasDerivation_sound G p.1 p.2 kind (hsteps p hp)
  exact ⟨h3, gen_of_chain (List.map_id forms ▸ h3.map id fun _ _ h => h.2.2) _ _ hfirst hlast (CFG.gen_map_t word)⟩

/-- the sentential forms that `check_cfg_derivation` reads from the answer -/
def forms (derivation : String) : List (List Sym) :=
  ((Text.splitArrow (Text.strip derivation.toList)).map Text.strip).map fun w => w.map Check.parseChar

/-- `check_cfg_derivation`, test by test; the forms become a variable before any `match` on them is looked at (on the real
    term the unifier would run the splitter to compare two matcher constants) -/
theorem derivationCheck_iff {G : CFG} {derivation : String} {word : List String} {kind : Nat} :
    Check.derivationCheck G derivation word kind = true ↔
      (∀ el, el ∈ forms derivation → ∀ x, x ∈ el → G.SymOK x) ∧ (forms derivation).head? = some [.v G.S] ∧
      (∀ p, p ∈ (forms derivation).zip (forms derivation).tail → Check.hasDerivation G p.1 p.2 kind = true) ∧
      (forms derivation).getLast? = some (word.map Sym.t) := by
  unfold Check.derivationCheck forms
  simp only [Bool.and_eq_true, List.all_eq_true, and_assoc]
  generalize ((Text.splitArrow (Text.strip derivation.toList)).map Text.strip).map (fun w => w.map Check.parseChar) = fs
  refine and_congr (forall_congr' fun el => imp_congr_right fun _ => forall_congr' fun x => imp_congr_right fun _ => ?_)
    (and_congr ?_ (and_congr Iff.rfl ?_))
  · cases x <;> simp [CFG.SymOK]
  · cases fs <;> simp
  · cases fs.getLast? <;> simp

/-- the body of `Check.cykCheck` after the table `Y` has been computed and the answer split into words -/
def _root_.Gamba.C13c.checkLines (G : CFG) (Y : CFG.CykTable) (n : Nat) (lines : List (List (List Char))) : Bool :=
  let cells := lines.map fun ws => ws.map Check.parseCell
  let okSyntax := cells.all fun row => row.all fun c =>
    match c with
    | some vs => ssubset vs G.V
    | none => false
  let okRows := decide (lines.length = n)
  let okSizes := lines.zipIdx.all fun (ws, i) => ws.length == i + 1
  if !(okSyntax && okRows && okSizes) then false else
  cells.reverse.zipIdx.all fun (row, i) => row.zipIdx.all fun (c, j) =>
    match c with
    | some vs => seq vs (CFG.cykGet Y j (i + j))
    | none => false

theorem _root_.Gamba.C13c.cykCheck_eq {G : CFG} {w : List String} {Y : CFG.CykTable} (hY : G.cykMatrix w = .ok Y)
    (answer : String) :
    Check.cykCheck G w answer =
      .ok (C13c.checkLines G Y w.length ((Text.splitOn '\n' (Text.strip answer.toList)).map Text.splitWs)) := by
  unfold Check.cykCheck C13c.checkLines
  rw [hY]
  simp only [bind, Except.bind, pure, Except.pure]
  have e : Check.splitWs = Text.splitWs := rfl
  rw [e]
  split
  · rename_i h; exact congrArg Except.ok (if_pos h).symm
  · rename_i h; exact congrArg Except.ok (if_neg h).symm

theorem checkLines_sound {G : CFG} {Y : CFG.CykTable} {n : Nat} {lines : List (List (List Char))}
    (h : C13c.checkLines G Y n lines = true) :
    lines.length = n ∧ ∀ i j, i + j < n → ∃ row cell vs, lines.reverse[i]? = some row ∧ row.length = n - i ∧
      row[j]? = some cell ∧ Check.parseCell cell = some vs ∧
      ∀ A, A ∈ vs ↔ A ∈ CFG.cykGet Y j (i + j) := by
  unfold C13c.checkLines at h
  dsimp only at h
  split at h
  · cases h
  rename_i hcond
  simp only [Bool.not_eq_true, Bool.not_eq_false', Bool.and_eq_true, decide_eq_true_eq,
    List.all_eq_true, beq_iff_eq] at hcond
  obtain ⟨⟨_, hrows⟩, hsizes⟩ := hcond
  simp only [List.all_eq_true] at h
  refine ⟨hrows, ?_⟩
  intro i j hij
  have hi : i < lines.length := by omega
  have hk : lines.length - 1 - i < lines.length := by omega
  have hrow : lines.reverse[i]? = some lines[lines.length - 1 - i] := by
    rw [List.getElem?_reverse hi, List.getElem?_eq_getElem hk]
  have hlen : (lines[lines.length - 1 - i]).length = n - i := by
    have := hsizes (lines[lines.length - 1 - i], lines.length - 1 - i)
      (List.mem_zipIdx_iff_getElem?.mpr (List.getElem?_eq_getElem hk))
    simp only at this
    omega
  have hj : j < (lines[lines.length - 1 - i]).length := by omega
  have hcell : (lines[lines.length - 1 - i])[j]? = some (lines[lines.length - 1 - i])[j] :=
    List.getElem?_eq_getElem hj
  have hx : ((lines[lines.length - 1 - i]).map Check.parseCell, i) ∈
      (lines.map (fun ws => ws.map Check.parseCell)).reverse.zipIdx := by
    rw [List.mem_zipIdx_iff_getElem?, ← List.map_reverse, List.getElem?_map, hrow]
    rfl
  have hy : (Check.parseCell (lines[lines.length - 1 - i])[j], j) ∈
      ((lines[lines.length - 1 - i]).map Check.parseCell).zipIdx := by
    rw [List.mem_zipIdx_iff_getElem?, List.getElem?_map, hcell]
    rfl
  have hc := h _ hx _ hy
  simp only at hc
  cases hp : Check.parseCell (lines[lines.length - 1 - i])[j] with
  | none => rw [hp] at hc; cases hc
  | some vs =>
    rw [hp] at hc
    exact ⟨_, _, vs, hrow, hlen, hcell, hp, seq_iff.mp hc⟩

/-- the CYK check can only succeed on a grammar in Chomsky normal form (`cfg_cyk_matrix` asserts it) -/
theorem cykCheck_ok_isChomsky {G : CFG} {word : List String} {answer : String} {b : Bool}
    (h : Check.cykCheck G word answer = .ok b) : G.isChomsky = true := by
  unfold Check.cykCheck CFG.cykMatrix at h
  cases hc : G.isChomsky with
  | true => rfl
  | false => simp [hc, bind, Except.bind] at h

open Check

theorem finalOk_iff (S F : List String) {p : Prop} [Decidable p] :
    decide p = !sdisjoint S F ↔ (p ↔ ∃ x, x ∈ S ∧ x ∈ F) := by
  rw [← sdisjoint_false_iff]
  cases sdisjoint S F <;>
    simp only [Bool.not_false, Bool.not_true, decide_eq_true_eq, decide_eq_false_iff_not, Bool.true_eq_false, iff_true,
      iff_false]

/-- the verdict `true` of `check_nfa_to_dfa_answer`, clause by clause, with the ε-closures it computes still in it -/
theorem nfaToDfaCheck_eq_ok_true {N A : NFA String String} {s : Sched} :
    nfaToDfaCheck N A s = .ok true ↔
      A.Q ≠ [] ∧ (∀ a, a ∈ N.Sigma ↔ a ∈ A.Sigma) ∧
      (∀ q, q ∈ A.Q → isStateSetLabel q = true ∧ ∀ x, x ∈ extractSet q → x ∈ N.Q) ∧
      (∃ C0, N.closure s [N.q0] = .ok C0 ∧ ∀ x, x ∈ extractSet A.q0 ↔ x ∈ C0) ∧
      (∀ q, q ∈ A.Q → (q ∈ A.F ↔ ∃ x, x ∈ extractSet q ∧ x ∈ N.F)) ∧
      (∀ q, q ∈ A.Q → ∀ a, a ∈ A.Sigma → ∃ q1, dedup (A.succ q a) = [q1] ∧
        ∃ C, N.closure s (N.moveSet (extractSet q) a) = .ok C ∧ ∀ x, x ∈ extractSet q1 ↔ x ∈ C) ∧
      (∀ e, e ∈ A.delta → e.1.2 = A.eps → e.2 = []) := by
  unfold nfaToDfaCheck
  simp only [Except.bind_eq_ok', Except.pure_eq_ok, Bool.and_eq_true]
  simp only [List.all_eq_true, Bool.and_eq_true, mem_pairs, seq_iff, ssubset_iff, beq_iff_eq, finalOk_iff, Bool.not_eq_true',
    List.isEmpty_eq_false_iff, Bool.and_eq_false_imp, decide_eq_true_eq, Bool.not_eq_false', List.isEmpty_iff]
  constructor
  · rintro ⟨C0, hC0, b, hb, ⟨⟨⟨⟨⟨⟨c1, c2⟩, c3⟩, c4⟩, c5⟩, rfl⟩, c7⟩, c8⟩
    refine ⟨c1, c2, c3, ⟨C0, hC0, c4⟩, c5, fun q hq a ha => ?_, c7⟩
    obtain ⟨q1, hq1⟩ := List.length_eq_one_iff.mp (c8 (q, a) ⟨hq, ha⟩)
    have ht := allM_ok_true _ hb (q, a) (mem_pairs.mpr ⟨hq, ha⟩)
    simp only [hq1, Except.bind_eq_ok', Except.pure_eq_ok, seq_iff] at ht
    exact ⟨q1, hq1, ht⟩
  · rintro ⟨c1, c2, c3, ⟨C0, hC0, c4⟩, c5, c6, c7⟩
    refine ⟨C0, hC0, true, allM_eq_ok_true_of_forall _ fun x hx => ?_, ⟨⟨⟨⟨⟨⟨c1, c2⟩, c3⟩, c4⟩, c5⟩, rfl⟩, c7⟩, fun x hx => ?_⟩
    · obtain ⟨q1, hq1, ht⟩ := c6 x.1 (mem_pairs.mp hx).1 x.2 (mem_pairs.mp hx).2
      simp only [hq1, Except.bind_eq_ok', Except.pure_eq_ok, seq_iff]
      exact ht
    · obtain ⟨q1, hq1, _⟩ := c6 x.1 hx.1 x.2 hx.2
      rw [hq1]
      rfl

/-- a successful ε-closure is exact, whatever the fuel (so `N` need not be valid) -/
theorem closure_spec {N : NFA String String} {s : Sched} {S X : List String}
    (h : ∃ C, N.closure s S = .ok C ∧ ∀ x, x ∈ X ↔ x ∈ C) (x : String) : x ∈ X ↔ N.EpsReach S x := by
  obtain ⟨C, hC, h⟩ := h
  exact (h x).trans (N.epsClosure_sound_complete _ s S C hC x)

/-- … and for a valid NFA it succeeds -/
theorem closure_spec_iff {N : NFA String String} (hv : N.valid = true) {s : Sched} {S X : List String} :
    (∃ C, N.closure s S = .ok C ∧ ∀ x, x ∈ X ↔ x ∈ C) ↔ ∀ x, x ∈ X ↔ N.EpsReach S x :=
  ⟨closure_spec, fun h => ⟨_, NFA.closure_eq_ok hv s S, fun x => (h x).trans (NFA.mem_closureT hv s S x).symm⟩⟩

theorem nfaToDfaCheck_iff {N A : NFA String String} {s : Sched} (hv : N.valid = true) :
    nfaToDfaCheck N A s = .ok true ↔
      A.Q ≠ [] ∧ (∀ a, a ∈ N.Sigma ↔ a ∈ A.Sigma) ∧
      (∀ q, q ∈ A.Q → isStateSetLabel q = true ∧ ∀ x, x ∈ extractSet q → x ∈ N.Q) ∧
      (∀ x, x ∈ extractSet A.q0 ↔ N.EpsReach [N.q0] x) ∧
      (∀ q, q ∈ A.Q → (q ∈ A.F ↔ ∃ x, x ∈ extractSet q ∧ x ∈ N.F)) ∧
      (∀ q, q ∈ A.Q → ∀ a, a ∈ A.Sigma → ∃ q1, dedup (A.succ q a) = [q1] ∧
        ∀ x, x ∈ extractSet q1 ↔ ∃ p y, p ∈ extractSet q ∧ N.Succ p a y ∧ N.EpsReach [y] x) ∧
      (∀ e, e ∈ A.delta → e.1.2 = A.eps → e.2 = []) := by
  simp only [nfaToDfaCheck_eq_ok_true, closure_spec_iff hv, NFA.epsReach_moveSet_iff]

/-- verdict `true` ⇒ the submitted automaton is, state by state, the subset construction; `N` need not be valid -/
theorem nfaToDfaCheck_sound (N answer : NFA String String) (s : Sched)
    (h : Check.nfaToDfaCheck N answer s = .ok true) :
    answer.Q ≠ [] ∧ (∀ a, a ∈ answer.Sigma ↔ a ∈ N.Sigma) ∧
    (∀ q, q ∈ answer.Q → ∀ x, x ∈ Check.extractSet q → x ∈ N.Q) ∧
    (∀ x, x ∈ Check.extractSet answer.q0 ↔ N.EpsReach [N.q0] x) ∧
    (∀ q, q ∈ answer.Q → (q ∈ answer.F ↔ ∃ x, x ∈ Check.extractSet q ∧ x ∈ N.F)) ∧
    (∀ q a, q ∈ answer.Q → a ∈ answer.Sigma → ∃ q1, (∀ t, t ∈ answer.succ q a ↔ t = q1) ∧
        ∀ x, x ∈ Check.extractSet q1 ↔
          ∃ p y, p ∈ Check.extractSet q ∧ N.Succ p a y ∧ N.EpsReach [y] x) ∧
    (∀ e, e ∈ answer.delta → e.1.2 = answer.eps → e.2 = []) := by
  obtain ⟨c1, c2, c3, c4, c5, c6, c7⟩ := nfaToDfaCheck_eq_ok_true.mp h
  refine ⟨c1, fun a => (c2 a).symm, fun q hq => (c3 q hq).2, closure_spec c4, c5, fun q a hq ha => ?_, c7⟩
  obtain ⟨q1, hd, hC⟩ := c6 q hq a ha
  exact ⟨q1, fun t => by rw [← mem_dedup (l := answer.succ q a), hd, List.mem_singleton],
    fun x => (closure_spec hC x).trans NFA.epsReach_moveSet_iff⟩

section subset
variable {N A : NFA String String}

/-- the hypotheses are the conclusion of `chk_nfaToDfa_sound` (plus validity of both automata) -/
theorem subset_answer_lang (vN : N.valid = true) (vA : A.valid = true)
    (hS : ∀ a, a ∈ A.Sigma ↔ a ∈ N.Sigma)
    (h0 : ∀ x, x ∈ extractSet A.q0 ↔ N.EpsReach [N.q0] x)
    (hF : ∀ q, q ∈ A.Q → (q ∈ A.F ↔ ∃ x, x ∈ extractSet q ∧ x ∈ N.F))
    (hT : ∀ q a, q ∈ A.Q → a ∈ A.Sigma → ∃ q1, (∀ t, t ∈ A.succ q a ↔ t = q1) ∧
        ∀ x, x ∈ extractSet q1 ↔ ∃ p y, p ∈ extractSet q ∧ N.Succ p a y ∧ N.EpsReach [y] x)
    (hE : ∀ e, e ∈ A.delta → e.1.2 = A.eps → e.2 = [])
    (w : List String) : A.Accepts w ↔ N.Accepts w := by
  -- the answer has no ε-move
  have noEps : ∀ q q', ¬ A.Succ q A.eps q' := by
    rintro q q' ⟨T, hl, hm⟩
    have := hE _ (Dict.mem_of_lookup hl) rfl
    simp only at this
    rw [this] at hm; cases hm
  -- it is deterministic, and its state after `u` is (the name of) the set of states `N` can be in after `u`
  have key : ∀ (w : List String), (∀ a, a ∈ w → a ∈ N.Sigma) → ∀ q u, q ∈ A.Q → N.Reached (· ∈ extractSet q) u →
      ∃ q', q' ∈ A.Q ∧ N.Reached (· ∈ extractSet q') (u ++ w) ∧ ∀ f, A.Run q w f ↔ f = q' := by
    intro w
    induction w with
    | nil =>
      intro _ q u hq hr
      exact ⟨q, hq, by rwa [List.append_nil], fun f => NFA.Run_nil_iff_of_noEps noEps⟩
    | cons a w ih =>
      intro hw q u hq hr
      have haN : a ∈ N.Sigma := hw a List.mem_cons_self
      have haA : a ∈ A.Sigma := (hS a).mpr haN
      obtain ⟨q1, hq1, hx1⟩ := hT q a hq haA
      have hs1 : A.Succ q a q1 := (A.mem_succ_iff q a q1).mp ((hq1 q1).mpr rfl)
      obtain ⟨q', hq', hr', hrun⟩ := ih (fun b hb => hw b (List.mem_cons_of_mem _ hb)) q1 (u ++ [a])
        (NFA.valid_Succ_all vA hs1).2.2 (hr.step (NFA.valid_ne_eps vN haN) hx1)
      rw [List.append_assoc] at hr'
      refine ⟨q', hq', hr', fun f => Iff.trans ⟨fun h => ?_, .sym (NFA.valid_ne_eps vA haA) hs1⟩ (hrun f)⟩
      obtain ⟨_, _, hs, h'⟩ := (NFA.Run_cons_iff_of_noEps noEps).mp h
      rwa [(hq1 _).mp ((A.mem_succ_iff _ _ _).mpr hs)] at h'
  have main : (∀ a, a ∈ w → a ∈ N.Sigma) → (A.Accepts w ↔ N.Accepts w) := fun hw => by
    obtain ⟨q', hq', hr', hrun⟩ := key w hw A.q0 [] (NFA.valid_q0 vA) fun x => (h0 x).trans (NFA.Reached.init N x)
    rw [List.nil_append] at hr'
    rw [hr'.accepts_iff, ← hF q' hq']
    exact ⟨fun ⟨f, hf, hr⟩ => (hrun f).mp hr ▸ hf, fun hf => ⟨q', hf, (hrun q').mpr rfl⟩⟩
  -- a word with a symbol outside the common alphabet is accepted by neither automaton
  exact ⟨fun h => (main fun a ha => (hS a).mp (NFA.Accepts.over vA h a ha)).mp h,
    fun h => (main (NFA.Accepts.over vN h)).mpr h⟩

end subset

theorem chomskyCheck_iff (G G1 : CFG) (phase : Nat) (start : String) (len : Nat) :
    chomskyCheck G G1 phase start len = true ↔
      (∀ w, w ∈ G1.wordsUpTo len ↔ w ∈ G.wordsUpTo len) ∧
      (1 ≤ phase → G1.S = start) ∧ (2 ≤ phase → CFG.NoEpsExceptStart G1) ∧ (3 ≤ phase → CFG.NoUnit G1) ∧
      (4 ≤ phase → CFG.RhsLe2 G1) ∧ (5 ≤ phase → CFG.AllCnfShaped G1) := by
  have hor : ∀ (k : Nat) (P : Prop), (phase < k ∨ P) ↔ (k ≤ phase → P) := fun k P => by
    rw [← Nat.not_le, Decidable.imp_iff_not_or]
  unfold chomskyCheck CFG.NoEpsExceptStart CFG.NoUnit CFG.RhsLe2 CFG.AllCnfShaped
  simp only [Bool.and_eq_true, Bool.or_eq_true, decide_eq_true_eq, List.all_eq_true,
    Option.isNone_iff_eq_none, compare_none_iff, Bool.not_eq_true', Bool.and_eq_false_imp, List.isEmpty_iff,
    decide_eq_false_iff_not, Decidable.not_not, hor, and_assoc]

/-! ### example objects for the non-vacuity checks of `Gamba.Props.C12b` -/

/-- A --x--> B, A --ε--> B -/
def exN : NFA String String where
  Q := ["A", "B"]
  Sigma := ["x"]
  delta := [(("A", "x"), ["B"]), (("A", "ε"), ["B"])]
  q0 := "A"
  F := ["B"]
  eps := "ε"

/-- the subset construction of `exN`, as a student would write it -/
def exAnswer : NFA String String where
  Q := ["{A,B}", "{B}", "{}"]
  Sigma := ["x"]
  delta := [(("{A,B}", "x"), ["{B}"]), (("{B}", "x"), ["{}"]), (("{}", "x"), ["{}"])]
  q0 := "{A,B}"
  F := ["{A,B}", "{B}"]
  eps := "ε"

/-- the same with an extra ε-edge (rejected by the repaired checker) -/
def exAnswerEps : NFA String String :=
  { exAnswer with delta := exAnswer.delta ++ [(("{B}", "ε"), ["{}"])] }

/-- wrong target for `{B}` on `x` -/
def exAnswerWrong : NFA String String :=
  { exAnswer with delta := [(("{A,B}", "x"), ["{B}"]), (("{B}", "x"), ["{B}"]), (("{}", "x"), ["{}"])] }

/-- S → aSb | ε | T, T → c (not in CNF) -/
def exG : CFG where
  V := ["S", "T"]
  Sigma := ["a", "b", "c"]
  S := "S"
  R := [⟨"S", 0, [.t "a", .v "S", .t "b"]⟩, ⟨"S", 1, []⟩, ⟨"S", 2, [.v "T"]⟩, ⟨"T", 3, [.t "c"]⟩]

/-- S → XB | a, X → a, B → b: a CNF grammar equivalent to `C07.exG` -/
def exCnf : CFG where
  V := ["S", "X", "B"]
  Sigma := ["a", "b"]
  S := "S"
  R := [⟨"S", 0, [.v "X", .v "B"]⟩, ⟨"S", 1, [.t "a"]⟩, ⟨"X", 2, [.t "a"]⟩, ⟨"B", 3, [.t "b"]⟩]

/-- the same without S → a: the word `a` is missing -/
def exCnfMissing : CFG where
  V := ["S", "X", "B"]
  Sigma := ["a", "b"]
  S := "S"
  R := [⟨"S", 0, [.v "X", .v "B"]⟩, ⟨"X", 2, [.t "a"]⟩, ⟨"B", 3, [.t "b"]⟩]

end C12b
end Gamba
