/-
  Gamba.Proofs.C12e — helper lemmas for the two `check_*_accepts_rejects` checkers on text
  (`CheckText.parseWordList`, `CheckText.acceptsRejectsWith`, `CheckText.dfaAcceptsRejects`, `CheckText.cfgAcceptsRejects`):
  the word list, the two Boolean tests of `Check.acceptsRejects`, two grammar texts with their parse results, and the
  unpacking of the two checkers.  (The answers of `DFA.accepts` / `CFG.accepts` as rewrite rules: `DFA.accepts_false_iff`,
  `DFA.accepts_error_iff` in Proofs/DFABasic, `cfg_accepts_true_iff`, `cfg_accepts_false_iff` in Props/C08d.)
-/
import Gamba.Proofs.DecEq
import Gamba.Proofs.C12c
namespace Gamba
namespace C12e
open Parse

theorem mem_parseWordList (s : String) (w : List String) :
    w ∈ CheckText.parseWordList s ↔
      ∃ t, t ∈ Text.splitWs s.toList ∧ w = (if t = ['ε'] ∨ t = ['_'] then [] else t.map String.singleton) := by
  unfold CheckText.parseWordList
  rw [mem_dedup, List.mem_map]
  constructor
  · rintro ⟨t, ht, rfl⟩; exact ⟨t, ht, rfl⟩
  · rintro ⟨t, ht, rfl⟩; exact ⟨t, ht, rfl⟩

theorem all_some_true (a : List Bool) : (a.map some).all (fun v => v == some true) = true ↔ ∀ b, b ∈ a → b = true := by
  simp

theorem all_not_some_true (a : List Bool) :
    (a.map some).all (fun v => v != some true) = true ↔ ∀ b, b ∈ a → b = false := by
  simp

/-! ### two grammar texts of the test vectors and what the parser returns for them (see `Gamba.Proofs.C12ex`) -/

/-- the parsed form of `S -> aSb | ε` -/
def exAnBn : CFG :=
  { V := ["S"], Sigma := ["a", "b"], S := "S", R := [⟨"S", 0, [.t "a", .v "S", .t "b"]⟩, ⟨"S", 1, []⟩] }

theorem exAnBn_parse : CfgText.parseSimpleCfg "S -> aSb | ε".toList = .ok (exAnBn, "ε") := by
  rw [String.toList_ofList]; decide +kernel

/-- its words up to length 4, evaluated once for the test vectors (CNF conversion and bottom-up generation) -/
theorem exAnBn_words4 : exAnBn.wordsUpTo 4 = [[], ["a", "b"], ["a", "a", "b", "b"]] := by decide +kernel

/-- the parsed form of `S -> a | bb` / `a -> b`: the lower-case `a` is a variable name and a terminal -/
def exBad : CFG :=
  { V := ["S", "a"], Sigma := ["a", "b"], S := "S",
    R := [⟨"S", 0, [.t "a"]⟩, ⟨"S", 1, [.t "b", .t "b"]⟩, ⟨"a", 2, [.t "b"]⟩] }

theorem exBad_parse : CfgText.parseSimpleCfg "S -> a | bb\na -> b".toList = .ok (exBad, "_") := by
  rw [String.toList_ofList]; decide +kernel

/-- `b ∉ L(exBad)` (= {a, bb}) -/
theorem exBad_not_lang_b : ¬ exBad.Lang ["b"] := by
  intro h
  obtain ⟨rhs, hr, hg⟩ := CFG.gen_v_iff.mp h
  have hm : rhs ∈ exBad.prods "S" := CFG.mem_prods_iff.mpr hr
  have hp : exBad.prods "S" = [[.t "a"], [.t "b", .t "b"]] := by decide
  rw [hp] at hm
  simp only [List.mem_cons, List.not_mem_nil, or_false] at hm
  rcases hm with rfl | rfl
  · have := (CFG.gen_terminals (by decide)).mp hg
    revert this; decide
  · have := (CFG.gen_terminals (by decide)).mp hg
    revert this; decide

open CheckText in
theorem dfaAcceptsRejects_unpack {dfa accepted rejected : String} {v : Verdict} (hv : v ≠ .error)
    (h : dfaAcceptsRejects dfa accepted rejected = v) :
    ∃ D, parseDfa dfa.toList = .ok D ∧ acceptsRejectsWith D.accepts accepted rejected = v := by
  unfold dfaAcceptsRejects at h
  split at h
  · rename_i D h1; exact ⟨D, h1, h⟩
  · exact absurd h.symm hv

open CheckText in
theorem cfgAcceptsRejects_unpack {cfg accepted rejected : String} {v : Verdict} (hv : v ≠ .error)
    (h : cfgAcceptsRejects cfg accepted rejected = v) :
    ∃ G eps, CfgText.parseSimpleCfg cfg.toList = .ok (G, eps) ∧ acceptsRejectsWith G.accepts accepted rejected = v := by
  unfold cfgAcceptsRejects at h
  split at h
  · rename_i G eps h1; exact ⟨G, eps, h1, h⟩
  · exact absurd h.symm hv

end C12e
end Gamba
