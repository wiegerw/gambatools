/-
  Gamba.Proofs.C14b — helper lemmas for `dfa_reachable_states`, `dfa_remove_unreachable_states`,
  `dfa_no_extend` and `dfa_reverse`.
-/
import Gamba.Proofs.DFABasic
import Gamba.Proofs.NFABasic
import Gamba.Proofs.DictFold
namespace Gamba

variable {σ τ : Type} [DecidableEq σ] [DecidableEq τ]

/-- the body of `for v in succs: if v not in discovered: …` -/
def C14b.addNew (acc : List σ × List σ) (v : σ) : List σ × List σ :=
  if v ∈ acc.1 then acc else (acc.1 ++ [v], acc.2 ++ [v])

/-- what that loop appends: the elements of `s` outside `disc`, each at its first occurrence -/
def C14b.fresh : List σ → List σ → List σ
  | [], _ => []
  | v :: s, disc => if v ∈ disc then C14b.fresh s disc else v :: C14b.fresh s (disc ++ [v])

theorem C14b.foldl_addNew (s disc vn : List σ) :
    s.foldl C14b.addNew (disc, vn) = (disc ++ C14b.fresh s disc, vn ++ C14b.fresh s disc) := by
  induction s generalizing disc vn with
  | nil => simp [C14b.fresh]
  | cons v s ih =>
    rw [List.foldl_cons, C14b.addNew, C14b.fresh]
    split
    · exact ih disc vn
    · rw [ih, List.append_assoc, List.append_assoc]; rfl

theorem C14b.mem_fresh {s disc : List σ} {x : σ} : x ∈ C14b.fresh s disc ↔ x ∈ s ∧ x ∉ disc := by
  induction s generalizing disc with
  | nil => simp [C14b.fresh]
  | cons v s ih =>
    rw [C14b.fresh]
    split
    · rw [ih, List.mem_cons]
      exact and_congr_left fun hx => (or_iff_right fun (e : x = v) => hx (e ▸ ‹v ∈ disc›)).symm
    · rw [List.mem_cons, ih, List.mem_cons, List.mem_append, List.mem_singleton, not_or]
      constructor
      · rintro (rfl | ⟨h1, h2, _⟩)
        · exact ⟨.inl rfl, ‹_›⟩
        · exact ⟨.inr h1, h2⟩
      · rintro ⟨h1, h2⟩
        exact (Decidable.em (x = v)).imp_right fun hne => ⟨h1.resolve_left hne, h2, hne⟩

theorem C14b.nodup_fresh (s disc : List σ) : (C14b.fresh s disc).Nodup := by
  induction s generalizing disc with
  | nil => exact .nil
  | cons v s ih =>
    rw [C14b.fresh]
    split
    · exact ih disc
    · exact List.nodup_cons.mpr
        ⟨fun h => (C14b.mem_fresh.mp h).2 (List.mem_append_right _ (List.mem_singleton.mpr rfl)), ih _⟩

def DFA.succsOf (D : DFA σ τ) (V : List σ) : List σ :=
  V.flatMap fun u => D.Sigma.map fun a => D.next u a

def DFA.newOf (D : DFA σ τ) (V disc : List σ) : List σ := C14b.fresh (D.succsOf V) disc

theorem DFA.mem_newOf (D : DFA σ τ) (V disc : List σ) (x : σ) :
    x ∈ D.newOf V disc ↔ x ∈ D.succsOf V ∧ x ∉ disc :=
  C14b.mem_fresh

theorem DFA.nodup_newOf (D : DFA σ τ) (V disc : List σ) : (D.newOf V disc).Nodup :=
  C14b.nodup_fresh _ _

theorem DFA.reachLoop_zero (D : DFA σ τ) (V disc : List σ) :
    D.reachLoop 0 V disc = .error .fuel := rfl

theorem DFA.reachLoop_succ (D : DFA σ τ) (fuel : Nat) (V disc : List σ) :
    D.reachLoop (fuel + 1) V disc =
      if (D.newOf V disc).isEmpty then .ok (disc ++ D.newOf V disc)
      else D.reachLoop fuel (D.newOf V disc) (disc ++ D.newOf V disc) := by
  have h : D.reachLoop (fuel + 1) V disc =
      (let r := (D.succsOf V).foldl C14b.addNew (disc, [])
       if r.2.isEmpty then .ok r.1 else D.reachLoop fuel r.2 r.1) := rfl
  rw [h, C14b.foldl_addNew, List.nil_append]
  rfl

/-- the successor function of the search: reachability by words over `Σ` is `Reach D.succs` -/
def DFA.succs (D : DFA σ τ) (q : σ) : List σ := D.Sigma.map (D.next q)

theorem DFA.Reach_succs_iff (D : DFA σ τ) (R : List σ) (r : σ) :
    Reach D.succs R r ↔ ∃ s, s ∈ R ∧ ∃ w, (∀ a, a ∈ w → a ∈ D.Sigma) ∧ D.runT s w = r := by
  constructor
  · intro h
    induction h with
    | base h => exact ⟨_, h, [], fun _ ha => (nomatch ha), rfl⟩
    | step _ hy ih =>
      obtain ⟨s, hs, w, hw, rfl⟩ := ih
      obtain ⟨a, ha, rfl⟩ := List.mem_map.mp hy
      exact ⟨s, hs, w ++ [a], List.forall_mem_append.mpr ⟨hw, List.forall_mem_singleton.mpr ha⟩,
        by rw [DFA.runT_append]; rfl⟩
  · rintro ⟨s, hs, w, hw, rfl⟩
    exact DFA.runT_rel (D' := D) (fun q _ => Reach D.succs R q) (fun _ _ _ hq ha => hq.step (List.mem_map_of_mem ha))
      (q' := s) (.base hs) hw

theorem DFA.mem_succsOf_iff (D : DFA σ τ) (V : List σ) (x : σ) : x ∈ D.succsOf V ↔ ∃ u, u ∈ V ∧ x ∈ D.succs u :=
  List.mem_flatMap

/-- an iteration expands the whole level `V` (`Sat.expand` with `X = V`); one that discovers nothing ends the loop -/
theorem DFA.reachLoop_exact (D : DFA σ τ) (R0 : List σ) (fuel : Nat) (V disc R : List σ)
    (h : D.reachLoop fuel V disc = .ok R) (hs : Sat D.succs R0 disc V) : ∀ r, r ∈ R ↔ Reach D.succs R0 r := by
  induction fuel generalizing V disc with
  | zero => rw [DFA.reachLoop_zero] at h; cases h
  | succ fuel ih =>
    rw [DFA.reachLoop_succ] at h
    have hs' : Sat D.succs R0 (disc ++ D.newOf V disc) (D.newOf V disc) := by
      refine hs.expand (X := V) (fun _ hx => hx) (fun y => ?_) (fun y hy => List.mem_append_right _ hy)
        (fun y hy hn => ?_)
      · rw [List.mem_append, DFA.mem_newOf, DFA.mem_succsOf_iff]
        exact ⟨fun h => h.imp_right And.left, fun h => (Classical.em (y ∈ disc)).elim .inl fun hn =>
          h.imp_right fun h => ⟨h, hn⟩⟩
      · have hd := (List.mem_append.mp hy).resolve_right hn
        exact (Classical.em (y ∈ V)).imp_right fun hV => ⟨hd, hV⟩
    split at h
    · rename_i hemp
      cases h
      rw [List.isEmpty_iff.mp hemp] at hs' ⊢
      exact hs'.mem_iff
    · exact ih _ _ h hs'

theorem DFA.reachLoop_ok (D : DFA σ τ) (hv : D.valid = true) (fuel : Nat) (V disc : List σ)
    (hV : ∀ x, x ∈ V → x ∈ D.Q) (hd : ∀ x, x ∈ disc → x ∈ D.Q) (hnd : disc.Nodup)
    (hf : D.Q.length + 1 ≤ fuel + disc.length) : ∃ R, D.reachLoop fuel V disc = .ok R := by
  induction fuel generalizing V disc with
  | zero =>
    have := hnd.length_le_of_subset (fun x hx => hd x hx)
    omega
  | succ fuel ih =>
    rw [DFA.reachLoop_succ]
    have hnQ : ∀ x, x ∈ D.newOf V disc → x ∈ D.Q := by
      intro x hx
      obtain ⟨u, hu, hx'⟩ := (D.mem_succsOf_iff V x).mp ((DFA.mem_newOf D V disc x).mp hx).1
      obtain ⟨a, ha, rfl⟩ := List.mem_map.mp hx'
      exact DFA.valid_next_mem hv (hV u hu) ha
    split
    · exact ⟨_, rfl⟩
    · rename_i hne
      apply ih
      · exact hnQ
      · intro x hx
        rcases List.mem_append.mp hx with hx | hx
        · exact hd x hx
        · exact hnQ x hx
      · refine List.nodup_append.mpr ⟨hnd, DFA.nodup_newOf D V disc, ?_⟩
        intro a ha b hb hab
        subst hab
        exact ((DFA.mem_newOf D V disc a).mp hb).2 ha
      · have hpos : 0 < (D.newOf V disc).length := by
          cases hl : D.newOf V disc with
          | nil => rw [hl] at hne; exact absurd rfl hne
          | cons _ _ => simp
        rw [List.length_append]
        omega

theorem DFA.reachableStates_ok (D : DFA σ τ) (hv : D.valid = true) (q : σ) (hq : q ∈ D.Q) (d : Nat) :
    ∃ R, D.reachableStates q d = .ok R := by
  unfold DFA.reachableStates
  apply DFA.reachLoop_ok D hv
  · intro x hx; rw [List.mem_singleton.mp hx]; exact hq
  · intro x hx
    split at hx
    · rw [List.mem_singleton.mp hx]; exact hq
    · cases hx
  · split <;> simp
  · omega

theorem DFA.mem_reachableStates_zero (D : DFA σ τ) {q : σ} {R : List σ} (h : D.reachableStates q 0 = .ok R)
    (r : σ) : r ∈ R ↔ ∃ w, (∀ a, a ∈ w → a ∈ D.Sigma) ∧ D.runT q w = r := by
  rw [DFA.reachLoop_exact D [q] _ [q] [q] R h (Sat.init fun _ => Iff.rfl), DFA.Reach_succs_iff]
  simp only [List.mem_singleton, exists_eq_left]

/-- depth ≥ 1 (`discovered` starts empty): after the first iteration the search is the one seeded with the successors of
    `q`, so the result is what is reachable from `q` by a non-empty word -/
theorem DFA.mem_reachableStates_pos (D : DFA σ τ) {q : σ} {d : Nat} (hd : d ≠ 0) {R : List σ}
    (h : D.reachableStates q d = .ok R) (r : σ) :
    r ∈ R ↔ ∃ w, w ≠ [] ∧ (∀ a, a ∈ w → a ∈ D.Sigma) ∧ D.runT q w = r := by
  rw [DFA.reachableStates, if_neg hd, DFA.reachLoop_succ] at h
  rw [List.nil_append] at h
  have hs : Sat D.succs (D.succs q) (D.newOf [q] []) (D.newOf [q] []) := Sat.init fun x => by
    rw [DFA.mem_newOf, DFA.mem_succsOf_iff]
    simp only [List.mem_singleton, exists_eq_left, List.not_mem_nil, not_false_eq_true, and_true]
  have hR : r ∈ R ↔ Reach D.succs (D.succs q) r := by
    split at h
    · rename_i hemp
      cases h
      rw [List.isEmpty_iff.mp hemp] at hs ⊢
      exact hs.mem_iff r
    · exact DFA.reachLoop_exact D _ _ _ _ R h hs r
  rw [hR, DFA.Reach_succs_iff]
  constructor
  · rintro ⟨_, hs, w, hw, rfl⟩
    obtain ⟨a, ha, rfl⟩ := List.mem_map.mp hs
    exact ⟨a :: w, List.cons_ne_nil _ _, List.forall_mem_cons.mpr ⟨ha, hw⟩, rfl⟩
  · rintro ⟨w, hne, hw, rfl⟩
    cases w with
    | nil => exact absurd rfl hne
    | cons a w =>
      exact ⟨_, List.mem_map_of_mem (hw a List.mem_cons_self), w, fun b hb => hw b (List.mem_cons_of_mem _ hb), rfl⟩

theorem DFA.reachableStates_pos (D : DFA σ τ) (hv : D.valid = true) (q : σ) (hq : q ∈ D.Q)
    (d : Nat) (hd : d ≠ 0) :
    ∃ R, D.reachableStates q d = .ok R ∧
      ∀ r, r ∈ R ↔ ∃ w, w ≠ [] ∧ (∀ a, a ∈ w → a ∈ D.Sigma) ∧ D.runT q w = r := by
  obtain ⟨R, hR⟩ := D.reachableStates_ok hv q hq d
  exact ⟨R, hR, D.mem_reachableStates_pos hd hR⟩

/-- the automaton built by `dfa_remove_unreachable_states` before the validity check -/
def DFA.restrict (D : DFA σ τ) (Q1 : List σ) : DFA σ τ :=
  { Q := Q1, Sigma := D.Sigma, delta := D.delta.filter (fun e => decide (e.1.1 ∈ Q1)),
    q0 := D.q0, F := sinter D.F Q1 }

theorem DFA.removeUnreachable_eq (D : DFA σ τ) {Q1 : List σ}
    (h : D.reachableStates D.q0 0 = .ok Q1) : D.removeUnreachable = DFA.checked (D.restrict Q1) := by
  unfold DFA.removeUnreachable
  rw [h]
  rfl

theorem DFA.restrict_lookup (D : DFA σ τ) (Q1 : List σ) (q : σ) (a : τ) :
    (D.restrict Q1).delta.lookup (q, a) = if q ∈ Q1 then D.delta.lookup (q, a) else none := by
  have h := Dict.lookup_filter_key (fun k : σ × τ => decide (k.1 ∈ Q1)) D.delta (q, a)
  simp only [decide_eq_true_eq] at h
  exact h

theorem DFA.restrict_next (D : DFA σ τ) (Q1 : List σ) {q : σ} (hq : q ∈ Q1) (a : τ) :
    (D.restrict Q1).next q a = D.next q a := by
  unfold DFA.next
  rw [DFA.restrict_lookup, if_pos hq]

theorem DFA.restrict_hom (D : DFA σ τ) {Q1 : List σ} (hsub : ∀ q, q ∈ Q1 → q ∈ D.Q) : (D.restrict Q1).Hom D id :=
  ⟨rfl, rfl, hsub, fun _ a hq _ => (D.restrict_next Q1 hq a).symm, fun _ hq => (and_iff_left hq).symm.trans mem_sinter.symm⟩

theorem DFA.restrict_valid (D : DFA σ τ) (hv : D.valid = true)
    (hnd : (D.delta.map (·.1)).Nodup) (Q1 : List σ)
    (hsub : ∀ q, q ∈ Q1 → q ∈ D.Q) (hq0 : D.q0 ∈ Q1)
    (hcl : ∀ q, q ∈ Q1 → ∀ a, a ∈ D.Sigma → D.next q a ∈ Q1) : (D.restrict Q1).valid = true := by
  rw [DFA.valid_iff]
  refine ⟨hq0, ?_, ?_, ?_⟩
  · intro f hf
    have hf' : f ∈ sinter D.F Q1 := hf
    exact (mem_sinter.mp hf').2
  · intro q a r he
    have he' : ((q, a), r) ∈ D.delta.filter (fun e => decide (e.1.1 ∈ Q1)) := he
    rw [List.mem_filter] at he'
    obtain ⟨hm, hq⟩ := he'
    simp only [decide_eq_true_eq] at hq
    obtain ⟨_, ha, _⟩ := DFA.valid_closed hv hm
    refine ⟨hq, ha, ?_⟩
    have hl := Dict.lookup_of_mem_nodup hnd hm
    rw [← DFA.next_of_lookup hl]
    exact hcl q hq a ha
  · intro q a hq ha
    have hq' : q ∈ Q1 := hq
    rw [DFA.restrict_lookup, if_pos hq']
    exact DFA.valid_total hv (hsub q hq') ha

/-- the test applied to each accepting state by `dfa_no_extend` -/
def DFA.noExtTest (D : DFA σ τ) (qf : σ) : Bool :=
  match D.reachableStates qf 1 with
  | .ok R => (sinter R D.F).isEmpty
  | .error _ => false

theorem DFA.noExtTest_iff (D : DFA σ τ) (hv : D.valid = true) (q : σ) (hq : q ∈ D.Q) :
    D.noExtTest q = true ↔
      ∀ v, v ≠ [] → (∀ a, a ∈ v → a ∈ D.Sigma) → D.runT q v ∉ D.F := by
  obtain ⟨R, hR, hm⟩ := DFA.reachableStates_pos D hv q hq 1 (by omega)
  unfold DFA.noExtTest
  rw [hR]
  simp only [List.isEmpty_iff]
  constructor
  · intro he v hne hw hF
    have : D.runT q v ∈ sinter R D.F := mem_sinter.mpr ⟨(hm _).mpr ⟨v, hne, hw, rfl⟩, hF⟩
    rw [he] at this
    cases this
  · intro h
    apply List.eq_nil_iff_forall_not_mem.mpr
    intro x hx
    obtain ⟨hxR, hxF⟩ := mem_sinter.mp hx
    obtain ⟨v, hne, hw, rfl⟩ := (hm x).mp hxR
    exact h v hne hw hxF

theorem DFA.noExtend_eq (D : DFA σ τ) (hv : D.valid = true) :
    D.noExtend = DFA.checked { D with F := D.F.filter D.noExtTest } := by
  unfold DFA.noExtend
  have h : (D.F.filterM fun qf => do
      let R ← D.reachableStates qf 1
      pure (sinter R D.F).isEmpty) = .ok (D.F.filter D.noExtTest) := by
    apply filterM_ok
    intro x hx
    obtain ⟨R, hR, _⟩ := DFA.reachableStates_pos D hv x (DFA.valid_F hv hx) 1 (by omega)
    unfold DFA.noExtTest
    rw [hR]
    rfl
  rw [h]
  rfl

/-- the `addEdge` of `DFA.reverse` -/
def C14b.addEdge (d : Dict (σ × τ) (List σ)) (e : (σ × τ) × σ) : Dict (σ × τ) (List σ) :=
  d.set (e.2, e.1.2) (sinsert ((d.lookup (e.2, e.1.2)).getD []) e.1.1)

theorem DFA.reverse_delta (D : DFA σ τ) (fresh : σ) (eps : τ) :
    (D.reverse fresh eps).delta = (D.delta.foldl C14b.addEdge []).set (fresh, eps) D.F := rfl

/-- `δ'` is written with `d[k] = …` only: no repeated key -/
theorem DFA.reverse_keys_nodup (D : DFA σ τ) (fresh : σ) (eps : τ) : ((D.reverse fresh eps).delta.map (·.1)).Nodup := by
  rw [DFA.reverse_delta]
  exact Dict.nodup_keys_set _ _ (List.foldlRecOn (motive := fun d => (List.map Prod.fst d).Nodup) _ _ List.nodup_nil
    fun d hd e _ => Dict.nodup_keys_set _ _ hd)

/-- the transitions of the reversed automaton (no hypotheses on `D`): δ' is a `defaultdict(set)` filled edge by edge
    (`Dict.mem_lookup_foldl_add`), then `δ'[fresh, ε] = F` -/
theorem DFA.reverse_Succ_iff (D : DFA σ τ) (fresh : σ) (eps : τ) (q1 : σ) (a : τ) (r : σ) :
    (D.reverse fresh eps).Succ q1 a r ↔
      if (q1, a) = (fresh, eps) then r ∈ D.F else ((r, a), q1) ∈ D.delta := by
  unfold NFA.Succ
  rw [← mem_getD_nil_iff, DFA.reverse_delta, Dict.lookup_set]
  split
  · rfl
  · refine (Dict.mem_lookup_foldl_add (fun e : (σ × τ) × σ => (e.2, e.1.2)) (fun e => e.1.1) D.delta [] (q1, a) r).trans ?_
    constructor
    · rintro (h | ⟨⟨⟨r', a'⟩, q'⟩, h, hk, rfl⟩)
      · cases h
      · cases hk; exact h
    · exact fun h => .inr ⟨_, h, rfl, rfl⟩

/-- the reversal is a valid NFA, whether or not `fresh` is a state of `D` -/
theorem DFA.reverse_valid' (D : DFA σ τ) (fresh : σ) (eps : τ) (hv : D.valid = true)
    (he : eps ∉ D.Sigma) : (D.reverse fresh eps).valid = true := by
  rw [NFA.valid_iff]
  refine ⟨mem_sinsert.mpr (.inr rfl), fun f hf => ?_, he, fun q a T hmem => ?_⟩
  · exact mem_sinsert.mpr (.inl (List.mem_singleton.mp hf ▸ DFA.valid_q0 hv))
  rw [DFA.reverse_delta] at hmem
  rcases Dict.mem_set hmem with h | hmem
  · cases h
    exact ⟨mem_sinsert.mpr (.inr rfl), .inr rfl, fun x hx => mem_sinsert.mpr (.inl (DFA.valid_F hv hx))⟩
  · -- an entry of the folded dict: its key and each of its targets come from an edge of `D`
    obtain ⟨⟨e0, h0, hk⟩, hval⟩ := Dict.mem_foldl_add_nil (fun e : (σ × τ) × σ => (e.2, e.1.2)) (fun e => e.1.1) hmem
    obtain ⟨_, h2, h3⟩ := DFA.valid_closed hv (q := e0.1.1) (a := e0.1.2) (r := e0.2) h0
    cases hk
    refine ⟨mem_sinsert.mpr (.inl h3), .inl h2, fun x hx => ?_⟩
    obtain ⟨e1, h1, _, rfl⟩ := hval x hx
    exact mem_sinsert.mpr (Or.inl (DFA.valid_closed hv (q := e1.1.1) (a := e1.1.2) (r := e1.2) h1).1)

section ReverseLang
variable (D : DFA σ τ) (fresh : σ) (eps : τ) (hv : D.valid = true) (hf : fresh ∉ D.Q)
  (he : eps ∉ D.Sigma) (hnd : (D.delta.map (·.1)).Nodup)
include hv

include he hnd in
theorem DFA.reverse_Succ_sym {a : τ} (ha : a ≠ eps) (q1 r : σ) :
    (D.reverse fresh eps).Succ q1 a r ↔ D.delta.lookup (r, a) = some q1 := by
  have _ := hv
  have _ := he
  rw [DFA.reverse_Succ_iff, if_neg (by
    intro h
    simp only [Prod.mk.injEq] at h
    exact ha h.2)]
  exact ⟨Dict.lookup_of_mem_nodup hnd, Dict.mem_of_lookup⟩

include he in
theorem DFA.reverse_Succ_eps (q1 r : σ) :
    (D.reverse fresh eps).Succ q1 eps r ↔ q1 = fresh ∧ r ∈ D.F := by
  rw [DFA.reverse_Succ_iff]
  split
  · rename_i h
    simp only [Prod.mk.injEq, and_true] at h
    simp [h]
  · rename_i h
    simp only [Prod.mk.injEq, and_true] at h
    constructor
    · intro hm
      exact absurd (DFA.valid_closed hv hm).2.1 he
    · rintro ⟨h', _⟩; exact absurd h' h

include hf he hnd in
theorem DFA.reverse_Run_iff {q1 : σ} (hq1 : q1 ∈ D.Q) (w : List τ) (r : σ) :
    (D.reverse fresh eps).Run q1 w r ↔ D.Run r w.reverse q1 := by
  have hne : q1 ≠ fresh := fun h => hf (h ▸ hq1)
  induction w generalizing q1 with
  | nil =>
    rw [List.reverse_nil, DFA.Run_nil_iff]
    constructor
    · intro h
      cases h with
      | nil => rfl
      | eps hs _ =>
        exact absurd ((DFA.reverse_Succ_eps D fresh eps hv he _ _).mp hs).1 hne
    · rintro rfl; exact NFA.Run.nil _
  | cons a w ih =>
    rw [List.reverse_cons, DFA.Run_snoc_iff]
    constructor
    · intro h
      cases h with
      | eps hs _ =>
        exact absurd ((DFA.reverse_Succ_eps D fresh eps hv he _ _).mp hs).1 hne
      | @sym _ q' _ _ _ hae hs hr =>
        have hl := (DFA.reverse_Succ_sym D fresh eps hv he hnd hae q1 q').mp hs
        have hq' := (DFA.valid_lookup hv hl).1
        exact ⟨q', (ih hq' (fun h => hf (h ▸ hq'))).mp hr, hl⟩
    · rintro ⟨q', hr, hl⟩
      obtain ⟨hq', ha, _⟩ := DFA.valid_lookup hv hl
      have hae : a ≠ eps := fun h => he (h ▸ ha)
      exact NFA.Run.sym hae ((DFA.reverse_Succ_sym D fresh eps hv he hnd hae q1 q').mpr hl)
        ((ih hq' (fun h => hf (h ▸ hq'))).mpr hr)

include hf he hnd in
theorem DFA.reverse_Run_fresh {q r : σ} {w : List τ} (h : (D.reverse fresh eps).Run q w r)
    (hq : q = fresh) (hr : r ∈ D.Q) : ∃ f, f ∈ D.F ∧ (D.reverse fresh eps).Run f w r := by
  cases h with
  | nil => exact absurd (hq ▸ hr) hf
  | eps hs hr' =>
    exact ⟨_, ((DFA.reverse_Succ_eps D fresh eps hv he _ _).mp hs).2, hr'⟩
  | sym hae hs hr' =>
    have hl := (DFA.reverse_Succ_sym D fresh eps hv he hnd hae _ _).mp hs
    exact absurd (hq ▸ (DFA.valid_lookup hv hl).2.2) hf

include hf he hnd in
theorem DFA.reverse_accepts_iff (w : List τ) :
    (D.reverse fresh eps).Accepts w ↔ D.Accepts w.reverse := by
  unfold NFA.Accepts DFA.Accepts
  have hF : (D.reverse fresh eps).F = [D.q0] := rfl
  have hq : (D.reverse fresh eps).q0 = fresh := rfl
  rw [hF, hq]
  constructor
  · rintro ⟨f0, hf0, hr⟩
    rw [List.mem_singleton] at hf0
    subst hf0
    obtain ⟨f, hfF, hr'⟩ := DFA.reverse_Run_fresh D fresh eps hv hf he hnd hr rfl (DFA.valid_q0 hv)
    exact ⟨f, hfF, (DFA.reverse_Run_iff D fresh eps hv hf he hnd (DFA.valid_F hv hfF) w _).mp hr'⟩
  · rintro ⟨f, hfF, hr⟩
    refine ⟨D.q0, List.mem_singleton.mpr rfl, ?_⟩
    refine NFA.Run.eps (q' := f) ((DFA.reverse_Succ_eps D fresh eps hv he _ _).mpr ⟨rfl, hfF⟩) ?_
    exact (DFA.reverse_Run_iff D fresh eps hv hf he hnd (DFA.valid_F hv hfF) w _).mpr hr

end ReverseLang

/-! ### concrete automata for the non-vacuity examples of Props/C14b -/
namespace C14b

/-- words over {a,b} ending in `a`, plus an unreachable accepting state `z` -/
def exD : DFA String String :=
  { Q := ["p", "q", "z"], Sigma := ["a", "b"],
    delta := [(("p", "a"), "q"), (("p", "b"), "p"), (("q", "a"), "q"), (("q", "b"), "p"),
              (("z", "a"), "p"), (("z", "b"), "z")],
    q0 := "p", F := ["q", "z"] }

/-- accepts exactly ε and `a` (`d` is a dead state) -/
def exE : DFA String String :=
  { Q := ["s", "t", "d"], Sigma := ["a"],
    delta := [(("s", "a"), "t"), (("t", "a"), "d"), (("d", "a"), "d")],
    q0 := "s", F := ["s", "t"] }

/-- a model artefact: an association list with a duplicate key `("p","a")` (impossible for a Python dict);
    only the first binding counts for `DFA.next`, so `z` is unreachable and the language is empty -/
def exDup : DFA String String :=
  { Q := ["p", "z"], Sigma := ["a"],
    delta := [(("p", "a"), "p"), (("p", "a"), "z"), (("z", "a"), "z")],
    q0 := "p", F := ["z"] }

theorem exD_valid : exD.valid = true := by decide +kernel
theorem exE_valid : exE.valid = true := by decide +kernel
theorem exDup_valid : exDup.valid = true := by decide +kernel
theorem exD_nodup : (exD.delta.map (·.1)).Nodup := by decide +kernel
theorem exE_nodup : (exE.delta.map (·.1)).Nodup := by decide +kernel

end C14b

end Gamba
