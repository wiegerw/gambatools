/-
  Gamba.Proofs.C16d — the regular-expression clause of the print/parse round trip (C16):
  `parseFull (printFull r) = some r`, and `parseSimple (printSimple r)` is the left-associated form of `r`
  (same language, same printed form).  Token-level proofs: the lexers produce the token sequences `toksF` / `toksS`
  (`Lexes`: a printed text is lexed piece by piece, the same way for both lexers),
  the fuel-based precedence parser consumes them; every lemma says "for all sufficiently large fuel" with an
  explicit bound that is linear in the number of tokens.  The precedence levels of the parser are described once, for both
  syntaxes (`PostL`, `CatL`, `SumL`; the last two are instances of one notion, `Reads`).
-/
import Gamba.Model.RegexpText
import Gamba.Proofs.C05
namespace Gamba

/-- symbols that the simple syntax can express: single ASCII letters -/
def Regexp.SimpleSyms : Regexp String → Prop
  | .zero | .one => True
  | .sym a => ∃ c : Char, a = String.singleton c ∧ c.isAlpha = true
  | .star r => Regexp.SimpleSyms r
  | .sum r s | .cat r s => Regexp.SimpleSyms r ∧ Regexp.SimpleSyms s

namespace RegexpText

theorem parseSum_step {j : Bool} {n : Nat} {ts : List Tok} {r : Regexp String} {rest : List Tok}
    {res : Regexp String × List Tok}
    (h1 : parseCat j n ts = some (r, rest)) (h2 : sumTail j n r rest = some res) :
    parseSum j (n + 1) ts = some res := by
  simp [parseSum, h1, h2]

theorem parseCat_step {j : Bool} {n : Nat} {ts : List Tok} {r : Regexp String} {rest : List Tok}
    {res : Regexp String × List Tok}
    (h1 : parsePost j n ts = some (r, rest)) (h2 : catTail j n r rest = some res) :
    parseCat j (n + 1) ts = some res := by
  simp [parseCat, h1, h2]

theorem parsePost_step {j : Bool} {n : Nat} {ts : List Tok} {r : Regexp String} {rest : List Tok}
    (h1 : parseAtom j n ts = some (r, rest)) :
    parsePost j (n + 1) ts = some (starTail r rest) := by
  simp [parsePost, h1]

theorem parseAtom_lp {j : Bool} {n : Nat} {ts : List Tok} {r : Regexp String} {rest : List Tok}
    (h1 : parseSum j n ts = some (r, .rp :: rest)) :
    parseAtom j (n + 1) (.lp :: ts) = some (r, rest) := by
  simp [parseAtom, h1]

theorem sumTail_plus {j : Bool} {n : Nat} {ts : List Tok} {acc r : Regexp String} {rest : List Tok}
    {res : Regexp String × List Tok}
    (h1 : parseCat j n ts = some (r, rest)) (h2 : sumTail j n (.sum acc r) rest = some res) :
    sumTail j (n + 1) acc (.plus :: ts) = some res := by
  simp [sumTail, h1, h2]

theorem sumTail_stop {j : Bool} {n : Nat} {ts : List Tok} {acc : Regexp String}
    (h : ts.head? ≠ some .plus) : sumTail j (n + 1) acc ts = some (acc, ts) := by
  cases ts with
  | nil => simp [sumTail]
  | cons t ts =>
    cases t <;> simp_all [sumTail]

theorem catTail_dot {n : Nat} {ts : List Tok} {acc r : Regexp String} {rest : List Tok}
    {res : Regexp String × List Tok}
    (h1 : parsePost false n ts = some (r, rest)) (h2 : catTail false n (.cat acc r) rest = some res) :
    catTail false (n + 1) acc (.dot :: ts) = some res := by
  simp [catTail, h1, h2]

theorem catTail_juxt {n : Nat} {t : Tok} {ts : List Tok} {acc r : Regexp String} {rest : List Tok}
    {res : Regexp String × List Tok} (ht : startsAtom t = true)
    (h1 : parsePost true n (t :: ts) = some (r, rest)) (h2 : catTail true n (.cat acc r) rest = some res) :
    catTail true (n + 1) acc (t :: ts) = some res := by
  simp [catTail, h1, h2, ht]

theorem starTail_of_noStar {acc : Regexp String} {ts : List Tok} (h : ts.head? ≠ some .star) :
    starTail acc ts = (acc, ts) := by
  cases ts with
  | nil => simp [starTail]
  | cons t ts => cases t <;> simp_all [starTail]

theorem parseAtom_leaf {j : Bool} {n : Nat} {rest : List Tok} :
    parseAtom j (n + 1) (.zero :: rest) = some (.zero, rest) ∧
    parseAtom j (n + 1) (.one :: rest) = some (.one, rest) ∧
    ∀ a, parseAtom j (n + 1) (.id a :: rest) = some (.sym a, rest) := by
  simp [parseAtom]

theorem alpha_facts {c : Char} (h : c.isAlpha = true) :
    c ≠ ' ' ∧ c ≠ '\r' ∧ c ≠ '\n' ∧ c ≠ '%' ∧ c ≠ '0' ∧ c ≠ '1' ∧ c ≠ '+' ∧ c ≠ '*' ∧ c ≠ '(' ∧ c ≠ ')' ∧
      c ≠ '.' := by
  refine ⟨?_, ?_, ?_, ?_, ?_, ?_, ?_, ?_, ?_, ?_, ?_⟩ <;> rintro rfl <;> revert h <;> decide

/-- `lex` turns the characters `A` into the tokens `T`, one unit of fuel per character, whatever follows them
    (provided it is `Ok`) -/
def Lexes (lex : Nat → List Char → Option (List Tok)) (Ok : List Char → Prop) (A : List Char) (T : List Tok) : Prop :=
  ∀ rest n ts, Ok rest → lex n rest = some ts → lex (n + A.length) (A ++ rest) = some (T ++ ts)

section Lexes
variable {lex : Nat → List Char → Option (List Tok)} {Ok : List Char → Prop} {A B : List Char} {TA TB : List Tok}

theorem Lexes.nil : Lexes lex Ok [] [] := fun _ _ _ _ h => h

theorem Lexes.tok {c : Char} {t : Tok}
    (hc : ∀ {n cs ts}, lex n cs = some ts → lex (n + 1) (c :: cs) = some (t :: ts)) (hB : Lexes lex Ok B TB) :
    Lexes lex Ok (c :: B) (t :: TB) :=
  fun rest n ts hr h => hc (hB rest n ts hr h)

theorem Lexes.skip {c : Char} (hc : ∀ {n cs}, lex (n + 1) (c :: cs) = lex n cs) (hB : Lexes lex Ok B TB) :
    Lexes lex Ok (c :: B) TB :=
  fun rest n ts hr h => hc.trans (hB rest n ts hr h)

theorem Lexes.append (hA : Lexes lex Ok A TA) (hB : Lexes lex Ok B TB) (hOk : ∀ rest, Ok (B ++ rest)) :
    Lexes lex Ok (A ++ B) (TA ++ TB) := by
  intro rest n ts hr h
  rw [List.append_assoc, List.append_assoc, List.length_append, Nat.add_left_comm, Nat.add_comm A.length]
  exact hA _ _ _ (hOk rest) (hB rest n ts hr h)

theorem Lexes.top {s : String} {T : List Tok} (h : Lexes lex Ok s.toList T) (hOk : Ok []) (h1 : lex 1 [] = some []) :
    lex (s.length + 1) s.toList = some T := by
  have := h [] 1 [] hOk h1
  rwa [List.append_nil, List.append_nil, String.length_toList, Nat.add_comm] at this

end Lexes

/-- the one-character tokens that both syntaxes have -/
def charToks : List (Char × Tok) :=
  [('0', .zero), ('1', .one), ('+', .plus), ('*', .star), ('(', .lp), (')', .rp)]

theorem lexFull_ws {n : Nat} {c : Char} {cs : List Char} (h : (c == ' ' || c == '\r' || c == '\n') = true) :
    lexFull (n + 1) (c :: cs) = lexFull n cs := by
  simp only [lexFull, h, if_true]

def NoIdHead (cs : List Char) : Prop := ∀ d, cs.head? = some d → isIdChar d = false

theorem noIdHead_cons {c : Char} {cs : List Char} (h : isIdChar c = false) : NoIdHead (c :: cs) :=
  fun _ hd => Option.some.inj hd ▸ h

theorem lexFull_id {n : Nat} {c : Char} {cs : List Char} {ts : List Tok} (hc : c.isAlpha = true)
    (hcs : NoIdHead cs) (h : lexFull n cs = some ts) :
    lexFull (n + 1) (c :: cs) = some (.id (String.singleton c) :: ts) := by
  obtain ⟨h1, h2, h3, -⟩ := alpha_facts hc
  have htw : cs.takeWhile isIdChar = [] := by
    cases cs with
    | nil => rfl
    | cons d ds => simp [List.takeWhile, hcs d rfl]
  have hdw : cs.dropWhile isIdChar = cs := by
    cases cs with
    | nil => rfl
    | cons d ds => simp [List.dropWhile, hcs d rfl]
  simp [lexFull, h1, h2, h3, isIdStart, hc, htw, hdw, h]

theorem lexFull_tok {c : Char} {t : Tok} (hct : (c, t) ∈ ('.', Tok.dot) :: charToks) {n : Nat} {cs : List Char}
    {ts : List Tok} (h : lexFull n cs = some ts) : lexFull (n + 1) (c :: cs) = some (t :: ts) := by
  simp only [charToks, List.mem_cons, Prod.mk.injEq, List.not_mem_nil, or_false] at hct
  rcases hct with ⟨rfl, rfl⟩ | ⟨rfl, rfl⟩ | ⟨rfl, rfl⟩ | ⟨rfl, rfl⟩ | ⟨rfl, rfl⟩ | ⟨rfl, rfl⟩ | ⟨rfl, rfl⟩ <;>
    simp [lexFull, isIdStart, h] <;> decide

/-- in the full syntax an identifier ends where no identifier character follows -/
abbrev LexesF := Lexes lexFull NoIdHead

theorem Lexes.tokF (c : Char) (t : Tok) {B : List Char} {TB : List Tok} (hB : LexesF B TB)
    (hct : (c, t) ∈ ('.', Tok.dot) :: charToks := by decide) : LexesF (c :: B) (t :: TB) :=
  Lexes.tok (lexFull_tok hct) hB

def toksF : Regexp String → List Tok
  | .zero => [.zero]
  | .one => [.one]
  | .sym a => [.id a]
  | .star r => .lp :: toksF r ++ [.rp, .star]
  | .sum r s => .lp :: toksF r ++ .plus :: toksF s ++ [.rp]
  | .cat r s => .lp :: toksF r ++ .dot :: toksF s ++ [.rp]

theorem lexes_printFull (r : Regexp String) (hr : r.SimpleSyms) : LexesF (printFull r).toList (toksF r) := by
  have sp {B : List Char} {TB : List Tok} (hB : LexesF B TB) : LexesF (' ' :: B) TB := .skip (lexFull_ws rfl) hB
  have bin (c : Char) (t : Tok) {A B : List Char} {TA TB : List Tok} (hA : LexesF A TA) (hB : LexesF B TB)
      (hct : (c, t) ∈ ('.', Tok.dot) :: charToks := by decide) :
      LexesF ('(' :: (A ++ ' ' :: c :: ' ' :: (B ++ [')']))) (.lp :: (TA ++ t :: (TB ++ [.rp]))) :=
    .tokF '(' .lp <| hA.append (sp <| .tokF c t (sp <| hB.append (.tokF ')' .rp .nil) fun _ => noIdHead_cons rfl) hct)
      fun _ => noIdHead_cons rfl
  induction r with
  | zero => exact .tokF '0' .zero .nil
  | one => exact .tokF '1' .one .nil
  | sym a =>
    obtain ⟨c, rfl, hc⟩ := hr
    intro rest n ts hr h
    simpa [printFull, toksF] using lexFull_id hc hr h
  | star r ih =>
    have := Lexes.tokF '(' .lp <| (ih hr).append (.tokF ')' .rp <| .tokF '*' .star .nil) fun _ => noIdHead_cons rfl
    simpa [printFull, toksF, String.toList_append] using this
  | sum r s ihr ihs => simpa [printFull, toksF, String.toList_append] using bin '+' .plus (ihr hr.1) (ihs hr.2)
  | cat r s ihr ihs => simpa [printFull, toksF, String.toList_append] using bin '.' .dot (ihr hr.1) (ihs hr.2)

theorem lexFull_printFull (r : Regexp String) (h : r.SimpleSyms) :
    lexFull ((printFull r).length + 1) (printFull r).toList = some (toksF r) :=
  (lexes_printFull r h).top (fun _ hd => nomatch hd) rfl


/-- `x · y` with the concatenation spine of `y` re-associated to the left -/
def catApp (x : Regexp String) : Regexp String → Regexp String
  | .cat y1 y2 => .cat (catApp x y1) y2
  | y => .cat x y

def sumApp (x : Regexp String) : Regexp String → Regexp String
  | .sum y1 y2 => .sum (sumApp x y1) y2
  | y => .sum x y

/-- nested concatenations and sums re-associated to the left, recursively -/
def leftAssoc : Regexp String → Regexp String
  | .zero => .zero
  | .one => .one
  | .sym a => .sym a
  | .star r => .star (leftAssoc r)
  | .sum r s => sumApp (leftAssoc r) (leftAssoc s)
  | .cat r s => catApp (leftAssoc r) (leftAssoc s)

theorem catApp_of_prec {x y : Regexp String} (h : prec y ≠ 8) : catApp x y = .cat x y := by
  cases y <;> simp [prec] at h <;> rfl

theorem sumApp_of_prec {x y : Regexp String} (h : prec y ≠ 7) : sumApp x y = .sum x y := by
  cases y <;> simp [prec] at h <;> rfl

@[simp] theorem prec_catApp (x y : Regexp String) : prec (catApp x y) = 8 := by
  cases y <;> rfl

@[simp] theorem prec_sumApp (x y : Regexp String) : prec (sumApp x y) = 7 := by
  cases y <;> rfl

@[simp] theorem prec_leftAssoc (r : Regexp String) : prec (leftAssoc r) = prec r := by
  cases r <;> simp only [leftAssoc, prec_catApp, prec_sumApp] <;> rfl

theorem catApp_assoc (a b c : Regexp String) : catApp (catApp a b) c = catApp a (catApp b c) := by
  induction c with
  | cat c1 c2 ih1 _ => simp [catApp, ih1]
  | _ => rfl

theorem sumApp_assoc (a b c : Regexp String) : sumApp (sumApp a b) c = sumApp a (sumApp b c) := by
  induction c with
  | sum c1 c2 ih1 _ => simp [sumApp, ih1]
  | _ => rfl

open Regexp in
theorem lang_catApp (x y : Regexp String) : ∀ w, Lang (catApp x y) w ↔ Lang (.cat x y) w := by
  induction y with
  | cat y1 y2 ih1 _ =>
    intro w
    simp only [catApp]
    rw [lang_cat_congr ih1 (fun _ => Iff.rfl), lang_cat_assoc]
  | _ => intro w; rfl

open Regexp in
theorem lang_sumApp (x y : Regexp String) : ∀ w, Lang (sumApp x y) w ↔ Lang (.sum x y) w := by
  induction y with
  | sum y1 y2 ih1 _ =>
    intro w
    simp only [sumApp]
    rw [lang_sum_congr ih1 (fun _ => Iff.rfl), lang_sum_assoc]
  | _ => intro w; rfl

open Regexp in
theorem lang_leftAssoc (r : Regexp String) : ∀ w, Lang (leftAssoc r) w ↔ Lang r w := by
  induction r with
  | zero => intro w; rfl
  | one => intro w; rfl
  | sym a => intro w; rfl
  | star r ih => intro w; exact lang_star_congr ih
  | sum r s ihr ihs => intro w; simp only [leftAssoc]; rw [lang_sumApp]; exact lang_sum_congr ihr ihs
  | cat r s ihr ihs => intro w; simp only [leftAssoc]; rw [lang_catApp]; exact lang_cat_congr ihr ihs

theorem printSimple_catApp (x y : Regexp String) : printSimple (catApp x y) = printSimple (.cat x y) := by
  induction y with
  | cat y1 y2 ih1 _ =>
    simp only [catApp, printSimple, prec_catApp, ih1]
    simp [paren, prec, String.append_assoc]
  | _ => rfl

theorem printSimple_sumApp (x y : Regexp String) : printSimple (sumApp x y) = printSimple (.sum x y) := by
  induction y with
  | sum y1 y2 ih1 _ =>
    simp only [sumApp, printSimple, prec_sumApp, ih1]
    simp [paren, prec, String.append_assoc]
  | _ => rfl

theorem printSimple_leftAssoc (r : Regexp String) : printSimple (leftAssoc r) = printSimple r := by
  induction r with
  | zero => rfl
  | one => rfl
  | sym a => rfl
  | star r ih => simp only [leftAssoc, printSimple, prec_leftAssoc, ih]
  | sum r s ihr ihs => simp only [leftAssoc, printSimple_sumApp, printSimple, prec_leftAssoc, ihr, ihs]
  | cat r s ihr ihs => simp only [leftAssoc, printSimple_catApp, printSimple, prec_leftAssoc, ihr, ihs]

def tparen (b : Bool) (ts : List Tok) : List Tok := if b then .lp :: ts ++ [.rp] else ts

def toksS : Regexp String → List Tok
  | .zero => [.zero]
  | .one => [.one]
  | .sym a => [.id a]
  | .star r => tparen (prec r < 9) (toksS r) ++ [.star]
  | .sum r s => tparen (prec r < 7) (toksS r) ++ .plus :: tparen (prec s < 7) (toksS s)
  | .cat r s => tparen (prec r < 8) (toksS r) ++ tparen (prec s < 8) (toksS s)

theorem lexSimple_tok {c : Char} {t : Tok} (hct : (c, t) ∈ charToks) {n : Nat} {cs : List Char} {ts : List Tok}
    (h : lexSimple n cs = some ts) : lexSimple (n + 1) (c :: cs) = some (t :: ts) := by
  simp only [charToks, List.mem_cons, Prod.mk.injEq, List.not_mem_nil, or_false] at hct
  rcases hct with ⟨rfl, rfl⟩ | ⟨rfl, rfl⟩ | ⟨rfl, rfl⟩ | ⟨rfl, rfl⟩ | ⟨rfl, rfl⟩ | ⟨rfl, rfl⟩ <;> simp [lexSimple, h]

theorem lexSimple_id {c : Char} (hc : c.isAlpha = true) {n : Nat} {cs : List Char} {ts : List Tok}
    (h : lexSimple n cs = some ts) : lexSimple (n + 1) (c :: cs) = some (.id (String.singleton c) :: ts) := by
  obtain ⟨h1, h2, h3, h4, h5, h6, h7, h8, h9, h10, -⟩ := alpha_facts hc
  simp [lexSimple, h, h1, h2, h3, h4, h5, h6, h7, h8, h9, h10, isLetter, hc]

/-- in the simple syntax anything may follow -/
abbrev LexesS := Lexes lexSimple fun _ => True

theorem Lexes.tokS (c : Char) (t : Tok) {B : List Char} {TB : List Tok} (hB : LexesS B TB)
    (hct : (c, t) ∈ charToks := by decide) : LexesS (c :: B) (t :: TB) :=
  Lexes.tok (lexSimple_tok hct) hB

theorem Lexes.parenS {s : String} {T : List Tok} (b : Bool) (h : LexesS s.toList T) :
    LexesS (paren b s).toList (tparen b T) := by
  cases b
  · exact h
  · have := Lexes.tokS '(' .lp <| h.append (.tokS ')' .rp .nil) fun _ => trivial
    simpa [RegexpText.paren, tparen, String.toList_append] using this

theorem lexes_printSimple (r : Regexp String) (hr : r.SimpleSyms) : LexesS (printSimple r).toList (toksS r) := by
  induction r with
  | zero => exact .tokS '0' .zero .nil
  | one => exact .tokS '1' .one .nil
  | sym a =>
    obtain ⟨c, rfl, hc⟩ := hr
    simpa [printSimple, toksS] using Lexes.tok (Ok := fun _ => True) (lexSimple_id hc) .nil
  | star r ih =>
    simpa [printSimple, toksS, String.toList_append] using
      (Lexes.parenS _ (ih hr)).append (.tokS '*' .star .nil) fun _ => trivial
  | sum r s ihr ihs =>
    simpa [printSimple, toksS, String.toList_append] using
      (Lexes.parenS _ (ihr hr.1)).append (.tokS '+' .plus (.parenS _ (ihs hr.2))) fun _ => trivial
  | cat r s ihr ihs =>
    simpa [printSimple, toksS, String.toList_append] using
      (Lexes.parenS _ (ihr hr.1)).append (.parenS _ (ihs hr.2)) fun _ => trivial

theorem lexSimple_printSimple (r : Regexp String) (hr : r.SimpleSyms) :
    lexSimple ((printSimple r).length + 1) (printSimple r).toList = some (toksS r) :=
  (lexes_printSimple r hr).top trivial rfl

/-- the tokens of `r` as an operand of an operator of precedence `p` -/
def toksAt (p : Nat) (r : Regexp String) : List Tok := tparen (decide (prec r < p)) (toksS r)

theorem prec_ge (r : Regexp String) : 7 ≤ prec r := by cases r <;> simp [prec]

theorem toksAt_of_le {p : Nat} {r : Regexp String} (h : p ≤ prec r) : toksAt p r = toksS r := by
  simp [toksAt, tparen]; omega

theorem toksAt_7 (r : Regexp String) : toksAt 7 r = toksS r := toksAt_of_le (prec_ge r)

theorem toksAt_of_lt {p : Nat} {r : Regexp String} (h : prec r < p) : toksAt p r = .lp :: toksS r ++ [.rp] := by
  simp [toksAt, tparen, h]

theorem toksAt_8_eq_9 {r : Regexp String} (h : prec r ≠ 8) : toksAt 8 r = toksAt 9 r := by
  cases r <;> simp [prec] at h <;> rfl

theorem toksAt_7_eq_8 {r : Regexp String} (h : prec r ≠ 7) : toksAt 7 r = toksAt 8 r := by
  cases r <;> simp [prec] at h <;> rfl

abbrev AtomHead (l : List Tok) : Prop := ∃ t ts, l = t :: ts ∧ startsAtom t = true

theorem head_tparen {b : Bool} {l : List Tok} (h : AtomHead l) : AtomHead (tparen b l) := by
  cases b
  · exact h
  · exact ⟨.lp, l ++ [.rp], by simp [tparen], rfl⟩

theorem head_append {l : List Tok} (l' : List Tok) (h : AtomHead l) : AtomHead (l ++ l') := by
  obtain ⟨t, ts, rfl, ht⟩ := h
  exact ⟨t, ts ++ l', rfl, ht⟩

theorem toksS_head (r : Regexp String) : AtomHead (toksS r) := by
  induction r with
  | zero => exact ⟨_, _, rfl, rfl⟩
  | one => exact ⟨_, _, rfl, rfl⟩
  | sym a => exact ⟨_, _, rfl, rfl⟩
  | star r ih => exact head_append _ (head_tparen ih)
  | sum r s ih _ => exact head_append _ (head_tparen ih)
  | cat r s ih _ => exact head_append _ (head_tparen ih)

theorem toksAt_head (p : Nat) (r : Regexp String) : AtomHead (toksAt p r) := by
  by_cases hp : prec r < p
  · exact ⟨.lp, _, by rw [toksAt_of_lt hp]; rfl, rfl⟩
  · rw [toksAt_of_le (by omega)]; exact toksS_head r

def NoStar (ts : List Tok) : Prop := ts.head? ≠ some .star
theorem noStar_toksAt_append (p : Nat) (r : Regexp String) (rest : List Tok) : NoStar (toksAt p r ++ rest) := by
  obtain ⟨t, ts, h, ht⟩ := toksAt_head p r
  rw [h]
  intro e
  simp only [List.cons_append, List.head?_cons, Option.some.injEq] at e
  subst e
  cases ht

/-! ### one precedence level of the parser

Operands are read by `head` and joined by `tail`; `start none` reads a whole operand list, `start (some acc)` one that
continues the accumulator `acc`. -/

def withAcc (app : Regexp String → Regexp String → Regexp String) :
    Option (Regexp String) → Regexp String → Regexp String
  | none, x => x
  | some acc, x => app acc x

/-- the level reads the tokens `ts` of an operand list and goes on with `tail`, which needs fuel `n`;
    `k a` is the value of the list when it continues the accumulator `a` -/
def Reads (start : Option (Regexp String) → Nat → List Tok → Option (Regexp String × List Tok))
    (tail : Nat → Regexp String → List Tok → Option (Regexp String × List Tok))
    (Ok : List Tok → Prop) (c : Nat) (ts : List Tok) (k : Option (Regexp String) → Regexp String) : Prop :=
  ∀ a rest res n, Ok rest → (∀ fuel, n ≤ fuel → tail fuel (k a) rest = some res) →
    ∀ fuel, n + 6 * ts.length + c ≤ fuel → start a fuel (ts ++ rest) = some res

section Level
variable {head : Nat → List Tok → Option (Regexp String × List Tok)}
  {start : Option (Regexp String) → Nat → List Tok → Option (Regexp String × List Tok)}
  {tail : Nat → Regexp String → List Tok → Option (Regexp String × List Tok)}
  {op : Regexp String → Regexp String → Regexp String} {Ok : List Tok → Prop} {sep : List Tok} {c : Nat}

theorem Reads.single (htail0 : ∀ acc rest, tail 0 acc rest = none)
    (hN : ∀ {m ts r rest res}, head m ts = some (r, rest) → tail m r rest = some res →
      start none (m + 1) ts = some res)
    (hS : ∀ {m ts acc r rest res}, AtomHead ts → head m ts = some (r, rest) →
      tail m (op acc r) rest = some res → start (some acc) (m + 1) ts = some res)
    {ts : List Tok} {x : Regexp String} (hts : AtomHead ts)
    (hlow : ∀ rest, Ok rest → ∀ m, c + 6 * ts.length ≤ m → head m (ts ++ rest) = some (x, rest)) :
    Reads start tail Ok c ts (withAcc op · x) := by
  intro a rest res n hok hk fuel hf
  have hn : 1 ≤ n := by
    cases n with
    | zero => have := hk 0 (Nat.le_refl _); rw [htail0] at this; cases this
    | succ n => omega
  have hl : 1 ≤ ts.length := by obtain ⟨t, ts', rfl, _⟩ := hts; simp
  obtain ⟨m, rfl⟩ : ∃ m, fuel = m + 1 := ⟨fuel - 1, by omega⟩
  have h1 := hlow rest hok m (by omega)
  have h2 := hk m (by omega)
  cases a with
  | none => exact hN h1 h2
  | some acc => exact hS (head_append rest hts) h1 h2

theorem Reads.binary (htail : ∀ fuel acc ts, tail fuel acc (sep ++ ts) = start (some acc) fuel ts)
    (hc : c ≤ 6 * sep.length) {t1 t2 : List Tok} {k1 k2 : Option (Regexp String) → Regexp String}
    (hOk : ∀ rest, Ok (sep ++ (t2 ++ rest)))
    (h1 : Reads start tail Ok c t1 k1) (h2 : Reads start tail Ok c t2 k2) :
    Reads start tail Ok c (t1 ++ (sep ++ t2)) fun a => k2 (some (k1 a)) := by
  intro a rest res n hok hk fuel hf
  simp only [List.length_append] at hf
  rw [List.append_assoc, List.append_assoc]
  refine h1 a _ res (n + 6 * t2.length + c) (hOk rest) (fun f hf' => ?_) fuel (by omega)
  rw [htail]
  exact h2 (some (k1 a)) rest res n hok hk f hf'

theorem Reads.congr {ts : List Tok} {k k' : Option (Regexp String) → Regexp String} (h : ∀ a, k a = k' a)
    (hr : Reads start tail Ok c ts k) : Reads start tail Ok c ts k' :=
  (funext h : k = k') ▸ hr

end Level

/-- what stands between two operands of a concatenation: nothing, or `.` in the full syntax -/
def catSep (j : Bool) : List Tok := if j then [] else [.dot]

def catStart (j : Bool) : Option (Regexp String) → Nat → List Tok → Option (Regexp String × List Tok)
  | none => parseCat j
  | some acc => fun n ts => catTail j n acc (catSep j ++ ts)

def sumStart (j : Bool) : Option (Regexp String) → Nat → List Tok → Option (Regexp String × List Tok)
  | none => parseSum j
  | some acc => fun n ts => sumTail j n acc (.plus :: ts)

/-- `ts` continues neither a postfix expression nor a concatenation -/
def SumOk (j : Bool) (ts : List Tok) : Prop :=
  ∀ t, ts.head? = some t → t ≠ .star ∧ if j then startsAtom t = false else t ≠ .dot

/-- the three levels: `ts` is read as a postfix expression of value `x`, as a list of concatenation operands, as a
    list of summands (`juxt = j`) -/
abbrev PostL (j : Bool) (ts : List Tok) (x : Regexp String) : Prop :=
  ∀ rest fuel, 6 * ts.length ≤ fuel → parsePost j fuel (ts ++ rest) = some (starTail x rest)
abbrev CatL (j : Bool) := Reads (catStart j) (catTail j) NoStar 0
abbrev SumL (j : Bool) := Reads (sumStart j) (sumTail j) (SumOk j) 2

theorem catTail_stop {j : Bool} {n : Nat} {ts : List Tok} {acc : Regexp String} (h : SumOk j ts) :
    catTail j (n + 1) acc ts = some (acc, ts) := by
  cases ts with
  | nil => cases j <;> simp [catTail]
  | cons t ts =>
    have ht := (h t rfl).2
    cases j
    · cases t <;> simp_all [catTail]
    · have ht : startsAtom t = false := ht
      simp [catTail, ht]

/-- one postfix expression is a concatenation of one operand -/
theorem CatL.of_post {j : Bool} {ts : List Tok} {x : Regexp String} (hts : AtomHead ts) (hp : PostL j ts x) :
    CatL j ts (withAcc .cat · x) := by
  refine Reads.single (head := parsePost j) (by simp [catTail]) parseCat_step ?_ hts ?_
  · intro m ts acc r rest res ht h1 h2
    cases j
    · exact catTail_dot h1 h2
    · obtain ⟨t, ts', rfl, ht⟩ := ht; exact catTail_juxt ht h1 h2
  · intro rest hns m hm
    rw [hp rest m (by omega), starTail_of_noStar hns]

/-- one concatenation is a sum of one operand -/
theorem SumL.of_cat {j : Bool} {ts : List Tok} {k : Option (Regexp String) → Regexp String} (hts : AtomHead ts)
    (hc : CatL j ts k) :
    SumL j ts (withAcc .sum · (k none)) := by
  refine Reads.single (head := parseCat j) (by simp [sumTail]) parseSum_step
    (fun _ h1 h2 => sumTail_plus h1 h2) hts ?_
  intro rest hok m hm
  refine hc none rest _ 1 (fun e => (hok _ e).1 rfl) (fun f hf => ?_) m (by omega)
  obtain ⟨f', rfl⟩ : ∃ f', f = f' + 1 := ⟨f - 1, by omega⟩
  exact catTail_stop hok

/-- a parenthesised sum is an atom -/
theorem PostL.of_sum {j : Bool} {ts : List Tok} {k : Option (Regexp String) → Regexp String} (hs : SumL j ts k) :
    PostL j (.lp :: ts ++ [.rp]) (k none) := by
  intro rest fuel hf
  simp only [List.length_cons, List.length_append, List.length_nil] at hf
  obtain ⟨m, rfl⟩ : ∃ m, fuel = m + 2 := ⟨fuel - 2, by omega⟩
  have h1 : parseSum j m (ts ++ .rp :: rest) = some (k none, .rp :: rest) := by
    refine hs none (.rp :: rest) _ 1 (fun t ht => by cases ht; cases j <;> simp [startsAtom]) ?_ m (by omega)
    intro f hf
    obtain ⟨f', rfl⟩ : ∃ f', f = f' + 1 := ⟨f - 1, by omega⟩
    exact sumTail_stop (by simp)
  simp only [List.cons_append, List.append_assoc, List.nil_append]
  exact parsePost_step (parseAtom_lp h1)

theorem PostL.leaf {j : Bool} {t : Tok} {x : Regexp String}
    (hp : ∀ n rest, parseAtom j (n + 1) (t :: rest) = some (x, rest)) : PostL j [t] x := by
  intro rest fuel hf
  obtain ⟨m, rfl⟩ : ∃ m, fuel = m + 2 := ⟨fuel - 2, by simp at hf; omega⟩
  exact parsePost_step (hp m rest)

theorem SumL.top {j : Bool} {ts : List Tok} {k : Option (Regexp String) → Regexp String} (hs : SumL j ts k) :
    parseSum j (6 * ts.length + 6) ts = some (k none, []) := by
  have := hs none [] (k none, []) 1 (fun _ e => nomatch e) ?_ (6 * ts.length + 6) (by omega)
  · rwa [List.append_nil] at this
  · intro f hf
    obtain ⟨f', rfl⟩ : ∃ f', f = f' + 1 := ⟨f - 1, by omega⟩
    exact sumTail_stop (by simp)

theorem toksF_head (r : Regexp String) : AtomHead (toksF r) := by
  cases r <;> exact ⟨_, _, rfl, rfl⟩

theorem sumOk_plus (j : Bool) (ts : List Tok) : SumOk j (.plus :: ts) := by
  intro t ht; cases ht; cases j <;> simp [startsAtom]

theorem postL_toksF (r : Regexp String) : PostL false (toksF r) r := by
  have operand : ∀ {r}, PostL false (toksF r) r → SumL false (toksF r) (withAcc .sum · r) := fun h =>
    .of_cat (toksF_head _) (.of_post (toksF_head _) h)
  induction r with
  | zero => exact .leaf fun _ _ => parseAtom_leaf.1
  | one => exact .leaf fun _ _ => parseAtom_leaf.2.1
  | sym a => exact .leaf fun _ _ => parseAtom_leaf.2.2 a
  | star r ih =>
    -- `(r)` is an atom; the star after it is collected by `starTail`
    intro rest fuel hf
    have := PostL.of_sum (operand ih) (.star :: rest) fuel (by simp [toksF] at hf ⊢; omega)
    simpa [toksF, withAcc, starTail] using this
  | sum r s ihr ihs =>
    have := PostL.of_sum (Reads.binary (sep := [.plus]) (fun _ _ _ => rfl) (by decide) (fun _ => sumOk_plus _ _)
      (operand ihr) (operand ihs))
    simpa [toksF, withAcc] using this
  | cat r s ihr ihs =>
    have hc : CatL false (toksF r ++ ([.dot] ++ toksF s)) _ :=
      Reads.binary (sep := [.dot]) (fun _ _ _ => rfl) (by decide) (fun _ e => nomatch e)
        (CatL.of_post (toksF_head _) ihr) (CatL.of_post (toksF_head _) ihs)
    have := PostL.of_sum (SumL.of_cat (head_append _ (toksF_head r)) hc)
    simpa [toksF, withAcc] using this

theorem parseSum_toksF (r : Regexp String) :
    parseSum false (6 * (toksF r).length + 6) (toksF r) = some (r, []) :=
  (SumL.of_cat (toksF_head r) (.of_post (toksF_head r) (postL_toksF r))).top

theorem toksAt_8_cat (r s : Regexp String) : toksAt 8 (.cat r s) = toksAt 8 r ++ toksAt 8 s := by
  rw [toksAt_of_le (by simp [prec])]; rfl

theorem toksAt_7_sum (r s : Regexp String) : toksAt 7 (.sum r s) = toksAt 7 r ++ .plus :: toksAt 7 s := by
  rw [toksAt_of_le (by simp [prec])]; rfl

theorem toksAt_9_star (r : Regexp String) : toksAt 9 (.star r) = toksAt 9 r ++ [.star] := by
  rw [toksAt_of_le (by simp [prec])]; rfl

def PPost (r : Regexp String) : Prop := PostL true (toksAt 9 r) (leftAssoc r)
def PCat (r : Regexp String) : Prop := CatL true (toksAt 8 r) (withAcc catApp · (leftAssoc r))
def PSum (r : Regexp String) : Prop := SumL true (toksAt 7 r) (withAcc sumApp · (leftAssoc r))

theorem pcat_of_ppost {r : Regexp String} (hr : prec r ≠ 8) (hp : PPost r) : PCat r := by
  rw [PCat, toksAt_8_eq_9 hr]
  refine (CatL.of_post (toksAt_head 9 r) hp).congr fun a => ?_
  cases a with
  | none => rfl
  | some acc => exact (catApp_of_prec (y := leftAssoc r) (by rw [prec_leftAssoc]; exact hr)).symm

theorem psum_of_pcat {r : Regexp String} (hr : prec r ≠ 7) (hc : PCat r) : PSum r := by
  rw [PSum, toksAt_7_eq_8 hr]
  refine (SumL.of_cat (toksAt_head 8 r) hc).congr fun a => ?_
  cases a with
  | none => rfl
  | some acc => exact (sumApp_of_prec (y := leftAssoc r) (by rw [prec_leftAssoc]; exact hr)).symm

theorem ppost_of_psum {r : Regexp String} (hr : prec r < 9) (hs : PSum r) : PPost r := by
  rw [PPost, toksAt_of_lt hr, ← toksAt_7]
  exact PostL.of_sum hs

theorem parse_all_of_ppost {r : Regexp String} (h7 : prec r ≠ 7) (h8 : prec r ≠ 8) (hp : PPost r) :
    PPost r ∧ PCat r ∧ PSum r :=
  have hc := pcat_of_ppost h8 hp
  ⟨hp, hc, psum_of_pcat h7 hc⟩

theorem ppost_leaf {r : Regexp String} {t : Tok} (ht : toksS r = [t]) (hr : prec r = 10)
    (hp : ∀ n rest, parseAtom true (n + 1) (t :: rest) = some (r, rest)) (hl : leftAssoc r = r) : PPost r := by
  rw [PPost, toksAt_of_le (by omega), ht, hl]
  exact .leaf hp

theorem parse_all (r : Regexp String) : PPost r ∧ PCat r ∧ PSum r := by
  induction r with
  | zero => exact parse_all_of_ppost (by decide) (by decide) (ppost_leaf rfl rfl (fun _ _ => parseAtom_leaf.1) rfl)
  | one => exact parse_all_of_ppost (by decide) (by decide) (ppost_leaf rfl rfl (fun _ _ => parseAtom_leaf.2.1) rfl)
  | sym a =>
    exact parse_all_of_ppost (by simp [prec]) (by simp [prec])
      (ppost_leaf rfl rfl (fun _ _ => parseAtom_leaf.2.2 a) rfl)
  | star r ih =>
    refine parse_all_of_ppost (by simp [prec]) (by simp [prec]) fun rest fuel hf => ?_
    rw [toksAt_9_star] at hf ⊢
    simp only [List.length_append, List.length_singleton] at hf
    rw [List.append_assoc, ih.1 _ fuel (by omega)]
    rfl
  | sum r s ihr ihs =>
    have hs : PSum (.sum r s) := by
      rw [PSum, toksAt_7_sum]
      refine (Reads.binary (sep := [.plus]) (fun _ _ _ => rfl) (by decide) (fun _ => sumOk_plus _ _)
        ihr.2.2 ihs.2.2).congr fun a => ?_
      cases a with
      | none => rfl
      | some acc => exact sumApp_assoc _ _ _
    have hp := ppost_of_psum (by simp [prec]) hs
    exact ⟨hp, pcat_of_ppost (by simp [prec]) hp, hs⟩
  | cat r s ihr ihs =>
    have hc : PCat (.cat r s) := by
      rw [PCat, toksAt_8_cat]
      refine (Reads.binary (start := catStart true) (tail := catTail true) (sep := []) (fun _ _ _ => rfl) (Nat.zero_le _)
        (noStar_toksAt_append _ _)
        ihr.2.1 ihs.2.1).congr fun a => ?_
      cases a with
      | none => rfl
      | some acc => exact catApp_assoc _ _ _
    have hs := psum_of_pcat (by simp [prec]) hc
    exact ⟨ppost_of_psum (by simp [prec]) hs, hc, hs⟩

theorem parseSum_toksS (r : Regexp String) :
    parseSum true (6 * (toksS r).length + 6) (toksS r) = some (leftAssoc r, []) :=
  toksAt_7 r ▸ (parse_all r).2.2.top

theorem parseSimple_printSimple_eq (r : Regexp String) (h : r.SimpleSyms) :
    parseSimple (printSimple r) = some (leftAssoc r) := by
  simp [parseSimple, lexSimple_printSimple r h, parseSum_toksS r]

end RegexpText
end Gamba
