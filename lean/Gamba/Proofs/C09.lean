/-
  Gamba.Proofs.C09 — helper lemmas for property C09: the PDA acceptance test (`PDA.accepts`, bounded
  ε-closure `PDA.epsClosure`) is sound w.r.t. `Gamba.Spec.PDA`, and complete when no closure is truncated.
-/
import Gamba.Proofs.PDABasic
import Gamba.Proofs.Saturate
namespace Gamba

section
variable {σ τ γ : Type} [DecidableEq σ] [DecidableEq τ] [DecidableEq γ]

theorem PDA.mem_moves {P : PDA σ τ γ} {a : τ} {c c' : PConf σ γ} :
    c' ∈ P.moves a c ↔ ∃ e, e ∈ P.delta ∧ e.1.1 = c.1 ∧ e.1.2.1 = a ∧ P.canPopPush c.2 e.1.2.2 = true ∧
      ∃ t, t ∈ e.2 ∧ c' = (t.1, P.popPush c.2 e.1.2.2 t.2) := by
  unfold PDA.moves
  rw [List.mem_flatMap]
  constructor
  · rintro ⟨e, he, hc⟩
    split at hc
    · rename_i hcond
      obtain ⟨t, ht, rfl⟩ := List.mem_map.mp hc
      exact ⟨e, he, hcond.1, hcond.2.1, hcond.2.2, t, ht, rfl⟩
    · cases hc
  · rintro ⟨e, he, h1, h2, h3, t, ht, rfl⟩
    refine ⟨e, he, ?_⟩
    rw [if_pos ⟨h1, h2, h3⟩]
    exact List.mem_map.mpr ⟨t, ht, rfl⟩

omit [DecidableEq σ] [DecidableEq τ] in
theorem PDA.popPush_stk (P : PDA σ τ γ) (st : List γ) (u v : γ) :
    P.popPush (st ++ P.stk u) u v = st ++ P.stk v := by
  unfold PDA.popPush PDA.stk
  by_cases hu : u = P.epsG <;> by_cases hv : v = P.epsG <;> simp [hu, hv]

omit [DecidableEq σ] [DecidableEq τ] in
theorem PDA.canPopPush_stk (P : PDA σ τ γ) (st : List γ) (u : γ) :
    P.canPopPush (st ++ P.stk u) u = true := by
  unfold PDA.canPopPush PDA.stk
  by_cases hu : u = P.epsG <;> simp [hu]

omit [DecidableEq σ] [DecidableEq τ] in
theorem PDA.canPopPush_split {P : PDA σ τ γ} {stack : List γ} {u : γ}
    (h : P.canPopPush stack u = true) : ∃ st, stack = st ++ P.stk u := by
  unfold PDA.canPopPush at h
  unfold PDA.stk
  by_cases hu : u = P.epsG
  · exact ⟨stack, by simp [hu]⟩
  · simp only [hu, decide_false, Bool.false_or, beq_iff_eq] at h
    simpa only [if_neg hu] using List.getLast?_eq_some_iff.mp h

/-- `moves` scans every entry of δ, `Move` looks the key up (first match): they agree when the keys are unique -/
theorem PDA.Move_of_mem_moves {P : PDA σ τ γ} (hk : (P.delta.map (·.1)).Nodup) {a : τ} {c c' : PConf σ γ}
    (h : c' ∈ P.moves a c) : P.Move a c c' := by
  obtain ⟨e, he, h1, h2, h3, t, ht, rfl⟩ := PDA.mem_moves.mp h
  obtain ⟨⟨p, a', u⟩, T⟩ := e
  obtain ⟨q, v⟩ := t
  obtain ⟨p', stack⟩ := c
  simp only at h1 h2 h3 ht
  subst h1 h2
  obtain ⟨st, rfl⟩ := PDA.canPopPush_split h3
  simp only
  rw [PDA.popPush_stk]
  exact PDA.Move.mk (Dict.lookup_of_mem_nodup hk he) ht

theorem PDA.mem_moves_of_Move {P : PDA σ τ γ} {a : τ} {c c' : PConf σ γ}
    (h : P.Move a c c') : c' ∈ P.moves a c := by
  cases h with
  | @mk p q u v T st hl hm =>
    refine PDA.mem_moves.mpr ⟨((p, a, u), T), Dict.mem_of_lookup hl, rfl, rfl, ?_, (q, v), hm, ?_⟩
    · exact PDA.canPopPush_stk P st u
    · simp only
      rw [PDA.popPush_stk]

theorem Reach.pda_epsReach {P : PDA σ τ γ} (hk : (P.delta.map (·.1)).Nodup) {R : List (PConf σ γ)} {c : PConf σ γ}
    (h : Reach (P.moves P.eps) R c) : P.EpsReach R c := by
  induction h with
  | base hm => exact .base hm
  | step _ hs ih => exact .step ih (PDA.Move_of_mem_moves hk hs)

theorem PDA.EpsReach.reach {P : PDA σ τ γ} {R : List (PConf σ γ)} {c : PConf σ γ} (h : P.EpsReach R c) :
    Reach (P.moves P.eps) R c := by
  induction h with
  | base hm => exact .base hm
  | step _ hs ih => exact .step ih (PDA.mem_moves_of_Move hs)

/-- Every iteration of `epsLoop` is a `Sat.pop`: the first component of its value is a visited list, with nothing left to do
    when the flag is `false`; and the flag is `false` when the potential of `Sat.pop_measure` fits in the limit. -/
theorem PDA.epsLoop_spec (P : PDA σ τ γ) (R U : List (PConf σ γ)) (limit : Nat) :
    ∀ (s : Sched) (result todo : List (PConf σ γ)), Sat (P.moves P.eps) R result todo →
    (∃ t, Sat (P.moves P.eps) R (P.epsLoop limit s result todo).1 t ∧
      ((P.epsLoop limit s result todo).2 = false → t = [])) ∧
    ((∀ c, Reach (P.moves P.eps) R c → c ∈ U) → result.Nodup → (U.length - result.length) + todo.length ≤ limit →
      (P.epsLoop limit s result todo).2 = false) := by
  induction limit with
  | zero =>
    intro s result todo h
    refine ⟨⟨todo, h, fun hf => by simpa [PDA.epsLoop] using hf⟩, fun _ _ hm => ?_⟩
    rw [List.eq_nil_of_length_eq_zero (Nat.le_zero.mp (Nat.le_trans (Nat.le_add_left ..) hm))]
    rfl
  | succ limit ih =>
    intro s result todo h
    simp only [PDA.epsLoop]
    split
    · rename_i hp
      exact ⟨⟨[], by rwa [pickAt_eq_none_iff.mp hp] at h, fun _ => rfl⟩, fun _ _ _ => rfl⟩
    · rename_i src rest hp
      have hnew : ∀ y, y ∈ dedup ((P.moves P.eps src).filter fun t => decide (t ∉ result)) ↔
          y ∈ P.moves P.eps src ∧ y ∉ result := fun y => by rw [mem_dedup, List.mem_filter, decide_eq_true_eq]
      have h' := h.pop hp hnew (fun _ => List.mem_append) fun _ => List.mem_append
      refine ⟨(ih _ _ _ h').1, fun hU hn hm => ?_⟩
      obtain ⟨hn', hm'⟩ := h'.pop_measure hU hn (nodup_dedup _) (fun y hy => ((hnew y).mp hy).2)
        (Nat.le_of_eq List.length_append)
      have := pickAt_length hp
      exact (ih _ _ _ h').2 hU hn' (by omega)

theorem PDA.epsClosure_inv (P : PDA σ τ γ) (limit : Nat) (s : Sched) (R : List (PConf σ γ)) :
    ∃ t, Sat (P.moves P.eps) R (P.epsClosure limit s R).1 t ∧ ((P.epsClosure limit s R).2 = false → t = []) :=
  (P.epsLoop_spec R [] limit s _ _ (.init fun _ => mem_dedup)).1

theorem PDA.epsClosure_sound (P : PDA σ τ γ) (hk : (P.delta.map (·.1)).Nodup)
    (limit : Nat) (s : Sched) (R : List (PConf σ γ)) (c : PConf σ γ)
    (h : c ∈ (P.epsClosure limit s R).1) : P.EpsReach R c := by
  obtain ⟨_, hi, _⟩ := P.epsClosure_inv limit s R
  exact Reach.pda_epsReach hk (hi.sound c h)

theorem PDA.epsClosure_base (P : PDA σ τ γ) (limit : Nat) (s : Sched) (R : List (PConf σ γ))
    (c : PConf σ γ) (h : c ∈ R) : c ∈ (P.epsClosure limit s R).1 := by
  obtain ⟨_, hi, _⟩ := P.epsClosure_inv limit s R
  exact hi.seeds c h

theorem PDA.epsClosure_complete (P : PDA σ τ γ) (limit : Nat) (s : Sched) (R : List (PConf σ γ))
    (h : (P.epsClosure limit s R).2 = false) (c : PConf σ γ) (hc : P.EpsReach R c) :
    c ∈ (P.epsClosure limit s R).1 := by
  obtain ⟨t, hi, ht⟩ := P.epsClosure_inv limit s R
  cases ht h
  exact (hi.mem_iff c).mpr hc.reach

theorem PDA.epsClosure_closed (P : PDA σ τ γ) (limit : Nat) (s : Sched) (R : List (PConf σ γ))
    (h : (P.epsClosure limit s R).2 = false) (x c' : PConf σ γ)
    (hx : x ∈ (P.epsClosure limit s R).1) (hm : P.Move P.eps x c') : c' ∈ (P.epsClosure limit s R).1 := by
  obtain ⟨t, hi, ht⟩ := P.epsClosure_inv limit s R
  cases ht h
  exact hi.closed x hx List.not_mem_nil c' (PDA.mem_moves_of_Move hm)

theorem PDA.runConfs_nil (P : PDA σ τ γ) (limit : Nat) (s : Sched) (acc : List (PConf σ γ) × Bool) :
    P.runConfs limit s acc [] = acc := by
  unfold PDA.runConfs; rfl

theorem PDA.runConfs_cons (P : PDA σ τ γ) (limit : Nat) (s : Sched) (acc : List (PConf σ γ) × Bool)
    (a : τ) (w : List τ) :
    P.runConfs limit s acc (a :: w) =
      P.runConfs limit s ((P.epsClosure limit s (P.doTransition a acc.1)).1,
        acc.2 || (P.epsClosure limit s (P.doTransition a acc.1)).2) w := by
  rw [PDA.runConfs]

theorem PDA.acceptsT_eq (P : PDA σ τ γ) (limit : Nat) (s : Sched) (w : List τ) :
    P.acceptsT limit s w =
      (((P.runConfs limit s (P.epsClosure limit s [(P.q0, [])]) w).1.any fun c => decide (c.1 ∈ P.F)),
       (P.runConfs limit s (P.epsClosure limit s [(P.q0, [])]) w).2) := by
  unfold PDA.acceptsT; rfl

theorem PDA.mem_doTransition {P : PDA σ τ γ} {a : τ} {R : List (PConf σ γ)} {c : PConf σ γ} :
    c ∈ P.doTransition a R ↔ ∃ c0, c0 ∈ R ∧ c ∈ P.moves a c0 := by
  simp only [PDA.doTransition, mem_dedup, List.mem_flatMap]

theorem PDA.runConfs_flag (P : PDA σ τ γ) (limit : Nat) (s : Sched) (w : List τ) :
    ∀ (acc : List (PConf σ γ) × Bool), (P.runConfs limit s acc w).2 = false → acc.2 = false := by
  induction w with
  | nil => intro acc h; rw [PDA.runConfs_nil] at h; exact h
  | cons a w ih =>
    intro acc h
    rw [PDA.runConfs_cons] at h
    have := ih _ h
    simp only [Bool.or_eq_false_iff] at this
    exact this.1

theorem PDA.epsClosure_run (P : PDA σ τ γ) (hk : (P.delta.map (·.1)).Nodup) (limit : Nat) (s : Sched)
    {R : List (PConf σ γ)} {c0 : PConf σ γ} {u : List τ} (hR : ∀ c, c ∈ R → P.Run c0 u c) {c : PConf σ γ}
    (hc : c ∈ (P.epsClosure limit s R).1) : P.Run c0 u c := by
  obtain ⟨c1, hc1, hr⟩ := PDA.Run.of_epsReach (P.epsClosure_sound hk limit s R c hc) (.nil c)
  exact List.append_nil u ▸ (hR c1 hc1).append hr

theorem PDA.doTransition_run (P : PDA σ τ γ) (hk : (P.delta.map (·.1)).Nodup) {a : τ} (ha : a ≠ P.eps)
    {R : List (PConf σ γ)} {c0 : PConf σ γ} {u : List τ} (hR : ∀ c, c ∈ R → P.Run c0 u c) {c : PConf σ γ}
    (hc : c ∈ P.doTransition a R) : P.Run c0 (u ++ [a]) c := by
  obtain ⟨c1, hc1, hm⟩ := PDA.mem_doTransition.mp hc
  exact PDA.Run.snoc ha (hR c1 hc1) (PDA.Move_of_mem_moves hk hm) (.nil c)

theorem PDA.epsClosure_of_run (P : PDA σ τ γ) {limit : Nat} {s : Sched} {R : List (PConf σ γ)}
    (hf : (P.epsClosure limit s R).2 = false) {c1 c : PConf σ γ} (hc : c1 ∈ R) (hr : P.Run c1 [] c) :
    c ∈ (P.epsClosure limit s R).1 :=
  P.epsClosure_complete limit s R hf c (hr.nil_epsReach (.base hc))

/-- The invariant of `runConfs` reads forwards: with `u` read so far, the set lies inside what `c0` reaches over `u`
    (and holds all of it while no closure was truncated); an iteration is a `doTransition_run` and an `epsClosure_run`
    (a `snoc_inv` and an `epsClosure_of_run`). -/
theorem PDA.runConfs_sound (P : PDA σ τ γ) (hk : (P.delta.map (·.1)).Nodup)
    (limit : Nat) (s : Sched) (c0 : PConf σ γ) (w : List τ) (hw : ∀ a, a ∈ w → a ≠ P.eps) :
    ∀ (acc : List (PConf σ γ) × Bool) (u : List τ), (∀ c, c ∈ acc.1 → P.Run c0 u c) →
      ∀ c, c ∈ (P.runConfs limit s acc w).1 → P.Run c0 (u ++ w) c := by
  induction w with
  | nil =>
    intro acc u h c hc
    rw [PDA.runConfs_nil] at hc
    exact (List.append_nil u).symm ▸ h c hc
  | cons a w ih =>
    intro acc u h c hc
    rw [PDA.runConfs_cons] at hc
    rw [List.append_cons]
    refine ih (fun b hb => hw b (List.mem_cons_of_mem _ hb)) _ _ ?_ c hc
    exact fun _ => P.epsClosure_run hk limit s fun _ => P.doTransition_run hk (hw a List.mem_cons_self) h

theorem PDA.runConfs_complete (P : PDA σ τ γ) (limit : Nat) (s : Sched) (c0 : PConf σ γ) (w : List τ) :
    ∀ (acc : List (PConf σ γ) × Bool) (u : List τ), (P.runConfs limit s acc w).2 = false →
      (∀ c, P.Run c0 u c → c ∈ acc.1) → ∀ c, P.Run c0 (u ++ w) c → c ∈ (P.runConfs limit s acc w).1 := by
  induction w with
  | nil =>
    intro acc u _ h c hr
    rw [PDA.runConfs_nil]
    exact h c (List.append_nil u ▸ hr)
  | cons a w ih =>
    intro acc u hf h c hr
    rw [PDA.runConfs_cons] at hf ⊢
    have hfl := P.runConfs_flag limit s w _ hf
    simp only [Bool.or_eq_false_iff] at hfl
    rw [List.append_cons] at hr
    refine ih _ _ hf (fun c' hr' => ?_) c hr
    obtain ⟨c1, c2, h1, h2, h3⟩ := hr'.snoc_inv
    exact P.epsClosure_of_run hfl.2 (PDA.mem_doTransition.mpr ⟨c1, h c1 h1, PDA.mem_moves_of_Move h2⟩) h3

theorem PDA.accepts_sound (P : PDA σ τ γ) (hk : (P.delta.map (·.1)).Nodup)
    (limit : Nat) (s : Sched) (w : List τ) (hw : ∀ a, a ∈ w → a ≠ P.eps)
    (h : P.accepts limit s w = true) : P.Accepts w := by
  unfold PDA.accepts at h
  rw [PDA.acceptsT_eq] at h
  simp only [List.any_eq_true, decide_eq_true_eq] at h
  obtain ⟨c, hc, hf⟩ := h
  exact ⟨c.1, c.2, hf, P.runConfs_sound hk limit s _ w hw _ []
    (fun _ => P.epsClosure_run hk limit s fun _ hc => List.mem_singleton.mp hc ▸ .nil _) c hc⟩

theorem PDA.accepts_complete (P : PDA σ τ γ) (limit : Nat) (s : Sched) (w : List τ)
    (ht : (P.acceptsT limit s w).2 = false) (h : P.Accepts w) : P.accepts limit s w = true := by
  unfold PDA.accepts
  rw [PDA.acceptsT_eq] at ht ⊢
  simp only [List.any_eq_true, decide_eq_true_eq]
  obtain ⟨f, st, hf, hr⟩ := h
  exact ⟨(f, st), P.runConfs_complete limit s _ w _ [] ht
    (fun _ => P.epsClosure_of_run (P.runConfs_flag limit s w _ ht) (List.mem_singleton.mpr rfl)) _ hr, hf⟩

end

/-! ### Concrete objects for the non-vacuity examples of Props/C09 and of the later PDA parts -/

/-- `{aⁿbⁿ | n ≥ 0}` with a bottom marker `$`; ε is the string `"eps"` -/
def C09.exPDA : PDA String String String :=
  { Q := ["s", "p", "q", "f"], Sigma := ["a", "b"], Gamma := ["$", "A"],
    delta := [(("s", "eps", "eps"), [("p", "$")]),
              (("p", "a", "eps"), [("p", "A")]),
              (("p", "eps", "eps"), [("q", "eps")]),
              (("q", "b", "A"), [("q", "eps")]),
              (("q", "eps", "$"), [("f", "eps")])],
    q0 := "s", F := ["f"], eps := "eps", epsG := "eps" }

/-- a PDA with a stack-growing ε-cycle: `(s, Xⁿ)` is ε-reachable from `(s, [])` for every `n`;
    it accepts exactly `aaa` (three `X` must have been pushed before the first `a`) -/
def C09.exLoopPDA : PDA String String String :=
  { Q := ["s", "t", "u", "f"], Sigma := ["a"], Gamma := ["X"],
    delta := [(("s", "eps", "eps"), [("s", "X")]), (("s", "a", "X"), [("t", "eps")]),
              (("t", "a", "X"), [("u", "eps")]), (("u", "a", "X"), [("f", "eps")])],
    q0 := "s", F := ["f"], eps := "eps", epsG := "eps" }

theorem C09.exPDA_keys : (C09.exPDA.delta.map (·.1)).Nodup := by decide +kernel
theorem C09.exPDA_valid : C09.exPDA.valid = true := by decide +kernel
theorem C09.exLoopPDA_keys : (C09.exLoopPDA.delta.map (·.1)).Nodup := by decide +kernel
theorem C09.exLoopPDA_valid : C09.exLoopPDA.valid = true := by decide +kernel

end Gamba
