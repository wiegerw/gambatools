/-
  Gamba.Proofs.C08a — helper lemmas for the first two phases of the Chomsky-normal-form conversion:
  `freshVariable`, `addStart`, `nullable`, `removeEps`.
-/
import Gamba.Proofs.CFGIntro
import Gamba.Proofs.CFGPairs
import Gamba.Proofs.Sweep
import Gamba.Proofs.C14a
namespace Gamba
namespace CFG

/-- `cfg_fresh_variable` and `fresh_state` count through the same candidates -/
theorem freshIndexed_eq (V : List String) (hint : String) (fuel i : Nat) :
    freshIndexed V hint fuel i = freshStateAux V hint fuel i := by
  induction fuel generalizing i with
  | zero => rfl
  | succ fuel ih => rw [freshIndexed, freshStateAux, ih]

theorem freshIndexed_not_mem (V : List String) (hint : String) :
    freshIndexed V hint (V.length + 1) 0 ∉ V :=
  freshIndexed_eq V hint _ 0 ▸ freshStateAux_not_mem V hint (Nat.le_succ _) 0

theorem upperLetters_nodup : upperLetters.Nodup := by decide +kernel

theorem freshVariable_not_mem (V : List String) (hint : String) : freshVariable V hint ∉ V := by
  unfold freshVariable
  simp only
  split
  · split
    · exact freshIndexed_not_mem V hint
    · assumption
  · rename_i hn
    split
    · assumption
    · cases hf : upperLetters.find? (fun x => decide (x ∉ V)) with
      | some x =>
        have := List.find?_some hf
        simpa using this
      | none =>
        exfalso
        rw [List.find?_eq_none] at hf
        have hsub : upperLetters ⊆ dedup V := by
          intro x hx
          have := hf x hx
          simp only [decide_not, Bool.not_eq_eq_eq_not, Bool.not_true, decide_eq_false_iff_not,
            Decidable.not_not] at this
          exact mem_dedup.mpr this
        have hlen := upperLetters_nodup.length_le_of_subset hsub
        have h26 : upperLetters.length = 26 := by decide
        omega

theorem freshVariable_of_not_mem {V : List String} {hint : String} (h : hint ∉ V) :
    freshVariable V hint = hint := by
  unfold freshVariable
  simp only [h, if_false, not_false_eq_true, if_true, ite_self]

theorem addStart_S (G : CFG) (hint : String) : (G.addStart hint).S = freshVariable G.V hint := rfl
theorem addStart_V (G : CFG) (hint : String) :
    (G.addStart hint).V = G.V ++ [freshVariable G.V hint] := rfl
theorem addStart_R (G : CFG) (hint : String) :
    (G.addStart hint).R =
      { lhs := freshVariable G.V hint, aid := G.nextAid, rhs := [.v G.S] } :: G.R := rfl
theorem addStart_Sigma (G : CFG) (hint : String) : (G.addStart hint).Sigma = G.Sigma := rfl

/-- phase 1 introduces one variable, the new start variable, standing for the old one -/
theorem addStart_intro (G : CFG) (hint : String) (hv : G.valid = true) (hS : G.S ∈ G.V) :
    C08c.Intro G (G.addStart hint) [(freshVariable G.V hint, [.v G.S])] := by
  have hfresh : ∀ A, A ∈ [(freshVariable G.V hint, [Sym.v G.S])].map (·.1) → A ∉ G.V := fun A hA => by
    rw [List.mem_singleton.mp hA]; exact freshVariable_not_mem G.V hint
  have hold : ∀ f : List Sym, (∀ x, x ∈ f → G.SymOK x) →
      C08c.subst (C08c.look [(freshVariable G.V hint, [.v G.S])]) f = f :=
    fun f hf => C08c.subst_old fun x hx => C08c.oldSym_of_fresh hfresh (hf x hx)
  have hSok : ∀ x, x ∈ [Sym.v G.S] → G.SymOK x := fun x hx => by rw [List.mem_singleton.mp hx]; exact hS
  rw [valid_iff] at hv
  exact {
    hSigma := rfl
    hV := fun A => by simp [addStart_V]
    nodup := by simp
    fresh := hfresh
    hexp := fun p hp => by rw [List.mem_singleton.mp hp]; exact ⟨by simp, hSok⟩
    rules := fun r' hr' => by
      rw [addStart_R, List.mem_cons] at hr'
      rcases hr' with rfl | hr'
      · exact Or.inr (List.mem_singleton.mpr rfl)
      · exact Or.inl ⟨r', hr', rfl, (hold _ (hv r' hr').2).symm⟩
    back := fun r hr => ⟨r, by rw [addStart_R]; exact List.mem_cons_of_mem _ hr, rfl, hold _ (hv r hr).2⟩
    defs := fun p hp => List.mem_singleton.mp hp ▸ ⟨_, addStart_R G hint ▸ List.mem_cons_self .., rfl, rfl⟩ }

theorem addStart_valid (G : CFG) (hint : String) (hv : G.valid = true) (hS : G.S ∈ G.V) :
    (G.addStart hint).valid = true :=
  (addStart_intro G hint hv hS).valid hv

theorem addStart_lang (G : CFG) (hint : String) (hv : G.valid = true) (hS : G.S ∈ G.V)
    (w : List String) : (G.addStart hint).Lang w ↔ G.Lang w := by
  rw [(addStart_intro G hint hv hS).lang hv]
  simp [C08c.subst, C08c.sigma, C08c.look, addStart_S, Lang]

theorem addStart_startNotOnRhs (G : CFG) (hint : String) (hv : G.valid = true) (hS : G.S ∈ G.V) :
    StartNotOnRhs (G.addStart hint) := by
  intro r hr hmem
  have hvalid := (valid_iff _).mp hv
  rw [addStart_R, List.mem_cons] at hr
  rw [addStart_S] at hmem
  rcases hr with rfl | hr
  · simp only [List.mem_singleton, Sym.v.injEq] at hmem
    exact freshVariable_not_mem G.V hint (hmem ▸ hS)
  · have := (hvalid r hr).2 _ hmem
    exact freshVariable_not_mem G.V hint this

theorem addStart_aliasOK (G : CFG) (hint : String) (h : AliasOK G) : AliasOK (G.addStart hint) := by
  intro r s hr hs he
  rw [addStart_R, List.mem_cons] at hr hs
  rcases hr with rfl | hr <;> rcases hs with rfl | hs
  · rfl
  · have := aid_lt_nextAid hs
    simp only at he
    omega
  · have := aid_lt_nextAid hr
    simp only at he
    omega
  · exact h r s hr hs he

def NullSound (G : CFG) (N : List String) : Prop := ∀ A, A ∈ N → G.Gen [.v A] []

/-- `Del W α β`: `β` is obtained from `α` by deleting some occurrences of variables in `W` -/
inductive Del (W : List String) : List Sym → List Sym → Prop
  | nil : Del W [] []
  | keep (x : Sym) {α β : List Sym} : Del W α β → Del W (x :: α) (x :: β)
  | drop {A : String} {α β : List Sym} : A ∈ W → Del W α β → Del W (.v A :: α) β

theorem mem_expandNullable_iff (W : List String) (α β : List Sym) :
    β ∈ expandNullable W α ↔ Del W α β := by
  induction α generalizing β with
  | nil =>
    simp only [expandNullable, List.mem_singleton]
    constructor
    · rintro rfl; exact .nil
    · intro h; cases h; rfl
  | cons x α ih =>
    have hkeep : β ∈ (expandNullable W α).map (x :: ·) ↔ ∃ β', β = x :: β' ∧ Del W α β' := by
      simp only [List.mem_map]
      constructor
      · rintro ⟨β', h, rfl⟩; exact ⟨β', rfl, (ih β').mp h⟩
      · rintro ⟨β', rfl, h⟩; exact ⟨β', (ih β').mpr h, rfl⟩
    cases x with
    | t a =>
      simp only [expandNullable]
      rw [hkeep]
      constructor
      · rintro ⟨β', rfl, h⟩; exact .keep _ h
      · intro h; cases h with
        | keep _ h => exact ⟨_, rfl, h⟩
    | v A =>
      simp only [expandNullable]
      split
      · rename_i hA
        rw [List.mem_append, hkeep, ih]
        constructor
        · rintro (⟨β', rfl, h⟩ | h)
          · exact .keep _ h
          · exact .drop hA h
        · intro h; cases h with
          | keep _ h => exact Or.inl ⟨_, rfl, h⟩
          | drop _ h => exact Or.inr h
      · rename_i hA
        rw [hkeep]
        constructor
        · rintro ⟨β', rfl, h⟩; exact .keep _ h
        · intro h; cases h with
          | keep _ h => exact ⟨_, rfl, h⟩
          | drop hA' _ => exact absurd hA' hA

theorem Del.mem {W : List String} {α β : List Sym} (h : Del W α β) : ∀ x, x ∈ β → x ∈ α := by
  induction h with
  | nil => intro x hx; exact hx
  | keep y _ ih =>
    intro x hx
    rcases List.mem_cons.mp hx with rfl | hx
    · exact List.mem_cons_self ..
    · exact List.mem_cons_of_mem _ (ih x hx)
  | drop _ _ ih => intro x hx; exact List.mem_cons_of_mem _ (ih x hx)

theorem Del.nil_iff {W : List String} {α : List Sym} : Del W α [] ↔ allIn W α = true := by
  induction α with
  | nil => exact ⟨fun _ => rfl, fun _ => .nil⟩
  | cons x α ih =>
    rw [allIn_iff]
    constructor
    · intro h
      cases h with
      | drop hA h =>
        intro y hy
        rcases List.mem_cons.mp hy with rfl | hy
        · exact ⟨_, rfl, hA⟩
        · exact allIn_iff.mp (ih.mp h) y hy
    · intro h
      obtain ⟨A, rfl, hA⟩ := h x (List.mem_cons_self ..)
      exact .drop hA (ih.mpr (allIn_iff.mpr fun y hy => h y (List.mem_cons_of_mem _ hy)))

/-- re-inserting variables that generate `[]` -/
theorem Del.gen {G : CFG} {W : List String} (hW : NullSound G W) {α β : List Sym} (h : Del W α β)
    {w : List String} (hg : G.Gen β w) : G.Gen α w := by
  induction h generalizing w with
  | nil => exact hg
  | @keep x α β _ ih =>
    obtain ⟨w1, w2, rfl, g1, g2⟩ := gen_split (f1 := [x]) (f2 := β) hg
    exact gen_append (f1 := [x]) g1 (ih g2)
  | @drop A α β hA _ ih =>
    exact gen_append (f1 := [.v A]) (w1 := []) (hW A hA) (ih hg)

theorem gen_nil_of_allIn {G : CFG} {N : List String} (hN : NullSound G N) {rhs : List Sym}
    (h : allIn N rhs = true) : G.Gen rhs [] :=
  (Del.nil_iff.mpr h).gen hN .nil

def NullInv (R : List CRule) (N : List String) : Prop := N.Nodup ∧ ∀ A, A ∈ N → A ∈ R.map (·.lhs)

theorem NullInv.length_le {R : List CRule} {N : List String} (h : NullInv R N) :
    N.length ≤ R.length := by
  have := h.1.length_le_of_subset (fun A hA => h.2 A hA)
  simpa using this

/-- a sweep appends the left side of a rule whose right side consists of nullable variables found so far: it generates
    the empty word; and it appends it only if it is new, so the list stays a duplicate-free list of left sides -/
theorem nullable_spec (G : CFG) : NullSound G G.nullable ∧ NullClosed G.R G.nullable := by
  have hstep : ∀ N r, NullSound G N ∧ NullInv G.R N → r ∈ G.R → r.lhs ∉ N ∧ allIn N r.rhs = true →
      (NullSound G (N ++ [r.lhs]) ∧ NullInv G.R (N ++ [r.lhs])) ∧
        G.R.length - (N ++ [r.lhs]).length < G.R.length - N.length := by
    intro N r ⟨hs, hi⟩ hr hc
    have hi' : NullInv G.R (N ++ [r.lhs]) :=
      ⟨List.nodup_append.mpr ⟨hi.1, List.pairwise_singleton _ _, fun a ha b hb hab =>
          hc.1 (List.mem_singleton.mp hb ▸ hab ▸ ha)⟩,
        List.forall_mem_append.mpr ⟨hi.2, List.forall_mem_singleton.mpr (List.mem_map.mpr ⟨r, hr, rfl⟩)⟩⟩
    refine ⟨⟨List.forall_mem_append.mpr ⟨hs, List.forall_mem_singleton.mpr ?_⟩, hi'⟩, ?_⟩
    · exact gen_v_iff.mpr ⟨r.rhs, ⟨r, hr, rfl, rfl⟩, gen_nil_of_allIn hs hc.2⟩
    · have := hi'.length_le
      rw [List.length_append, List.length_singleton] at this ⊢
      omega
  obtain ⟨N, h1, h2, _, h4⟩ := sweepLoop_spec (g := CRule.lhs) (μ := fun N => G.R.length - N.length) hstep (loop := nullableLoop G.R)
    (ret := id) (fun _ _ => rfl)
    (G.R.length + 1) [] ⟨nofun, List.nodup_nil, nofun⟩ (Nat.lt_succ_of_le (Nat.sub_le ..))
  rw [nullable, h1]
  exact ⟨h2.1, fun r hr ha => Classical.byContradiction fun hn => h4 r hr ⟨hn, ha⟩⟩

theorem nullable_sound (G : CFG) : NullSound G G.nullable := (nullable_spec G).1

theorem nullable_closed (G : CFG) : NullClosed G.R G.nullable := (nullable_spec G).2

theorem mem_nullable_iff (G : CFG) (A : String) : A ∈ G.nullable ↔ G.Gen [.v A] [] := by
  constructor
  · exact nullable_sound G A
  · intro h
    obtain ⟨B, hB, hmem⟩ := allIn_iff.mp (nullClosed_complete (nullable_closed G) h rfl) (.v A)
      (List.mem_singleton.mpr rfl)
    cases hB
    exact hmem

theorem gen_nil_iff_allIn (G : CFG) (f : List Sym) : G.Gen f [] ↔ allIn G.nullable f = true :=
  ⟨fun h => nullClosed_complete (nullable_closed G) h rfl, gen_nil_of_allIn (nullable_sound G)⟩

theorem mem_renumber (start : Nat) (rs : List CRule) (r' : CRule) :
    r' ∈ renumber start rs ↔ ∃ (r : CRule) (i : Nat), rs[i]? = some r ∧ r' = { r with aid := start + i } := by
  simp only [renumber, List.mem_map, Prod.exists, List.mem_zipIdx_iff_getElem?]
  exact ⟨fun ⟨r, i, h, e⟩ => ⟨r, i, h, e.symm⟩, fun ⟨r, i, h, e⟩ => ⟨r, i, h, e.symm⟩⟩

theorem map_pair_renumber (start : Nat) (rs : List CRule) : (renumber start rs).map pair = rs.map pair :=
  map_pair_zipIdx rs _ pair fun _ => rfl

theorem renumber_aid_inj (start : Nat) (rs : List CRule) {r s : CRule}
    (hr : r ∈ renumber start rs) (hs : s ∈ renumber start rs) (h : r.aid = s.aid) : r = s := by
  obtain ⟨r, i, hi, rfl⟩ := (mem_renumber _ _ _).mp hr
  obtain ⟨s, j, hj, rfl⟩ := (mem_renumber _ _ _).mp hs
  obtain rfl : i = j := Nat.add_left_cancel h
  rw [hi] at hj
  cases hj
  rfl

theorem mem_pair_dedupRules (seen rs : List CRule) (p : String × List Sym) :
    p ∈ (dedupRules seen rs).map pair ↔ p ∈ seen.map pair ∨ p ∈ rs.map pair := by
  induction rs generalizing seen with
  | nil => simp [dedupRules]
  | cons r rs ih =>
    have : dedupRules seen (r :: rs) = dedupRules (if seen.any (sameRule r) then seen else seen ++ [r]) rs := by
      rw [dedupRules]; split <;> rfl
    rw [this, ih, map_pair_addNew, mem_sinsert, List.map_cons, List.mem_cons, or_assoc]

theorem removeEps_S (G : CFG) : G.removeEps.S = G.S := rfl
theorem removeEps_V (G : CFG) : G.removeEps.V = G.V := rfl
theorem removeEps_Sigma (G : CFG) : G.removeEps.Sigma = G.Sigma := rfl

theorem epsFilter_iff (W : List String) (S A : String) (β : List Sym) :
    (!(β.isEmpty && decide (A ∈ W) && decide (A ≠ S))) = true ↔ ¬ (β = [] ∧ A ∈ W ∧ A ≠ S) := by
  simp only [Bool.not_eq_true', Bool.and_eq_false_iff, List.isEmpty_eq_false_iff,
    decide_eq_false_iff_not, ne_eq]
  constructor
  · rintro ((h | h) | h) ⟨h1, h2, h3⟩
    · exact h h1
    · exact h h2
    · exact h h3
  · intro h
    by_cases h1 : β = []
    · by_cases h2 : A ∈ W
      · by_cases h3 : A = S
        · exact Or.inr (fun hn => hn h3)
        · exact absurd ⟨h1, h2, h3⟩ h
      · exact Or.inl (Or.inr h2)
    · exact Or.inl (Or.inl h1)

theorem removeEps_hasRule (G : CFG) (A : String) (β : List Sym) :
    G.removeEps.HasRule A β ↔
      ∃ α, G.HasRule A α ∧ Del G.nullable α β ∧ ¬ (β = [] ∧ A ∈ G.nullable ∧ A ≠ G.S) := by
  rw [hasRule_iff_pair]
  unfold removeEps
  simp only []
  rw [map_pair_renumber, mem_pair_dedupRules]
  simp only [List.map_nil, List.not_mem_nil, false_or, List.mem_map, List.mem_flatMap, List.mem_filter,
    mem_expandNullable_iff, epsFilter_iff, pair, Prod.mk.injEq]
  constructor
  · rintro ⟨r, ⟨r0, hr0, β', ⟨hdel, hfil⟩, rfl⟩, rfl, rfl⟩
    exact ⟨r0.rhs, ⟨r0, hr0, rfl, rfl⟩, hdel, hfil⟩
  · rintro ⟨α, ⟨r0, hr0, rfl, rfl⟩, hdel, hfil⟩
    exact ⟨⟨r0.lhs, 0, β⟩, ⟨r0, hr0, β, ⟨hdel, hfil⟩, rfl⟩, rfl, rfl⟩

theorem removeEps_aliasOK (G : CFG) : AliasOK G.removeEps := by
  intro r s hr hs h
  rw [renumber_aid_inj _ _ hr hs h]

theorem removeEps_valid (G : CFG) (hv : G.valid = true) : G.removeEps.valid = true := by
  rw [valid_iff_hasRule] at hv ⊢
  intro A β h
  obtain ⟨α, hα, hdel, _⟩ := (removeEps_hasRule G A β).mp h
  obtain ⟨h1, h2⟩ := hv A α hα
  refine ⟨h1, ?_⟩
  intro x hx
  have := h2 x (hdel.mem x hx)
  cases x <;> exact this

theorem removeEps_noEps (G : CFG) : NoEpsExceptStart G.removeEps := by
  intro r hr he
  have h : G.removeEps.HasRule r.lhs [] := ⟨r, hr, rfl, he⟩
  obtain ⟨α, hα, hdel, hfil⟩ := (removeEps_hasRule G _ _).mp h
  have hnull : r.lhs ∈ G.nullable :=
    (mem_nullable_iff G _).mpr
      (gen_v_iff.mpr ⟨α, hα, hdel.gen (nullable_sound G) .nil⟩)
  rw [removeEps_S]
  apply Classical.byContradiction
  intro hne
  exact hfil ⟨rfl, hnull, hne⟩

theorem removeEps_startNotOnRhs (G : CFG) (h : StartNotOnRhs G) : StartNotOnRhs G.removeEps := by
  intro r hr hmem
  have hrule : G.removeEps.HasRule r.lhs r.rhs := ⟨r, hr, rfl, rfl⟩
  obtain ⟨α, ⟨r0, hr0, _, rfl⟩, hdel, _⟩ := (removeEps_hasRule G _ _).mp hrule
  exact h r0 hr0 (hdel.mem _ hmem)

theorem removeEps_gen_sound (G : CFG) {f : List Sym} {w : List String} (h : G.removeEps.Gen f w) :
    G.Gen f w := by
  refine gen_of_rules (fun A β hr w hg => ?_) h
  obtain ⟨α, hα, hdel, _⟩ := (removeEps_hasRule G _ _).mp hr
  exact gen_v_iff.mpr ⟨α, hα, hdel.gen (nullable_sound G) hg⟩

/-- completeness on forms: delete exactly the variables that generate `[]` in the derivation -/
theorem removeEps_gen_complete (G : CFG) {f : List Sym} {w : List String} (h : G.Gen f w) :
    ∃ f', Del G.nullable f f' ∧ G.removeEps.Gen f' w := by
  induction h with
  | nil => exact ⟨[], .nil, .nil⟩
  | @t a ss w _ ih =>
    obtain ⟨f', hd, hg⟩ := ih
    exact ⟨.t a :: f', .keep _ hd, .t hg⟩
  | @v A rhs ss u w hr h1 _ ih1 ih2 =>
    obtain ⟨rhs', hd1, hg1⟩ := ih1
    obtain ⟨ss', hd2, hg2⟩ := ih2
    by_cases hu : u = []
    · subst hu
      have hA : A ∈ G.nullable := (mem_nullable_iff G A).mpr (gen_v_iff.mpr ⟨rhs, hr, h1⟩)
      exact ⟨ss', .drop hA hd2, by simpa using hg2⟩
    · refine ⟨.v A :: ss', .keep _ hd2, .v ?_ hg1 hg2⟩
      refine (removeEps_hasRule G A rhs').mpr ⟨rhs, hr, hd1, ?_⟩
      rintro ⟨rfl, _, _⟩
      exact hu (gen_nil_iff.mp hg1)

theorem removeEps_lang (G : CFG) (w : List String) : G.removeEps.Lang w ↔ G.Lang w := by
  unfold Lang
  rw [removeEps_S]
  constructor
  · exact removeEps_gen_sound G
  · intro h
    obtain ⟨f', hd, hg⟩ := removeEps_gen_complete G h
    cases hd with
    | keep _ hd' =>
      cases hd'
      exact hg
    | drop hS hd' =>
      cases hd'
      rw [gen_nil_iff.mp hg]
      obtain ⟨rhs, hr, hgr⟩ := gen_v_iff.mp ((mem_nullable_iff G G.S).mp hS)
      have hall := (gen_nil_iff_allIn G rhs).mp hgr
      refine gen_v_iff.mpr ⟨[], (removeEps_hasRule G G.S []).mpr ⟨rhs, hr, Del.nil_iff.mpr hall, ?_⟩, .nil⟩
      rintro ⟨_, _, h3⟩
      exact h3 rfl

end CFG
end Gamba
