/-
  Gamba.Proofs.PDABasic — what all PDA files share about `Gamba.Spec.PDA`: `PDA.valid` unpacked; the transitions of a δ
  dictionary as a relation (`dT`, `PDA.Trans`) and as a list (`transList`); a dictionary filled by `δ[k].add(t)`, as the normal
  forms and `parse_pda` do it (`Adds d d' X`: unique keys, the relation and the closedness `PDA.valid` asks for are read off it);
  inversion and frame lemmas for `PDA.Move`, composition / decomposition / invariants of `PDA.Run` ("accepts only with the
  empty stack": `PDA.Run.empty_of_marker`), runs with a move count, and the forward simulation `PDA.Run.sim` of which every
  direction of every normal form is an instance.
-/
import Gamba.Model.PDA
import Gamba.Spec.PDA
import Gamba.Proofs.Dict
import Gamba.Proofs.ListFacts
namespace Gamba

section
variable {σ τ γ : Type} [DecidableEq σ] [DecidableEq τ] [DecidableEq γ]

namespace C10a

/-- the "closed" conjunct of `PDA.valid` for one entry -/
def POK (Q : List σ) (S : List τ) (G : List γ) (eps : τ) (epsG : γ) (e : (σ × τ × γ) × List (σ × γ)) : Prop :=
  e.1.1 ∈ Q ∧ (e.1.2.1 ∈ S ∨ e.1.2.1 = eps) ∧ (e.1.2.2 ∈ G ∨ e.1.2.2 = epsG) ∧
    ∀ t, t ∈ e.2 → t.1 ∈ Q ∧ (t.2 ∈ G ∨ t.2 = epsG)

theorem PDA_valid_iff (P : PDA σ τ γ) :
    P.valid = true ↔ P.q0 ∈ P.Q ∧ P.eps ∉ P.Sigma ∧ P.epsG ∉ P.Gamma ∧ (∀ f, f ∈ P.F → f ∈ P.Q) ∧
      ∀ e, e ∈ P.delta → POK P.Q P.Sigma P.Gamma P.eps P.epsG e := by
  simp only [PDA.valid, Bool.and_eq_true, Bool.or_eq_true, decide_eq_true_eq, ssubset_iff, List.all_eq_true, POK,
    and_assoc]

end C10a

theorem PDA.valid_eps {P : PDA σ τ γ} (hv : P.valid = true) {a : τ} (ha : a ∈ P.Sigma) : a ≠ P.eps :=
  fun he => ((C10a.PDA_valid_iff P).mp hv).2.1 (he ▸ ha)

theorem PDA.valid_epsG {P : PDA σ τ γ} (hv : P.valid = true) {x : γ} (hx : x ∈ P.Gamma) : x ≠ P.epsG :=
  fun he => ((C10a.PDA_valid_iff P).mp hv).2.2.1 (he ▸ hx)

/-- the validity assertion of the `PDA` constructor -/
theorem PDA.checked_eq_ok_iff {P P' : PDA σ τ γ} :
    P.checked = .ok P' ↔ P.valid = true ∧ P' = P := by
  unfold PDA.checked
  split
  · exact ⟨fun h => ⟨‹_›, (Except.ok.inj h).symm⟩, fun h => h.2 ▸ rfl⟩
  · exact ⟨(nomatch ·), fun h => absurd h.1 ‹_›⟩

theorem PDA.checked_ok {X D : PDA σ τ γ}
    (h : PDA.checked X = .ok D) : D = X ∧ X.valid = true :=
  (PDA.checked_eq_ok_iff.mp h).symm

theorem PDA.checked_of_valid {X : PDA σ τ γ}
    (h : X.valid = true) : PDA.checked X = .ok X := PDA.checked_eq_ok_iff.mpr ⟨h, rfl⟩

abbrev PDelta (σ τ γ : Type) := Dict (σ × τ × γ) (List (σ × γ))

/-- `t ∈ δ[k]` -/
def dT (d : PDelta σ τ γ) (k : σ × τ × γ) (t : σ × γ) : Prop := t ∈ (d.lookup k).getD []

theorem dT_iff_lookup {d : PDelta σ τ γ} {k : σ × τ × γ} {t : σ × γ} :
    dT d k t ↔ ∃ T, d.lookup k = some T ∧ t ∈ T :=
  mem_getD_nil_iff

theorem dT.mem {d : PDelta σ τ γ} {k : σ × τ × γ} {t : σ × γ} (h : dT d k t) : ∃ T, (k, T) ∈ d ∧ t ∈ T :=
  let ⟨T, hl, ht⟩ := dT_iff_lookup.mp h
  ⟨T, Dict.mem_of_lookup hl, ht⟩

theorem dT.of_mem {d : PDelta σ τ γ} (hk : (d.map (·.1)).Nodup) {k : σ × τ × γ} {T : List (σ × γ)} {t : σ × γ}
    (h : (k, T) ∈ d) (ht : t ∈ T) : dT d k t :=
  dT_iff_lookup.mpr ⟨T, Dict.lookup_of_mem_nodup hk h, ht⟩

/-- `p --a,u→v--> q` is a transition of `P` (what `δ.lookup` finds, as `PDA.Move` reads δ) -/
def PDA.Trans (P : PDA σ τ γ) (p : σ) (a : τ) (u : γ) (q : σ) (v : γ) : Prop := dT P.delta (p, a, u) (q, v)

instance (P : PDA σ τ γ) (p : σ) (a : τ) (u : γ) (q : σ) (v : γ) : Decidable (P.Trans p a u q v) := by
  unfold PDA.Trans dT; infer_instance

/-- all transitions `(key, target)` of a δ dictionary, in traversal order -/
def transList (d : PDelta σ τ γ) : List ((σ × τ × γ) × (σ × γ)) :=
  d.flatMap fun e => e.2.map fun t => (e.1, t)

omit [DecidableEq σ] [DecidableEq τ] [DecidableEq γ] in
theorem mem_transList_iff {d : PDelta σ τ γ} {x : (σ × τ × γ) × (σ × γ)} :
    x ∈ transList d ↔ ∃ T, (x.1, T) ∈ d ∧ x.2 ∈ T := by
  simp only [transList, List.mem_flatMap, List.mem_map]
  constructor
  · rintro ⟨⟨k, T⟩, he, t, ht, rfl⟩; exact ⟨T, he, ht⟩
  · rintro ⟨T, he, ht⟩; exact ⟨_, he, _, ht, rfl⟩

theorem dT.mem_transList {d : PDelta σ τ γ} {k : σ × τ × γ} {t : σ × γ} (h : dT d k t) : (k, t) ∈ transList d :=
  mem_transList_iff.mpr h.mem

theorem mem_transList {d : PDelta σ τ γ} (hk : (d.map (·.1)).Nodup) (k : σ × τ × γ) (t : σ × γ) :
    (k, t) ∈ transList d ↔ dT d k t :=
  ⟨fun h => let ⟨_, hT, ht⟩ := mem_transList_iff.mp h; dT.of_mem hk hT ht, dT.mem_transList⟩

theorem PDA.valid_transList {P : PDA σ τ γ} (hv : P.valid = true) {x : (σ × τ × γ) × (σ × γ)} (h : x ∈ transList P.delta) :
    x.1.1 ∈ P.Q ∧ (x.1.2.1 ∈ P.Sigma ∨ x.1.2.1 = P.eps) ∧ (x.1.2.2 ∈ P.Gamma ∨ x.1.2.2 = P.epsG) ∧ x.2.1 ∈ P.Q ∧
      (x.2.2 ∈ P.Gamma ∨ x.2.2 = P.epsG) := by
  obtain ⟨T, hT, ht⟩ := mem_transList_iff.mp h
  have := ((C10a.PDA_valid_iff P).mp hv).2.2.2.2 _ hT
  exact ⟨this.1, this.2.1, this.2.2.1, this.2.2.2 _ ht⟩

theorem PDA.Trans.valid {P : PDA σ τ γ} (hv : P.valid = true) {p : σ} {a : τ} {u : γ} {q : σ} {v : γ}
    (h : P.Trans p a u q v) :
    p ∈ P.Q ∧ (a ∈ P.Sigma ∨ a = P.eps) ∧ (u ∈ P.Gamma ∨ u = P.epsG) ∧ q ∈ P.Q ∧ (v ∈ P.Gamma ∨ v = P.epsG) :=
  PDA.valid_transList hv (dT.mem_transList h)

namespace C10a

theorem mem_addMove {d : PDelta σ τ γ} {k : σ × τ × γ} {t : σ × γ} {e : (σ × τ × γ) × List (σ × γ)}
    (he : e ∈ addMove d k t) : e ∈ d ∨ (e.1 = k ∧ ∀ x, x ∈ e.2 → dT d k x ∨ x = t) := by
  rcases Dict.mem_set he with rfl | he
  · exact Or.inr ⟨rfl, fun x hx => mem_sinsert.mp hx⟩
  · exact Or.inl he

theorem dT_addMove (d : PDelta σ τ γ) (k : σ × τ × γ) (t : σ × γ) (k' : σ × τ × γ) (t' : σ × γ) :
    dT (addMove d k t) k' t' ↔ dT d k' t' ∨ (k' = k ∧ t' = t) := by
  unfold dT addMove
  rw [Dict.lookup_set]
  by_cases h : k' = k
  · subst h; simp
  · simp [h]

theorem nodup_keys_addMove {d : PDelta σ τ γ} (k : σ × τ × γ) (t : σ × γ) (h : (d.map (·.1)).Nodup) :
    ((addMove d k t).map (·.1)).Nodup :=
  Dict.nodup_keys_set _ _ h

/-- `δ[k].add(t)` for the pairs `(k, t)` of a list, in order -/
def addMoves (d : PDelta σ τ γ) (M : List ((σ × τ × γ) × (σ × γ))) : PDelta σ τ γ :=
  M.foldl (fun d m => addMove d m.1 m.2) d

theorem addMoves_cons (d : PDelta σ τ γ) (m : (σ × τ × γ) × (σ × γ)) (M : List ((σ × τ × γ) × (σ × γ))) :
    addMoves d (m :: M) = addMoves (addMove d m.1 m.2) M := rfl

/-- `d'` is `d` with the transitions `X` added (`X k t`: the target `t` under the key `k`): the keys stay unique, `dT d'` is
    `dT d` or `X`, and an entry of `d'` has a key of `d` or of `X` and holds targets of `d` or of `X` -/
structure Adds (d d' : PDelta σ τ γ) (X : σ × τ × γ → σ × γ → Prop) : Prop where
  nodup : (d.map (·.1)).Nodup → (d'.map (·.1)).Nodup
  dT : ∀ k t, dT d' k t ↔ dT d k t ∨ X k t
  mem : ∀ e, e ∈ d' → (e ∈ d ∨ ∃ t, X e.1 t) ∧ ∀ t, t ∈ e.2 → (∃ T, (e.1, T) ∈ d ∧ t ∈ T) ∨ X e.1 t

namespace Adds

theorem refl (d : PDelta σ τ γ) : Adds d d fun _ _ => False :=
  ⟨id, fun _ _ => (or_iff_left id).symm, fun e he => ⟨Or.inl he, fun _ ht => Or.inl ⟨e.2, he, ht⟩⟩⟩

theorem congr {d d' : PDelta σ τ γ} {X Y : σ × τ × γ → σ × γ → Prop} (h : Adds d d' X)
    (hXY : ∀ k t, X k t ↔ Y k t) : Adds d d' Y := by
  have : X = Y := funext fun k => funext fun t => propext (hXY k t)
  exact this ▸ h

theorem addMove {d d' : PDelta σ τ γ} {X : σ × τ × γ → σ × γ → Prop} (h : Adds d d' X) (k : σ × τ × γ)
    (t : σ × γ) : Adds d (Gamba.addMove d' k t) fun k' t' => X k' t' ∨ (k' = k ∧ t' = t) := by
  refine ⟨fun hd => nodup_keys_addMove k t (h.nodup hd), fun k' t' => ?_, fun e he => ?_⟩
  · rw [dT_addMove, h.dT, or_assoc]
  · rcases mem_addMove he with he | ⟨hk, hx⟩
    · exact ⟨(h.mem e he).1.imp id fun ⟨x, hx⟩ => ⟨x, Or.inl hx⟩, fun x hx => ((h.mem e he).2 x hx).imp id Or.inl⟩
    · refine ⟨Or.inr ⟨t, Or.inr ⟨hk, rfl⟩⟩, fun x hxe => ?_⟩
      rcases hx x hxe with hx | rfl
      · obtain ⟨T, hT, hxT⟩ := hx.mem
        rw [hk]
        exact ((h.mem _ hT).2 x hxT).imp id Or.inl
      · exact Or.inr (Or.inr ⟨hk, rfl⟩)

/-- a loop that adds the transition `f q ↦ g q` for each `q` of a list that is not skipped -/
theorem foldl {α : Type} {d d' : PDelta σ τ γ} {X : σ × τ × γ → σ × γ → Prop} (h : Adds d d' X) (F : List α)
    (c : α → Prop) [DecidablePred c] (f : α → σ × τ × γ) (g : α → σ × γ) :
    Adds d (F.foldl (fun d q => if c q then d else Gamba.addMove d (f q) (g q)) d')
      fun k t => X k t ∨ ∃ q, q ∈ F ∧ ¬ c q ∧ k = f q ∧ t = g q := by
  induction F generalizing d' X with
  | nil => exact h.congr fun k t => by simp
  | cons x F ih =>
    rw [List.foldl_cons]
    by_cases hc : c x
    · rw [if_pos hc]
      exact (ih h).congr fun k t => by simp [hc]
    · rw [if_neg hc]
      exact (ih (h.addMove (f x) (g x))).congr fun k t => by simp [hc, or_assoc]

theorem POK {d d' : PDelta σ τ γ} {X : σ × τ × γ → σ × γ → Prop} (h : Adds d d' X) {Q Q' : List σ} {S : List τ}
    {G G' : List γ} {eps : τ} {epsG : γ} (hd : ∀ e, e ∈ d → C10a.POK Q S G eps epsG e) (hQ : ∀ q, q ∈ Q → q ∈ Q')
    (hG : ∀ x, x ∈ G → x ∈ G')
    (hX : ∀ k t, X k t → (k.1 ∈ Q' ∧ (k.2.1 ∈ S ∨ k.2.1 = eps) ∧ (k.2.2 ∈ G' ∨ k.2.2 = epsG)) ∧
      t.1 ∈ Q' ∧ (t.2 ∈ G' ∨ t.2 = epsG)) : ∀ e, e ∈ d' → C10a.POK Q' S G' eps epsG e := by
  intro e he
  obtain ⟨hk, ht⟩ := h.mem e he
  have hkey : e.1.1 ∈ Q' ∧ (e.1.2.1 ∈ S ∨ e.1.2.1 = eps) ∧ (e.1.2.2 ∈ G' ∨ e.1.2.2 = epsG) :=
    hk.elim (fun hk => ⟨hQ _ (hd e hk).1, (hd e hk).2.1, (hd e hk).2.2.1.imp (hG _) id⟩) fun ⟨t, hx⟩ => (hX _ _ hx).1
  refine ⟨hkey.1, hkey.2.1, hkey.2.2, fun t hte => ?_⟩
  rcases ht t hte with ⟨T, hT, htT⟩ | hx
  · exact ⟨hQ _ ((hd _ hT).2.2.2 t htT).1, ((hd _ hT).2.2.2 t htT).2.imp (hG _) id⟩
  · exact (hX _ _ hx).2

theorem addMoves {d d' : PDelta σ τ γ} {X : σ × τ × γ → σ × γ → Prop} (h : Adds d d' X)
    (M : List ((σ × τ × γ) × (σ × γ))) : Adds d (C10a.addMoves d' M) fun k t => X k t ∨ (k, t) ∈ M := by
  have := h.foldl M (fun _ => False) (·.1) (·.2)
  simp only [if_false] at this
  exact this.congr fun k t => or_congr_right
    ⟨fun ⟨m, hm, _, hk, ht⟩ => by rw [hk, ht]; exact hm, fun hm => ⟨_, hm, not_false, rfl, rfl⟩⟩

theorem of_nil (M : List ((σ × τ × γ) × (σ × γ))) : Adds [] (C10a.addMoves [] M) fun k t => (k, t) ∈ M :=
  ((refl []).addMoves M).congr fun _ _ => or_iff_right id

theorem dT_nil {d' : PDelta σ τ γ} {X : σ × τ × γ → σ × γ → Prop} (h : Adds [] d' X) (k : σ × τ × γ) (t : σ × γ) :
    Gamba.dT d' k t ↔ X k t :=
  (h.dT k t).trans (or_iff_right fun h => nomatch h)

end Adds

end C10a

omit [DecidableEq σ] [DecidableEq τ] in
theorem PDA.stk_congr {P P' : PDA σ τ γ} (hG : P'.epsG = P.epsG) (x : γ) : P'.stk x = P.stk x := by
  unfold PDA.stk; rw [hG]

omit [DecidableEq σ] [DecidableEq τ] in
theorem PDA.stk_epsG (P : PDA σ τ γ) : P.stk P.epsG = [] := by simp [PDA.stk]

omit [DecidableEq σ] [DecidableEq τ] in
theorem PDA.stk_ne {P : PDA σ τ γ} {x : γ} (h : x ≠ P.epsG) : P.stk x = [x] := by simp [PDA.stk, h]

omit [DecidableEq σ] [DecidableEq τ] in
theorem PDA.mem_stk {P : PDA σ τ γ} {x v : γ} (h : x ∈ P.stk v) : x = v := by
  unfold PDA.stk at h
  split at h
  · cases h
  · exact List.mem_singleton.mp h

theorem PDA.move_iff {P : PDA σ τ γ} {a : τ} {c c' : PConf σ γ} :
    P.Move a c c' ↔ ∃ p u q v st, P.Trans p a u q v ∧ c = (p, st ++ P.stk u) ∧ c' = (q, st ++ P.stk v) := by
  constructor
  · rintro ⟨hl, hm⟩
    exact ⟨_, _, _, _, _, dT_iff_lookup.mpr ⟨_, hl, hm⟩, rfl, rfl⟩
  · rintro ⟨p, u, q, v, st, ht, rfl, rfl⟩
    obtain ⟨T, hl, hm⟩ := dT_iff_lookup.mp ht
    exact PDA.Move.mk hl hm

theorem PDA.Run.append {P : PDA σ τ γ} {c c' c'' : PConf σ γ} {u v : List τ}
    (h1 : P.Run c u c') (h2 : P.Run c' v c'') : P.Run c (u ++ v) c'' := by
  induction h1 with
  | nil => exact h2
  | eps hm _ ih => exact PDA.Run.eps hm (ih h2)
  | sym ha hm _ ih => exact PDA.Run.sym ha hm (ih h2)

theorem PDA.Run.inv {P : PDA σ τ γ} {I : PConf σ γ → Prop} (hI : ∀ a c c', P.Move a c c' → I c → I c')
    {c c' : PConf σ γ} {w : List τ} (hr : P.Run c w c') : I c → I c' := by
  induction hr with
  | nil => exact id
  | eps hm _ ih => exact fun hc => ih (hI _ _ _ hm hc)
  | sym _ hm _ ih => exact fun hc => ih (hI _ _ _ hm hc)

/-- bottom-marker discipline: `b` is pushed only from the initial state and without a pop, the initial state is never entered
    again, and `qa` is entered only by popping `b`.  Then `b` lies nowhere but at the bottom of the stack, and `qa` is reached
    with the empty stack only. -/
theorem PDA.Run.empty_of_marker {P : PDA σ τ γ} {b : γ} {qa : σ} (hb : b ≠ P.epsG)
    (hT : ∀ p a u q v, P.Trans p a u q v → (v = b → p = P.q0 ∧ u = P.epsG) ∧ q ≠ P.q0 ∧ (q = qa → u = b ∧ v = P.epsG))
    {w : List τ} {st : List γ} (hr : P.Run (P.q0, []) w (qa, st)) : st = [] := by
  refine (hr.inv (I := fun c => b ∉ c.2.tail ∧ (c.1 = P.q0 → c.2 = []) ∧ (c.1 = qa → c.2 = [])) ?_
    ⟨List.not_mem_nil, fun _ => rfl, fun _ => rfl⟩).2.2 rfl
  rintro a c c' hm ⟨i1, i2, -⟩
  obtain ⟨p, u, q, v, st, ht, rfl, rfl⟩ := PDA.move_iff.mp hm
  obtain ⟨h1, h2, h3⟩ := hT _ _ _ _ _ ht
  refine ⟨fun hmem => ?_, fun h => absurd h h2, fun h => ?_⟩
  · cases st with
    | nil => by_cases hv : v = P.epsG <;> simp [PDA.stk, hv] at hmem
    | cons x st' =>
      rcases List.mem_append.mp hmem with h | h
      · exact i1 (List.mem_append_left _ h)
      · obtain ⟨rfl, rfl⟩ := h1 (PDA.mem_stk h).symm
        exact nomatch i2 rfl
  · obtain ⟨rfl, rfl⟩ := h3 h
    rw [PDA.stk_epsG, List.append_nil]
    cases st with
    | nil => rfl
    | cons x st' => exact absurd (List.mem_append_right _ (by rw [PDA.stk_ne hb]; exact List.mem_singleton.mpr rfl)) i1

theorem PDA.Run.over {P : PDA σ τ γ} (hv : P.valid = true) {c c' : PConf σ γ} {w : List τ} (h : P.Run c w c') :
    ∀ a, a ∈ w → a ∈ P.Sigma := by
  induction h with
  | nil c => exact fun _ ha => nomatch ha
  | eps _ _ ih => exact ih
  | sym hne hm _ ih =>
    obtain ⟨_, _, _, _, _, ht, _, _⟩ := PDA.move_iff.mp hm
    intro b hb
    rcases List.mem_cons.mp hb with rfl | hb
    · exact (ht.valid hv).2.1.resolve_right hne
    · exact ih b hb

theorem PDA.Accepts.over {P : PDA σ τ γ} (hv : P.valid = true) {w : List τ} (h : P.Accepts w) :
    ∀ a, a ∈ w → a ∈ P.Sigma :=
  let ⟨_, _, _, hr⟩ := h
  hr.over hv

/-- a move never looks below what it pops -/
theorem PDA.Move.frame {P : PDA σ τ γ} (pre : List γ) {a : τ} {c c' : PConf σ γ} (h : P.Move a c c') :
    P.Move a (c.1, pre ++ c.2) (c'.1, pre ++ c'.2) := by
  obtain ⟨h1, h2⟩ := h
  simp only [← List.append_assoc]
  exact .mk h1 h2

namespace C10a

/-- the moves of a PDA whose transitions are those of `P` plus the transitions `X` -/
theorem Move_congr {P P' : PDA σ τ γ} (hG : P'.epsG = P.epsG) {X : σ × τ × γ → σ × γ → Prop}
    (hT : ∀ k t, dT P'.delta k t ↔ dT P.delta k t ∨ X k t) {a : τ} {c c' : PConf σ γ} :
    P'.Move a c c' ↔ P.Move a c c' ∨
      ∃ p u q v st, X (p, a, u) (q, v) ∧ c = (p, st ++ P.stk u) ∧ c' = (q, st ++ P.stk v) := by
  rw [PDA.move_iff, PDA.move_iff]
  simp only [PDA.stk_congr hG, PDA.Trans, hT, or_and_right, exists_or]

theorem valid_Move {P : PDA σ τ γ} (hv : P.valid = true) {a : τ} {c c' : PConf σ γ} (h : P.Move a c c') :
    c.1 ∈ P.Q ∧ c'.1 ∈ P.Q := by
  obtain ⟨p, u, q, v, st, ht, rfl, rfl⟩ := PDA.move_iff.mp h
  have := PDA.Trans.valid hv ht
  exact ⟨this.1, this.2.2.2.1⟩

omit [DecidableEq σ] [DecidableEq τ] in
/-- `bottom :: s` ends with `stk u` for a `u` that is not the marker: the marker stays below -/
theorem marker_split {P : PDA σ τ γ} {bottom u : γ} {s st : List γ} (hb : bottom ∉ P.Gamma)
    (hu : u ∈ P.Gamma ∨ u = P.epsG) (h : bottom :: s = st ++ P.stk u) :
    ∃ s', st = bottom :: s' ∧ s = s' ++ P.stk u := by
  by_cases he : u = P.epsG
  · subst he
    rw [PDA.stk_epsG, List.append_nil] at h
    exact ⟨s, h.symm, by rw [PDA.stk_epsG, List.append_nil]⟩
  · rw [PDA.stk_ne he] at h ⊢
    have hG : u ∈ P.Gamma := hu.resolve_right he
    cases st with
    | nil =>
      simp only [List.nil_append, List.cons.injEq] at h
      exact absurd (h.1 ▸ hG) hb
    | cons x st =>
      simp only [List.cons_append, List.cons.injEq] at h
      exact ⟨st, by rw [h.1], h.2⟩

/-- a computation above a marker that is not a stack symbol never touches it -/
theorem Move_unframe {P : PDA σ τ γ} (hv : P.valid = true) {b : γ} (hb : b ∉ P.Gamma) {a : τ} {c c' : PConf σ γ}
    (hm : P.Move a c c') {s : List γ} (hs : c.2 = b :: s) :
    ∃ s', c'.2 = b :: s' ∧ P.Move a (c.1, s) (c'.1, s') := by
  obtain ⟨p, u, q, v, st, ht, rfl, rfl⟩ := PDA.move_iff.mp hm
  obtain ⟨s', rfl, rfl⟩ := marker_split hb (PDA.Trans.valid hv ht).2.2.1 hs.symm
  exact ⟨s' ++ P.stk v, rfl, PDA.move_iff.mpr ⟨p, u, q, v, s', ht, rfl, rfl⟩⟩

theorem Move_stack_Gamma {P : PDA σ τ γ} (hv : P.valid = true) {a : τ} {c c' : PConf σ γ} (hm : P.Move a c c')
    (hc : ∀ x, x ∈ c.2 → x ∈ P.Gamma) : ∀ x, x ∈ c'.2 → x ∈ P.Gamma := by
  obtain ⟨p, u, q, v, st, ht, rfl, rfl⟩ := PDA.move_iff.mp hm
  intro x hx
  rcases List.mem_append.mp hx with hx | hx
  · exact hc x (List.mem_append_left _ hx)
  · by_cases hv' : v = P.epsG
    · subst hv'; rw [PDA.stk_epsG] at hx; cases hx
    · rw [PDA.stk_ne hv', List.mem_singleton] at hx
      exact hx ▸ (PDA.Trans.valid hv ht).2.2.2.2.resolve_right hv'

end C10a

theorem PDA.Run.of_epsReach {P : PDA σ τ γ} {R : List (PConf σ γ)} {c1 r : PConf σ γ} {w : List τ}
    (h : P.EpsReach R c1) (hr : P.Run c1 w r) : ∃ c0, c0 ∈ R ∧ P.Run c0 w r := by
  induction h with
  | base hm => exact ⟨_, hm, hr⟩
  | step _ hs ih => exact ih (PDA.Run.eps hs hr)

theorem PDA.Run.nil_epsReach {P : PDA σ τ γ} {R : List (PConf σ γ)} {x y : PConf σ γ}
    (hr : P.Run x [] y) : P.EpsReach R x → P.EpsReach R y := by
  generalize hw : ([] : List τ) = w' at hr
  induction hr with
  | nil => exact id
  | eps hs _ ih => exact fun hx => ih hw (.step hx hs)
  | sym => cases hw

theorem PDA.Run.snoc_inv {P : PDA σ τ γ} {c c' : PConf σ γ} {w : List τ} {a : τ}
    (h : P.Run c (w ++ [a]) c') :
    ∃ c1 c2, P.Run c w c1 ∧ P.Move a c1 c2 ∧ P.Run c2 [] c' := by
  generalize hw : w ++ [a] = w' at h
  induction h generalizing w with
  | nil => exact absurd hw (List.append_ne_nil_of_right_ne_nil _ (List.cons_ne_nil _ _))
  | eps hm _ ih =>
    obtain ⟨c1, c2, h1, h2, h3⟩ := ih hw
    exact ⟨c1, c2, .eps hm h1, h2, h3⟩
  | sym hb hm hr ih =>
    cases w with
    | nil =>
      cases hw
      exact ⟨_, _, .nil _, hm, hr⟩
    | cons b w =>
      rw [List.cons_append, List.cons.injEq] at hw
      obtain ⟨c1, c2, h1, h2, h3⟩ := ih hw.2
      exact ⟨c1, c2, hw.1 ▸ .sym hb hm h1, h2, h3⟩

theorem PDA.Run.snoc {P : PDA σ τ γ} {c c1 c2 c' : PConf σ γ} {w : List τ} {a : τ} (ha : a ≠ P.eps)
    (h1 : P.Run c w c1) (h2 : P.Move a c1 c2) (h3 : P.Run c2 [] c') : P.Run c (w ++ [a]) c' :=
  h1.append (.sym ha h2 h3)

theorem PDA.Run.snoc_iff {P : PDA σ τ γ} {c c' : PConf σ γ} {w : List τ} {a : τ} (ha : a ≠ P.eps) :
    P.Run c (w ++ [a]) c' ↔ ∃ c1 c2, P.Run c w c1 ∧ P.Move a c1 c2 ∧ P.EpsReach [c2] c' := by
  constructor
  · intro h
    obtain ⟨c1, c2, h1, h2, h3⟩ := h.snoc_inv
    exact ⟨c1, c2, h1, h2, h3.nil_epsReach (.base (List.mem_singleton.mpr rfl))⟩
  · rintro ⟨c1, c2, h1, h2, h3⟩
    obtain ⟨c0, hc0, hr⟩ := PDA.Run.of_epsReach h3 (.nil c')
    have := List.mem_singleton.mp hc0
    subst this
    exact PDA.Run.snoc ha h1 h2 hr

namespace C10b

/-- the word consumed by a move reading `a` -/
def wd (P : PDA σ τ γ) (a : τ) : List τ := if a = P.eps then [] else [a]

theorem run_of_move {P : PDA σ τ γ} {a : τ} {c c' c'' : PConf σ γ} {w : List τ}
    (h : P.Move a c c') (h2 : P.Run c' w c'') : P.Run c (wd P a ++ w) c'' := by
  unfold wd
  split
  · next he => subst he; exact .eps h h2
  · next he => exact .sym he h h2

inductive RunN (P : PDA σ τ γ) : Nat → PConf σ γ → List τ → PConf σ γ → Prop
  | nil (c : PConf σ γ) : RunN P 0 c [] c
  | step {n : Nat} {c c' c'' : PConf σ γ} {a : τ} {w : List τ} :
      P.Move a c c' → RunN P n c' w c'' → RunN P (n + 1) c (wd P a ++ w) c''

theorem runN_run {P : PDA σ τ γ} {n : Nat} {c c' : PConf σ γ} {w : List τ} (h : RunN P n c w c') :
    P.Run c w c' := by
  induction h with
  | nil c => exact .nil c
  | step hm _ ih => exact run_of_move hm ih

end C10b

open C10b (wd run_of_move)

omit [DecidableEq σ] [DecidableEq γ] in
theorem C10b.wd_eps (P : PDA σ τ γ) : wd P P.eps = [] := if_pos rfl

omit [DecidableEq σ] [DecidableEq γ] in
theorem C10b.wd_ne {P : PDA σ τ γ} {a : τ} (h : a ≠ P.eps) : wd P a = [a] := if_neg h

theorem PDA.Move.run {P : PDA σ τ γ} {a : τ} {c c' : PConf σ γ} (h : P.Move a c c') : P.Run c (wd P a) c' := by
  simpa using run_of_move h (.nil _)

/-- an ε-move answered by no move at all -/
theorem PDA.Run.stay (P : PDA σ τ γ) (d : PConf σ γ) : P.Run d (wd P P.eps) d := by
  rw [C10b.wd_eps]; exact .nil _

/-- `R c d`: the configuration `c` of `P` stands for the configuration `d` of `P'`.  If every move of `P` from such a `c`
    is answered by a computation of `P'` from `d` over the same input, so is every computation. -/
theorem PDA.Run.sim {P P' : PDA σ τ γ} (he : P.eps = P'.eps) (R : PConf σ γ → PConf σ γ → Prop)
    (step : ∀ a c c1 d, P.Move a c c1 → R c d → ∃ d1, R c1 d1 ∧ P'.Run d (wd P' a) d1)
    {c c'' : PConf σ γ} {w : List τ} (hr : P.Run c w c'') :
    ∀ {d}, R c d → ∃ d'', R c'' d'' ∧ P'.Run d w d'' := by
  induction hr with
  | nil c => exact fun hd => ⟨_, hd, .nil _⟩
  | eps hm _ ih =>
    intro d hd
    obtain ⟨d1, h1, r1⟩ := step _ _ _ _ hm hd
    obtain ⟨d2, h2, r2⟩ := ih h1
    rw [he, C10b.wd_eps] at r1
    exact ⟨d2, h2, r1.append r2⟩
  | sym ha hm _ ih =>
    intro d hd
    obtain ⟨d1, h1, r1⟩ := step _ _ _ _ hm hd
    obtain ⟨d2, h2, r2⟩ := ih h1
    rw [C10b.wd_ne (he ▸ ha)] at r1
    exact ⟨d2, h2, r1.append r2⟩

theorem PDA.Run.mono {P P' : PDA σ τ γ} (he : P.eps = P'.eps) (hm : ∀ a c c', P.Move a c c' → P'.Move a c c')
    {c c' : PConf σ γ} {w : List τ} (hr : P.Run c w c') : P'.Run c w c' := by
  obtain ⟨_, rfl, hr'⟩ := hr.sim he Eq (fun a c c1 d m hc => ⟨c1, rfl, hc ▸ (hm _ _ _ m).run⟩) rfl
  exact hr'

theorem PDA.Run.frame {P : PDA σ τ γ} (pre : List γ) {c c' : PConf σ γ} {w : List τ} (h : P.Run c w c') :
    P.Run (c.1, pre ++ c.2) w (c'.1, pre ++ c'.2) := by
  obtain ⟨_, rfl, hr⟩ := h.sim rfl (fun c d => d = (c.1, pre ++ c.2))
    (fun a c c1 d m hc => ⟨_, rfl, hc ▸ (m.frame pre).run⟩) rfl
  exact hr

end

end Gamba
