/-
  Gamba.Proofs.NFAParts — automata glued from parts.  `A` is a part of `N` on the states `P` when `N` has all
  transitions of `A` and, from a `P`-state, can do nothing but a transition of `A` (staying in `P`) or an ε-move along a
  bridge `B`.  Runs of `N` from `P` are then runs of `A` cut at the bridges: `Part.exit_induction`.  The Thompson blocks
  (`Gamba.Proofs.C18`) are two operands joined by bridges (union, concatenation: `Glue`, whose operands are parts by
  `Glue.left` / `Glue.right`) or one operand with bridges back to its start (star: `Part` directly).
-/
import Gamba.Proofs.NFABasic
namespace Gamba
variable {σ τ : Type} [DecidableEq σ] [DecidableEq τ]

structure NFA.Part (A N : NFA σ τ) (P : σ → Prop) (B : σ → σ → Prop) : Prop where
  eps : N.eps = A.eps
  sub : ∀ q a q', A.Succ q a q' → N.Succ q a q'
  loc : ∀ q a q', P q → N.Succ q a q' → (A.Succ q a q' ∧ P q') ∨ (a = A.eps ∧ B q q')

namespace NFA.Part
variable {A N : NFA σ τ} {P : σ → Prop} {B : σ → σ → Prop}

theorem run (h : Part A N P B) {q r : σ} {w : List τ} (hr : A.Run q w r) : N.Run q w r :=
  hr.mono h.eps h.sub

theorem bridge (h : Part A N P B) (hB : ∀ e t, B e t → N.Succ e N.eps t) {q e t r : σ} {u v : List τ}
    (hu : A.Run q u e) (hb : B e t) (hv : N.Run t v r) : N.Run q (u ++ v) r :=
  (h.run hu).append (.eps (hB e t hb) hv)

/-- To prove `C` of every run of `N` that starts in `P`: prove it of the runs of `A`, and of a run of `A` followed by
    a bridge and a run of `N` of which `C` is known already (if the bridge leads back into `P`). -/
theorem exit_induction (h : Part A N P B) {C : σ → List τ → σ → Prop}
    (base : ∀ q w r, A.Run q w r → P r → C q w r)
    (step : ∀ q u e t v r, A.Run q u e → P e → B e t → N.Run t v r → (P t → C t v r) → C q (u ++ v) r)
    {q r : σ} {w : List τ} (hr : N.Run q w r) (hq : P q) : C q w r := by
  -- the run of `A` read so far is carried along as `q0 —u0→ q`
  suffices H : ∀ q0 u0, A.Run q0 u0 q → C q0 (u0 ++ w) r from H q [] (.nil q)
  induction hr with
  | nil q => intro q0 u0 h0; rw [List.append_nil]; exact base _ _ _ h0 hq
  | @eps q q' r w hs hr' ih =>
    intro q0 u0 h0
    rcases h.loc _ _ _ hq hs with ⟨ha, hp⟩ | ⟨-, hb⟩
    · have := ih hp q0 (u0 ++ []) (h0.append (.single_eps (h.eps ▸ ha)))
      rwa [List.append_nil] at this
    · exact step _ _ _ _ _ _ h0 hq hb hr' fun hp => ih hp q' [] (.nil _)
  | @sym q q' r a w ha hs hr' ih =>
    intro q0 u0 h0
    rcases h.loc _ _ _ hq hs with ⟨hA, hp⟩ | ⟨he, -⟩
    · have := ih hp q0 (u0 ++ [a]) (h0.append (.single_sym (h.eps ▸ ha) hA))
      rwa [List.append_assoc] at this
    · exact absurd (he.trans h.eps.symm) ha

theorem confined (h : Part A N P fun _ _ => False) {q r : σ} {w : List τ} (hr : N.Run q w r) (hq : P q) :
    A.Run q w r ∧ P r :=
  h.exit_induction (C := fun q w r => A.Run q w r ∧ P r) (fun _ _ _ h1 h2 => ⟨h1, h2⟩)
    (fun _ _ _ _ _ _ _ _ hb => hb.elim) hr hq

end NFA.Part

structure NFA.Glue (N1 N2 N : NFA σ τ) (X : σ → τ → σ → Prop) : Prop where
  v1 : N1.valid = true
  v2 : N2.valid = true
  disj : ∀ q, q ∈ N1.Q → q ∉ N2.Q
  eps1 : N.eps = N1.eps
  eps2 : N.eps = N2.eps
  succ : ∀ q a q', N.Succ q a q' ↔ (N1.Succ q a q' ∨ N2.Succ q a q') ∨ X q a q'

namespace NFA.Glue
variable {N1 N2 N : NFA σ τ} {X : σ → τ → σ → Prop}

theorem symm (h : Glue N1 N2 N X) : Glue N2 N1 N X :=
  ⟨h.v2, h.v1, fun q h2 h1 => h.disj q h1 h2, h.eps2, h.eps1, fun q a q' => (h.succ q a q').trans (or_congr_left Or.comm)⟩

/-- the first operand as a part: the `X`-transitions leaving it are the bridges `B` -/
theorem left (h : Glue N1 N2 N X) {B : σ → σ → Prop}
    (hX : ∀ q a q', q ∈ N1.Q → X q a q' → a = N1.eps ∧ B q q') : Part N1 N (· ∈ N1.Q) B where
  eps := h.eps1
  sub q a q' hs := (h.succ q a q').mpr (Or.inl (Or.inl hs))
  loc q a q' hq hs := by
    rcases (h.succ q a q').mp hs with (h1 | h2) | hx
    · exact Or.inl ⟨h1, valid_Succ h.v1 h1⟩
    · exact absurd (valid_Succ_src h.v2 h2) (h.disj q hq)
    · exact Or.inr (hX q a q' hq hx)

theorem right (h : Glue N1 N2 N X) {B : σ → σ → Prop}
    (hX : ∀ q a q', q ∈ N2.Q → X q a q' → a = N2.eps ∧ B q q') : Part N2 N (· ∈ N2.Q) B :=
  h.symm.left hX

theorem outside (h : Glue N1 N2 N X) {q q' : σ} {a : τ} (h1 : q ∉ N1.Q) (h2 : q ∉ N2.Q) (hs : N.Succ q a q') :
    X q a q' := by
  rcases (h.succ q a q').mp hs with (s | s) | s
  · exact absurd (valid_Succ_src h.v1 s) h1
  · exact absurd (valid_Succ_src h.v2 s) h2
  · exact s

end NFA.Glue
end Gamba
