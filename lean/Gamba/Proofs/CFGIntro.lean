/-
  Gamba.Proofs.CFGIntro — grammars with introduced variables.  Phases 1, 4 and 5 of the Chomsky-normal-form conversion
  add fresh variables that stand for fixed forms and are defined by them (the new start variable for the old one, a
  variable for the tail of a long right-hand side, `A_a` for the terminal `a`).  `Intro` states that relation between two
  grammars and gives validity, the ε- and start-variable postconditions and language preservation once.
-/
import Gamba.Proofs.CFGBasic
import Gamba.Proofs.Dict
namespace Gamba
namespace CFG
/- the namespace is `Gamba.CFG.C08c`, that of the phase proofs that use these lemmas -/
namespace C08c

/-- expansion of one symbol: a variable `X` with `exp X = some e` stands for the form `e` -/
def sigma (exp : String → Option (List Sym)) : Sym → List Sym
  | .t a => [.t a]
  | .v X => (exp X).getD [.v X]

def subst (exp : String → Option (List Sym)) (f : List Sym) : List Sym := f.flatMap (sigma exp)

theorem subst_nil (exp) : subst exp [] = [] := rfl
theorem subst_cons (exp) (x : Sym) (f : List Sym) : subst exp (x :: f) = sigma exp x ++ subst exp f := by
  simp [subst]

def OldSym (exp : String → Option (List Sym)) : Sym → Prop
  | .t _ => True
  | .v X => exp X = none

theorem sigma_old {exp} {x : Sym} (h : OldSym exp x) : sigma exp x = [x] := by
  cases x with
  | t a => rfl
  | v X => simp only [OldSym] at h; simp [sigma, h]

theorem subst_old {exp} {f : List Sym} (h : ∀ x, x ∈ f → OldSym exp x) : subst exp f = f := by
  induction f with
  | nil => rfl
  | cons x f ih =>
    rw [subst_cons, sigma_old (h x (by simp)), ih (fun y hy => h y (List.mem_cons_of_mem _ hy))]
    rfl

theorem mem_subst_of_old {exp} {x : Sym} {f : List Sym} (hx : x ∈ f) (ho : OldSym exp x) : x ∈ subst exp f :=
  List.mem_flatMap.mpr ⟨x, hx, by rw [sigma_old ho]; exact List.mem_singleton.mpr rfl⟩

/-- if every introduced variable generates (in `G'`) what its expansion generates, forms can be folded back -/
theorem gen_unsubst {G' : CFG} (exp : String → Option (List Sym))
    (h : ∀ X e, exp X = some e → ∀ w, G'.Gen e w → G'.Gen [.v X] w) :
    ∀ {f : List Sym} {w : List String}, G'.Gen (subst exp f) w → G'.Gen f w := by
  intro f
  induction f with
  | nil => intro w hg; exact hg
  | cons x f ih =>
    intro w hg
    rw [subst_cons] at hg
    obtain ⟨w1, w2, rfl, g1, g2⟩ := gen_split hg
    have g1' : G'.Gen [x] w1 := by
      cases x with
      | t a => exact g1
      | v X =>
        cases he : exp X with
        | none => simpa [sigma, he] using g1
        | some e =>
          simp only [sigma, he, Option.getD_some] at g1
          exact h X e he w1 g1
    exact gen_append (f1 := [x]) g1' (ih g2)

/-- the expansion function of a table of (introduced variable, form) pairs -/
def look (T : List (String × List Sym)) (X : String) : Option (List Sym) := T.lookup X

theorem look_none_iff {T : List (String × List Sym)} {X : String} : look T X = none ↔ X ∉ T.map (·.1) :=
  Dict.lookup_eq_none_iff

theorem look_some_iff {T : List (String × List Sym)} (hn : (T.map (·.1)).Nodup) {X : String} {e : List Sym} :
    look T X = some e ↔ (X, e) ∈ T :=
  ⟨Dict.mem_of_lookup, Dict.lookup_of_mem_nodup hn⟩

theorem oldSym_of_fresh {G : CFG} {T : List (String × List Sym)} (hfresh : ∀ A, A ∈ T.map (·.1) → A ∉ G.V) {x : Sym}
    (hx : G.SymOK x) : OldSym (look T) x := by
  cases x with
  | t a => trivial
  | v X => exact look_none_iff.mpr fun hm => hfresh X hm hx

/-- `G'` is `G` with the variables of the table `T` added, each standing for its form (over the symbols of `G`) and
    defined by it: a rule of `G'` is, read through the expansion, a rule of `G`, or the defining rule of an introduced
    variable.  The start variable of `G'` may itself be an introduced one (phase 1). -/
structure Intro (G G' : CFG) (T : List (String × List Sym)) : Prop where
  hSigma : G'.Sigma = G.Sigma
  hV : ∀ A, A ∈ G'.V ↔ A ∈ G.V ∨ A ∈ T.map (·.1)
  nodup : (T.map (·.1)).Nodup
  fresh : ∀ A, A ∈ T.map (·.1) → A ∉ G.V
  hexp : ∀ p, p ∈ T → p.2 ≠ [] ∧ ∀ x, x ∈ p.2 → G.SymOK x
  rules : ∀ r', r' ∈ G'.R →
    (∃ r, r ∈ G.R ∧ r.lhs = r'.lhs ∧ r.rhs = subst (look T) r'.rhs) ∨ (r'.lhs, r'.rhs) ∈ T
  back : ∀ r, r ∈ G.R → ∃ r', r' ∈ G'.R ∧ r'.lhs = r.lhs ∧ subst (look T) r'.rhs = r.rhs
  defs : ∀ p, p ∈ T → G'.HasRule p.1 p.2

namespace Intro
variable {G G' : CFG} {T : List (String × List Sym)}

theorem V_mono (h : Intro G G' T) : ∀ A, A ∈ G.V → A ∈ G'.V := fun A hA => (h.hV A).mpr (Or.inl hA)

theorem old (h : Intro G G' T) {x : Sym} (hx : G.SymOK x) : OldSym (look T) x := oldSym_of_fresh h.fresh hx

theorem subst_form (h : Intro G G' T) {p : String × List Sym} (hp : p ∈ T) : subst (look T) p.2 = p.2 :=
  subst_old fun x hx => h.old ((h.hexp p hp).2 x hx)

theorem valid (h : Intro G G' T) (hv : G.valid = true) : G'.valid = true := by
  rw [valid_iff] at hv ⊢
  intro r' hr'
  have hsub : ∀ x, x ∈ subst (look T) r'.rhs → G.SymOK x := by
    rcases h.rules r' hr' with ⟨r, hr, _, he⟩ | hm
    · exact he ▸ (hv r hr).2
    · exact (h.subst_form hm).symm ▸ (h.hexp _ hm).2
  constructor
  · rcases h.rules r' hr' with ⟨r, hr, hl, _⟩ | hm
    · exact h.V_mono _ (hl ▸ (hv r hr).1)
    · exact (h.hV _).mpr (Or.inr (List.mem_map.mpr ⟨_, hm, rfl⟩))
  · intro x hx
    have hold : OldSym (look T) x → G'.SymOK x := fun ho =>
      (hsub x (mem_subst_of_old hx ho)).mono h.V_mono h.hSigma
    cases x with
    | t a => exact hold trivial
    | v X =>
      by_cases hX : X ∈ T.map (·.1)
      · exact (h.hV X).mpr (Or.inr hX)
      · exact hold (look_none_iff.mpr hX)

theorem noEps (h : Intro G G' T) (hS : G'.S = G.S) (hn : NoEpsExceptStart G) : NoEpsExceptStart G' := by
  intro r' hr' hnil
  rw [hS]
  rcases h.rules r' hr' with ⟨r, hr, hl, he⟩ | hm
  · rw [← hl]; exact hn r hr (by rw [he, hnil]; rfl)
  · rw [hnil] at hm; exact absurd rfl (h.hexp _ hm).1

theorem startNotOnRhs (h : Intro G G' T) (hS : G'.S = G.S) (hSV : G.S ∈ G.V)
    (hT : ∀ p, p ∈ T → Sym.v G.S ∉ p.2) (hn : StartNotOnRhs G) : StartNotOnRhs G' := by
  intro r' hr' hmem
  rw [hS] at hmem
  rcases h.rules r' hr' with ⟨r, hr, _, he⟩ | hm
  · exact hn r hr (he ▸ mem_subst_of_old hmem (h.old (x := .v G.S) hSV))
  · exact hT _ hm hmem

/-- a derivation of `G'` expands to one of `G` (`gen_bind`); a derivation of `G` is folded back rule by rule -/
theorem lang (h : Intro G G' T) (hv : G.valid = true) (w : List String) :
    G'.Lang w ↔ G.Gen (subst (look T) [.v G'.S]) w := by
  rw [valid_iff] at hv
  have hfold := fun {f w} => gen_unsubst (G' := G') (look T)
    (fun X e he w hg => gen_v_iff.mpr ⟨e, h.defs (X, e) ((look_some_iff h.nodup).mp he), hg⟩) (f := f) (w := w)
  constructor
  · refine gen_bind (sigma (look T)) (fun _ => rfl) ?_
    rintro A rhs ⟨r', hr', rfl, rfl⟩ w hg
    rcases h.rules r' hr' with ⟨r, hr, hl, he⟩ | hm
    · rw [← hl, sigma_old (h.old (x := .v r.lhs) (hv r hr).1)]
      exact gen_v_iff.mpr ⟨_, ⟨r, hr, rfl, he⟩, hg⟩
    · have he : subst (look T) r'.rhs = r'.rhs := h.subst_form hm
      simpa [sigma, (look_some_iff h.nodup).mpr hm] using he ▸ hg
  · intro hg
    refine hfold (gen_of_rules (fun A rhs hr w hg => ?_) hg)
    obtain ⟨r, hr, rfl, rfl⟩ := hr
    obtain ⟨r', hr', hl, hs⟩ := h.back r hr
    exact gen_v_iff.mpr ⟨r'.rhs, ⟨r', hr', hl, rfl⟩, hfold (hs ▸ hg)⟩

/-- the usual case: the start variable is an old one -/
theorem lang_of_S (h : Intro G G' T) (hv : G.valid = true) (hS : G'.S = G.S) (hSV : G.S ∈ G.V) (w : List String) :
    G'.Lang w ↔ G.Lang w := by
  rw [h.lang hv, hS, subst_old fun x hx => by rw [List.mem_singleton.mp hx]; exact h.old (x := .v G.S) hSV]
  rfl

end Intro

end C08c
end CFG
end Gamba
