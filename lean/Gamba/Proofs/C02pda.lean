/-
  Gamba.Proofs.C02pda — helper lemmas for property C02 (PDA part): the model of `pda_words_up_to_n`
  (`PDA.wordsUpTo`, `PDA.wordsLoop`) is sound for every limit and exact when no ε-closure is truncated.
-/
import Gamba.Proofs.C09
import Gamba.Proofs.Words
namespace Gamba

section
variable {σ τ γ : Type} [DecidableEq σ] [DecidableEq τ] [DecidableEq γ]

/-- the `step` list of `PDA.wordsLoop` -/
def PDA.wStep (P : PDA σ τ γ) (limit : Nat) (s : Sched) (W : List (PConf σ γ × List τ)) :
    List (List (PConf σ γ × List τ) × Bool) :=
  W.flatMap fun p => P.Sigma.map fun a =>
    ((P.epsClosure limit s (P.doTransition a [p.1])).1.map fun r1 => (r1, p.2 ++ [a]),
     (P.epsClosure limit s (P.doTransition a [p.1])).2)

/-- the `W1` list of `PDA.wordsLoop` -/
def PDA.wNext (P : PDA σ τ γ) (limit : Nat) (s : Sched) (W : List (PConf σ γ × List τ)) :
    List (PConf σ γ × List τ) :=
  dedup ((P.wStep limit s W).flatMap (·.1))

theorem PDA.wordsLoop_zero (P : PDA σ τ γ) (limit : Nat) (s : Sched) (W : List (PConf σ γ × List τ))
    (result : List (List τ)) (tr : Bool) : P.wordsLoop limit s 0 W result tr = (result, tr) := by
  rw [PDA.wordsLoop]

theorem PDA.wordsLoop_succ (P : PDA σ τ γ) (limit : Nat) (s : Sched) (n : Nat)
    (W : List (PConf σ γ × List τ)) (result : List (List τ)) (tr : Bool) :
    P.wordsLoop limit s (n + 1) W result tr =
      P.wordsLoop limit s n (P.wNext limit s W)
        (sunion result (((P.wNext limit s W).filter fun p => decide (p.1.1 ∈ P.F)).map (·.2)))
        (tr || (P.wStep limit s W).any (·.2)) := by
  rw [PDA.wordsLoop]
  rfl

theorem PDA.wordsUpTo_eq (P : PDA σ τ γ) (limit : Nat) (s : Sched) (n : Nat) :
    P.wordsUpTo limit s n =
      P.wordsLoop limit s n ((P.epsClosure limit s [(P.q0, [])]).1.map fun r => (r, []))
        (if (P.epsClosure limit s [(P.q0, [])]).1.any (fun c => decide (c.1 ∈ P.F)) then [[]] else [])
        (P.epsClosure limit s [(P.q0, [])]).2 := by
  unfold PDA.wordsUpTo
  rfl

theorem PDA.mem_wNext {P : PDA σ τ γ} {limit : Nat} {s : Sched} {W : List (PConf σ γ × List τ)}
    {x : PConf σ γ × List τ} :
    x ∈ P.wNext limit s W ↔ ∃ p, p ∈ W ∧ ∃ a, a ∈ P.Sigma ∧
      ∃ r1, r1 ∈ (P.epsClosure limit s (P.doTransition a [p.1])).1 ∧ x = (r1, p.2 ++ [a]) := by
  simp only [PDA.wNext, PDA.wStep, mem_dedup, List.mem_flatMap, List.mem_map]
  constructor
  · rintro ⟨l, ⟨p, hp, a, ha, rfl⟩, hx⟩
    simp only [List.mem_map] at hx
    obtain ⟨r1, hr1, rfl⟩ := hx
    exact ⟨p, hp, a, ha, r1, hr1, rfl⟩
  · rintro ⟨p, hp, a, ha, r1, hr1, rfl⟩
    exact ⟨_, ⟨p, hp, a, ha, rfl⟩, List.mem_map.mpr ⟨r1, hr1, rfl⟩⟩

theorem PDA.wStep_flag {P : PDA σ τ γ} {limit : Nat} {s : Sched} {W : List (PConf σ γ × List τ)}
    (h : (P.wStep limit s W).any (·.2) = false) {p : PConf σ γ × List τ} (hp : p ∈ W) {a : τ}
    (ha : a ∈ P.Sigma) : (P.epsClosure limit s (P.doTransition a [p.1])).2 = false := by
  rw [List.any_eq_false] at h
  have hm : (((P.epsClosure limit s (P.doTransition a [p.1])).1.map fun r1 => (r1, p.2 ++ [a])),
     (P.epsClosure limit s (P.doTransition a [p.1])).2) ∈ P.wStep limit s W := by
    simp only [PDA.wStep, List.mem_flatMap, List.mem_map]
    exact ⟨p, hp, a, ha, rfl⟩
  have := h _ hm
  simpa using this

theorem PDA.wordsLoop_flag (P : PDA σ τ γ) (limit : Nat) (s : Sched) (n : Nat) :
    ∀ (W : List (PConf σ γ × List τ)) (result : List (List τ)) (tr : Bool),
      (P.wordsLoop limit s n W result tr).2 = false → tr = false := by
  induction n with
  | zero => intro W result tr h; rw [PDA.wordsLoop_zero] at h; exact h
  | succ n ih =>
    intro W result tr h
    rw [PDA.wordsLoop_succ] at h
    have := ih _ _ _ h
    simp only [Bool.or_eq_false_iff] at this
    exact this.1

/-- `x = (c, u)` belongs to the `i`-th frontier from `c0`: `u` is a word of length `i` over Σ that takes `c0` to `c` -/
abbrev PDA.Front (P : PDA σ τ γ) (c0 : PConf σ γ) (i : Nat) (x : PConf σ γ × List τ) : Prop :=
  x.2.length = i ∧ (∀ a, a ∈ x.2 → a ∈ P.Sigma) ∧ P.Run c0 x.2 x.1

theorem PDA.wNext_sound (P : PDA σ τ γ) (hk : (P.delta.map (·.1)).Nodup) (hv : P.valid = true)
    (limit : Nat) (s : Sched) (i : Nat) (c0 : PConf σ γ) (W : List (PConf σ γ × List τ))
    (hW : ∀ x, x ∈ W → P.Front c0 i x) : ∀ x, x ∈ P.wNext limit s W → P.Front c0 (i + 1) x := by
  intro x hx
  obtain ⟨p, hp, a, ha, r1, hr1, rfl⟩ := PDA.mem_wNext.mp hx
  obtain ⟨h1, h2, h3⟩ := hW p hp
  have hae : a ≠ P.eps := PDA.valid_eps hv ha
  obtain ⟨hl, hs⟩ := (length_succ_over_iff P.Sigma i (p.2 ++ [a])).mpr ⟨_, a, rfl, ⟨h1, h2⟩, ha⟩
  exact ⟨hl, hs, P.epsClosure_run hk limit s
    (fun _ => P.doTransition_run hk hae fun _ hc => List.mem_singleton.mp hc ▸ h3) hr1⟩

theorem PDA.wNext_complete (P : PDA σ τ γ)
    (limit : Nat) (s : Sched) (i : Nat) (c0 : PConf σ γ) (W : List (PConf σ γ × List τ))
    (hf : (P.wStep limit s W).any (·.2) = false)
    (hW : ∀ x, P.Front c0 i x → x ∈ W) : ∀ x, P.Front c0 (i + 1) x → x ∈ P.wNext limit s W := by
  rintro ⟨c, w'⟩ ⟨hl, hs, hr⟩
  obtain ⟨w, a, rfl, ⟨hwl, hws⟩, ha⟩ := (length_succ_over_iff P.Sigma i w').mp ⟨hl, hs⟩
  obtain ⟨c1, c2, h1, h2, h3⟩ := hr.snoc_inv
  have hp : (c1, w) ∈ W := hW (c1, w) ⟨hwl, hws, h1⟩
  have hfl := PDA.wStep_flag hf hp ha
  refine PDA.mem_wNext.mpr ⟨(c1, w), hp, a, ha, c, ?_, rfl⟩
  exact P.epsClosure_of_run hfl
    (PDA.mem_doTransition.mpr ⟨c1, List.mem_singleton.mpr rfl, PDA.mem_moves_of_Move h2⟩) h3

omit [DecidableEq τ] [DecidableEq γ] in
theorem PDA.mem_finals {P : PDA σ τ γ} {W : List (PConf σ γ × List τ)} {w : List τ} :
    w ∈ ((W.filter fun p => decide (p.1.1 ∈ P.F)).map (·.2)) ↔ ∃ c, (c, w) ∈ W ∧ c.1 ∈ P.F := by
  simp only [List.mem_map, List.mem_filter, decide_eq_true_eq]
  constructor
  · rintro ⟨⟨c, w'⟩, ⟨h1, h2⟩, rfl⟩
    exact ⟨c, h1, h2⟩
  · rintro ⟨c, h1, h2⟩
    exact ⟨(c, w), ⟨h1, h2⟩, rfl⟩

theorem PDA.wordsLoop_sound (P : PDA σ τ γ) (hk : (P.delta.map (·.1)).Nodup) (hv : P.valid = true)
    (limit : Nat) (s : Sched) (n : Nat) :
    ∀ (i : Nat) (W : List (PConf σ γ × List τ)) (result : List (List τ)) (tr : Bool),
      (∀ x, x ∈ W → P.Front (P.q0, []) i x) →
      (∀ w, w ∈ result → w.length ≤ i ∧ (∀ a, a ∈ w → a ∈ P.Sigma) ∧ P.Accepts w) →
      ∀ w, w ∈ (P.wordsLoop limit s n W result tr).1 →
        w.length ≤ i + n ∧ (∀ a, a ∈ w → a ∈ P.Sigma) ∧ P.Accepts w := by
  induction n with
  | zero =>
    intro i W result tr _ hR w hw
    rw [PDA.wordsLoop_zero] at hw
    exact hR w hw
  | succ n ih =>
    intro i W result tr hW hR w hw
    rw [PDA.wordsLoop_succ] at hw
    have hW' := P.wNext_sound hk hv limit s i (P.q0, []) W hW
    have := ih (i + 1) _ _ _ hW' ?_ w hw
    · refine ⟨by omega, this.2⟩
    · intro w' hw'
      rcases mem_sunion.mp hw' with h | h
      · obtain ⟨h1, h2⟩ := hR w' h
        exact ⟨by omega, h2⟩
      · obtain ⟨c, hc, hf⟩ := PDA.mem_finals.mp h
        obtain ⟨h1, h2, h3⟩ := hW' _ hc
        exact ⟨by simp only at h1; omega, h2, c.1, c.2, hf, h3⟩

theorem PDA.wordsLoop_complete (P : PDA σ τ γ)
    (limit : Nat) (s : Sched) (n : Nat) :
    ∀ (i : Nat) (W : List (PConf σ γ × List τ)) (result : List (List τ)) (tr : Bool),
      (P.wordsLoop limit s n W result tr).2 = false →
      (∀ x, P.Front (P.q0, []) i x → x ∈ W) →
      (∀ w : List τ, w.length ≤ i → (∀ a, a ∈ w → a ∈ P.Sigma) → P.Accepts w → w ∈ result) →
      ∀ w : List τ, w.length ≤ i + n → (∀ a, a ∈ w → a ∈ P.Sigma) → P.Accepts w →
        w ∈ (P.wordsLoop limit s n W result tr).1 := by
  induction n with
  | zero =>
    intro i W result tr _ _ hR w hl hs ha
    rw [PDA.wordsLoop_zero]
    exact hR w hl hs ha
  | succ n ih =>
    intro i W result tr hf hW hR w hl hs ha
    rw [PDA.wordsLoop_succ] at hf ⊢
    have hfl := P.wordsLoop_flag limit s n _ _ _ hf
    simp only [Bool.or_eq_false_iff] at hfl
    have hW' := P.wNext_complete limit s i (P.q0, []) W hfl.2 hW
    refine ih (i + 1) _ _ _ hf hW' ?_ w (by omega) hs ha
    intro w' hl' hs' ha'
    apply mem_sunion.mpr
    by_cases hle : w'.length ≤ i
    · exact Or.inl (hR w' hle hs' ha')
    · right
      obtain ⟨f, st, hf', hr⟩ := ha'
      exact PDA.mem_finals.mpr ⟨(f, st), hW' ((f, st), w') ⟨by simp only; omega, hs', hr⟩, hf'⟩

theorem PDA.wordsUpTo_complete (P : PDA σ τ γ)
    (limit : Nat) (s : Sched) (n : Nat) (ht : (P.wordsUpTo limit s n).2 = false) (w : List τ)
    (hl : w.length ≤ n) (hs : ∀ a, a ∈ w → a ∈ P.Sigma) (ha : P.Accepts w) :
    w ∈ (P.wordsUpTo limit s n).1 := by
  rw [PDA.wordsUpTo_eq] at ht ⊢
  have h0 := P.wordsLoop_flag limit s n _ _ _ ht
  have hR0 : ∀ c, P.Run (P.q0, []) [] c → c ∈ (P.epsClosure limit s [(P.q0, [])]).1 :=
    fun _ => P.epsClosure_of_run h0 (List.mem_singleton.mpr rfl)
  refine P.wordsLoop_complete limit s n 0 _ _ _ ht ?_ ?_ w (by omega) hs ha
  · rintro ⟨c, w'⟩ ⟨hl', _, hr⟩
    simp only at hl' hr
    have := List.eq_nil_of_length_eq_zero hl'
    subst this
    exact List.mem_map.mpr ⟨c, hR0 c hr, rfl⟩
  · intro w' hl' _ ha'
    have := List.eq_nil_of_length_eq_zero (Nat.le_zero.mp hl')
    subst this
    obtain ⟨f, st, hf, hr⟩ := ha'
    have : (P.epsClosure limit s [(P.q0, [])]).1.any (fun c => decide (c.1 ∈ P.F)) = true := by
      simp only [List.any_eq_true, decide_eq_true_eq]
      exact ⟨(f, st), hR0 _ hr, hf⟩
    rw [if_pos this]
    exact List.mem_singleton.mpr rfl

end
end Gamba
