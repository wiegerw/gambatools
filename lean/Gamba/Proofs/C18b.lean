/-
  Gamba.Proofs.C18b — helper lemmas for C18b: `nfa_union` / `nfa_concatenation` for operands whose
  ε symbols differ.  The second operand enters the constructions only through `N2.rekey N1.eps`,
  `N2.Q`, `N2.Sigma`, `N2.q0`, `N2.F`; `N2.withEps N1.eps` (the second operand with its ε-transitions
  re-keyed) is a valid NFA with the same language whenever `N1.eps ∉ N2.Sigma`: re-keying is injective on the keys
  a valid δ can have, and re-keying back gives the operand again, so runs are carried over in one direction only.
-/
import Gamba.Proofs.C18
namespace Gamba

section
variable {σ τ : Type} [DecidableEq σ] [DecidableEq τ]

/-- `N` with `e` as its ε symbol (what `_nfa_copy_delta(delta, N, e)` copies of `N`) -/
def NFA.withEps (N : NFA σ τ) (e : τ) : NFA σ τ := { N with delta := N.rekey e, eps := e }

/-- the key map of `rekey` -/
def rekeyKey (old new : τ) (k : σ × τ) : σ × τ := (k.1, if k.2 = old then new else k.2)

omit [DecidableEq σ] in
theorem NFA.rekey_eq_map (N : NFA σ τ) (e : τ) :
    N.rekey e = N.delta.map fun x => (rekeyKey N.eps e x.1, x.2) := rfl

omit [DecidableEq σ] in
theorem NFA.withEps_rekey (N : NFA σ τ) (e : τ) : (N.withEps e).rekey e = N.rekey e :=
  NFA.rekey_self (N.withEps e) (rfl : (N.withEps e).eps = e)

theorem NFA.union_withEps (N1 N2 : NFA σ τ) (q0 : σ) :
    N1.union (N2.withEps N1.eps) q0 = N1.union N2 q0 := by
  unfold NFA.union
  rw [NFA.withEps_rekey]
  rfl

theorem NFA.concat_withEps (N1 N2 : NFA σ τ) :
    N1.concat (N2.withEps N1.eps) = N1.concat N2 := by
  unfold NFA.concat
  rw [NFA.withEps_rekey]
  rfl

omit [DecidableEq σ] in
theorem rekeyKey_inj {S : List τ} {ε e : τ} (he : e ∉ S) {k k' : σ × τ} (hk : k.2 ∈ S ∨ k.2 = ε)
    (hk' : k'.2 ∈ S ∨ k'.2 = ε) (h : rekeyKey ε e k = rekeyKey ε e k') : k = k' := by
  obtain ⟨q, a⟩ := k
  obtain ⟨q', a'⟩ := k'
  simp only [rekeyKey, Prod.mk.injEq] at h ⊢
  refine ⟨h.1, ?_⟩
  have h := h.2
  split at h <;> split at h
  · exact ‹a = ε›.trans ‹a' = ε›.symm
  · exact absurd (h ▸ hk'.resolve_right ‹_›) he
  · exact absurd (h ▸ hk.resolve_right ‹_›) he
  · exact h

theorem NFA.lookup_rekey {N : NFA σ τ} (hv : N.valid = true) {e : τ} (he : e ∉ N.Sigma) {k : σ × τ}
    (hk : k.2 ∈ N.Sigma ∨ k.2 = N.eps) : (N.rekey e).lookup (rekeyKey N.eps e k) = N.delta.lookup k :=
  (Dict.lookup_map _ id _ _ fun _ hx hg => rekeyKey_inj he (NFA.valid_closed hv hx).2.1 hk hg).trans Option.map_id'

theorem NFA.Succ.withEps {N : NFA σ τ} (hv : N.valid = true) {e : τ} (he : e ∉ N.Sigma) {q q' : σ} {a : τ}
    (h : N.Succ q a q') : (N.withEps e).Succ q (if a = N.eps then e else a) q' := by
  obtain ⟨T, hl, hm⟩ := h
  exact ⟨T, (NFA.lookup_rekey hv he (k := (q, a)) (NFA.valid_closed hv (Dict.mem_of_lookup hl)).2.1).trans hl, hm⟩

theorem NFA.Run.withEps {N : NFA σ τ} (hv : N.valid = true) {e : τ} (he : e ∉ N.Sigma) {q r : σ} {w : List τ}
    (h : N.Run q w r) : (N.withEps e).Run q w r := by
  induction h with
  | nil q => exact .nil _
  | eps hs _ ih =>
    have hs' := hs.withEps hv he
    rw [if_pos rfl] at hs'
    exact .eps (N := N.withEps e) hs' ih
  | sym ha hs _ ih =>
    have hs' := hs.withEps hv he
    rw [if_neg ha] at hs'
    exact .sym (N := N.withEps e) (fun h : _ = e => he (h ▸ (NFA.valid_Succ_all hv hs).2.1.resolve_right ha)) hs' ih

theorem NFA.withEps_valid {N : NFA σ τ} (hv : N.valid = true) {e : τ} (he : e ∉ N.Sigma) :
    (N.withEps e).valid = true := by
  rw [NFA.valid_iff]
  refine ⟨NFA.valid_q0 (N := N) hv, fun f hf => NFA.valid_F (N := N) hv hf, he, ?_⟩
  intro q a T hmem
  obtain ⟨⟨⟨q1, a1⟩, T1⟩, hx, hxe⟩ := List.mem_map.mp (hmem : ((q, a), T) ∈ N.rekey e)
  cases hxe
  obtain ⟨c1, c2, c3⟩ := NFA.valid_closed hv hx
  refine ⟨c1, ?_, c3⟩
  show (if a1 = N.eps then e else a1) ∈ N.Sigma ∨ (if a1 = N.eps then e else a1) = e
  split
  · exact Or.inr rfl
  · exact Or.inl (c2.resolve_right ‹_›)

/-- re-keying back gives `N` again, so each fact about `N.withEps e` has to be carried over in one direction only -/
theorem NFA.withEps_withEps {N : NFA σ τ} (hv : N.valid = true) {e : τ} (he : e ∉ N.Sigma) :
    (N.withEps e).withEps N.eps = N := by
  have hδ : (N.withEps e).rekey N.eps = N.delta := by
    show (N.rekey e).map _ = _
    unfold NFA.rekey
    rw [List.map_map]
    refine (List.map_congr_left fun x hx => ?_).trans (List.map_id _)
    obtain ⟨⟨q, a⟩, T⟩ := x
    have ha := (NFA.valid_closed hv hx).2.1
    simp only [Function.comp, NFA.withEps, id]
    by_cases h : a = N.eps
    · simp [h]
    · have : a ≠ e := fun h' => he (h' ▸ ha.resolve_right h)
      simp [h, this]
  unfold NFA.withEps at hδ ⊢
  simp only [hδ]

theorem NFA.withEps_Run {N : NFA σ τ} (hv : N.valid = true) {e : τ} (he : e ∉ N.Sigma)
    {q r : σ} {w : List τ} : (N.withEps e).Run q w r ↔ N.Run q w r := by
  refine ⟨fun h => ?_, NFA.Run.withEps hv he⟩
  have := h.withEps (NFA.withEps_valid hv he) (e := N.eps) (NFA.valid_eps hv)
  rwa [NFA.withEps_withEps hv he] at this

theorem NFA.withEps_Accepts {N : NFA σ τ} (hv : N.valid = true) {e : τ} (he : e ∉ N.Sigma)
    (w : List τ) : (N.withEps e).Accepts w ↔ N.Accepts w := by
  unfold NFA.Accepts
  constructor
  · rintro ⟨f, hf, hr⟩; exact ⟨f, hf, (NFA.withEps_Run hv he).mp hr⟩
  · rintro ⟨f, hf, hr⟩; exact ⟨f, hf, (NFA.withEps_Run hv he).mpr hr⟩

theorem NFA.withEps_keys_nodup {N : NFA σ τ} (hv : N.valid = true) {e : τ} (he : e ∉ N.Sigma)
    (hk : (N.delta.map (·.1)).Nodup) : ((N.withEps e).delta.map (·.1)).Nodup := by
  show ((N.rekey e).map (·.1)).Nodup
  rw [NFA.rekey_eq_map, List.map_map]
  unfold List.Nodup at hk ⊢
  rw [List.pairwise_map] at hk ⊢
  refine hk.imp_of_mem ?_
  intro x y hx hy hne hg
  exact hne (rekeyKey_inj he (NFA.valid_closed hv hx).2.1 (NFA.valid_closed hv hy).2.1 hg)

theorem NFA.checked_eps_mem {N : NFA σ τ} (h : N.eps ∈ N.Sigma) : N.checked = .error .assertion :=
  if_neg fun hv => NFA.valid_eps hv h

end

/-! ### concrete operands with different ε symbols -/
namespace C18

/-- `c⁺` with ε symbol `"lambda"` (≠ `"eps"` of `exA`) and an ε-move back to the start -/
def exC : NFA String String :=
  { Q := ["c0", "c1"], Sigma := ["c"], delta := [(("c0", "c"), ["c1"]), (("c1", "lambda"), ["c0"])],
    q0 := "c0", F := ["c1"], eps := "lambda" }

/-- an operand having the ε symbol of `exA` as an ordinary symbol -/
def exClash : NFA String String :=
  { Q := ["d0", "d1"], Sigma := ["eps"], delta := [(("d0", "eps"), ["d1"])],
    q0 := "d0", F := ["d1"], eps := "lambda" }

theorem exC_accepts : exC.Accepts ["c", "c"] :=
  (NFA.Accepts_iff_eval (s := []) (b := true) (by decide +kernel) (by decide +kernel) (by decide +kernel)).mpr rfl

end C18

end Gamba
