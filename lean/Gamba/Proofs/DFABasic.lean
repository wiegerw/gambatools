/-
  Gamba.Proofs.DFABasic — base layer for everything about DFAs: `DFA.valid` unpacked, the run relation `DFA.Run` of the
  specification against the total functions `DFA.next` / `DFA.runT` and the executable `DFA.run` / `DFA.accepts`,
  `DFA.Accepts`, and what the constructions on automata share: `DFA.IsTable` (δ is the table of a function), `DFA.Hom` (a map of
  automata: same language, same distinguishable pairs) and `withF_accepts_iff` (another set of accepting states).
-/
import Gamba.Model.DFA
import Gamba.Spec.Automata
import Gamba.Proofs.Dict
namespace Gamba

variable {σ τ : Type} [DecidableEq σ] [DecidableEq τ]

theorem DFA.isTotal_iff (D : DFA σ τ) :
    D.isTotal = true ↔ ∀ q a, q ∈ D.Q → a ∈ D.Sigma → ∃ r, D.delta.lookup (q, a) = some r := by
  simp only [DFA.isTotal, Dict.has_eq_isSome, List.all_eq_true, Option.isSome_iff_exists]
  exact ⟨fun h q a hq ha => h q hq a ha, fun h q hq a ha => h q a hq ha⟩

/-- the "closed" conjunct of `DFA.valid` (and of `DFA.pvalid`, `Gamba.Proofs.C14a`: validity without totality) -/
theorem DFA.deltaClosed_iff (D : DFA σ τ) :
    D.delta.all (fun e => decide (e.1.1 ∈ D.Q) && decide (e.1.2 ∈ D.Sigma) && decide (e.2 ∈ D.Q)) = true ↔
      ∀ q a r, ((q, a), r) ∈ D.delta → q ∈ D.Q ∧ a ∈ D.Sigma ∧ r ∈ D.Q := by
  simp only [List.all_eq_true, Bool.and_eq_true, decide_eq_true_eq, Prod.forall, and_assoc]

theorem DFA.valid_iff (D : DFA σ τ) :
    D.valid = true ↔
      D.q0 ∈ D.Q ∧ (∀ f, f ∈ D.F → f ∈ D.Q) ∧
      (∀ q a r, ((q, a), r) ∈ D.delta → q ∈ D.Q ∧ a ∈ D.Sigma ∧ r ∈ D.Q) ∧
      (∀ q a, q ∈ D.Q → a ∈ D.Sigma → ∃ r, D.delta.lookup (q, a) = some r) := by
  simp only [DFA.valid, Bool.and_eq_true, DFA.isTotal_iff, DFA.deltaClosed_iff, ssubset_iff, decide_eq_true_eq,
    and_assoc]

/-- the validity assertion of the `DFA` constructor -/
theorem DFA.checked_eq_ok_iff {D D' : DFA σ τ} : D.checked = .ok D' ↔ D.valid = true ∧ D' = D := by
  unfold DFA.checked
  split
  · exact ⟨fun h => ⟨‹_›, (Except.ok.inj h).symm⟩, fun h => h.2 ▸ rfl⟩
  · exact ⟨(nomatch ·), fun h => absurd h.1 ‹_›⟩

theorem DFA.checked_ok {X D : DFA σ τ} (h : DFA.checked X = .ok D) :
    D = X ∧ X.valid = true :=
  (DFA.checked_eq_ok_iff.mp h).symm

theorem DFA.checked_of_valid {X : DFA σ τ} (h : X.valid = true) :
    DFA.checked X = .ok X := DFA.checked_eq_ok_iff.mpr ⟨h, rfl⟩

theorem DFA.valid_q0 {D : DFA σ τ} (h : D.valid = true) : D.q0 ∈ D.Q := ((DFA.valid_iff D).mp h).1

theorem DFA.valid_F {D : DFA σ τ} (h : D.valid = true) {f : σ} (hf : f ∈ D.F) : f ∈ D.Q :=
  ((DFA.valid_iff D).mp h).2.1 f hf

theorem DFA.valid_closed {D : DFA σ τ} (h : D.valid = true) {q : σ} {a : τ} {r : σ}
    (he : ((q, a), r) ∈ D.delta) : q ∈ D.Q ∧ a ∈ D.Sigma ∧ r ∈ D.Q :=
  ((DFA.valid_iff D).mp h).2.2.1 q a r he

theorem DFA.valid_total {D : DFA σ τ} (h : D.valid = true) {q : σ} {a : τ}
    (hq : q ∈ D.Q) (ha : a ∈ D.Sigma) : ∃ r, D.delta.lookup (q, a) = some r :=
  ((DFA.valid_iff D).mp h).2.2.2 q a hq ha

theorem DFA.valid_lookup {D : DFA σ τ} (h : D.valid = true) {q : σ} {a : τ} {r : σ}
    (hl : D.delta.lookup (q, a) = some r) : q ∈ D.Q ∧ a ∈ D.Sigma ∧ r ∈ D.Q :=
  DFA.valid_closed h (Dict.mem_of_lookup hl)

theorem DFA.next_of_lookup {D : DFA σ τ} {q : σ} {a : τ} {r : σ}
    (hl : D.delta.lookup (q, a) = some r) : D.next q a = r := by
  simp [DFA.next, hl]

theorem DFA.valid_lookup_next {D : DFA σ τ} (h : D.valid = true) {q : σ} {a : τ}
    (hq : q ∈ D.Q) (ha : a ∈ D.Sigma) : D.delta.lookup (q, a) = some (D.next q a) := by
  obtain ⟨r, hr⟩ := DFA.valid_total h hq ha
  rw [DFA.next_of_lookup hr]; exact hr

theorem DFA.valid_next_mem {D : DFA σ τ} (h : D.valid = true) {q : σ} {a : τ}
    (hq : q ∈ D.Q) (ha : a ∈ D.Sigma) : D.next q a ∈ D.Q :=
  (DFA.valid_lookup h (DFA.valid_lookup_next h hq ha)).2.2

theorem DFA.next_congr {D D' : DFA σ τ} (hd : D.delta = D'.delta) (q : σ) (a : τ) :
    D.next q a = D'.next q a := by
  unfold DFA.next; rw [hd]

/-- `δ` lists `g k a` for every state `k` and symbol `a`: how `dfa_product` and the quotient automaton are built -/
def DFA.IsTable (D : DFA σ τ) (g : σ → τ → σ) : Prop :=
  D.delta = D.Q.flatMap fun k => D.Sigma.map fun a => ((k, a), g k a)

omit [DecidableEq σ] [DecidableEq τ] in
theorem DFA.IsTable.mem_delta {D : DFA σ τ} {g : σ → τ → σ} (h : D.IsTable g) {k : σ} {a : τ} {r : σ} :
    ((k, a), r) ∈ D.delta ↔ k ∈ D.Q ∧ a ∈ D.Sigma ∧ r = g k a := by
  rw [h]
  simp only [List.mem_flatMap, List.mem_map, Prod.mk.injEq]
  constructor
  · rintro ⟨k', hk, a', ha, ⟨rfl, rfl⟩, rfl⟩; exact ⟨hk, ha, rfl⟩
  · rintro ⟨hk, ha, rfl⟩; exact ⟨k, hk, a, ha, ⟨rfl, rfl⟩, rfl⟩

theorem DFA.IsTable.lookup {D : DFA σ τ} {g : σ → τ → σ} (h : D.IsTable g) {k : σ} {a : τ} (hk : k ∈ D.Q)
    (ha : a ∈ D.Sigma) : D.delta.lookup (k, a) = some (g k a) := by
  rw [h, lookup_flatMap_keys D.Q D.Sigma g, if_pos ⟨hk, ha⟩]

theorem DFA.IsTable.next {D : DFA σ τ} {g : σ → τ → σ} (h : D.IsTable g) {k : σ} {a : τ} (hk : k ∈ D.Q)
    (ha : a ∈ D.Sigma) : D.next k a = g k a :=
  DFA.next_of_lookup (h.lookup hk ha)

theorem DFA.IsTable.valid {D : DFA σ τ} {g : σ → τ → σ} (h : D.IsTable g) (h0 : D.q0 ∈ D.Q)
    (hF : ∀ f, f ∈ D.F → f ∈ D.Q) (hg : ∀ k a, k ∈ D.Q → a ∈ D.Sigma → g k a ∈ D.Q) : D.valid = true := by
  refine (DFA.valid_iff D).mpr ⟨h0, hF, fun k a r he => ?_, fun k a hk ha => ⟨_, h.lookup hk ha⟩⟩
  obtain ⟨hk, ha, rfl⟩ := h.mem_delta.mp he
  exact ⟨hk, ha, hg k a hk ha⟩

@[simp] theorem DFA.runT_nil (D : DFA σ τ) (q : σ) : D.runT q [] = q := rfl

@[simp] theorem DFA.runT_cons (D : DFA σ τ) (q : σ) (a : τ) (w : List τ) :
    D.runT q (a :: w) = D.runT (D.next q a) w := rfl

theorem DFA.runT_append (D : DFA σ τ) (q : σ) (u v : List τ) :
    D.runT q (u ++ v) = D.runT (D.runT q u) v := by
  induction u generalizing q with
  | nil => rfl
  | cons a u ih => simp only [List.cons_append, DFA.runT_cons, ih]

/-- a relation between the states of two automata that single steps (on the symbols of `S`) preserve is preserved by
    `runT`: invariants (`R q _ := P q`), maps of automata (`R q q' := q ∈ D.Q ∧ q' = g q`, `DFA.Hom.runT`),
    congruences (`D' = D`) -/
theorem DFA.runT_rel {σ' : Type} [DecidableEq σ'] {D : DFA σ τ} {D' : DFA σ' τ} (R : σ → σ' → Prop) {S : List τ}
    (hstep : ∀ q q' a, R q q' → a ∈ S → R (D.next q a) (D'.next q' a))
    {q : σ} {q' : σ'} (h : R q q') {w : List τ} (hw : ∀ a, a ∈ w → a ∈ S) : R (D.runT q w) (D'.runT q' w) := by
  induction w generalizing q q' with
  | nil => exact h
  | cons a w ih => exact ih (hstep q q' a h (hw a List.mem_cons_self)) fun b hb => hw b (List.mem_cons_of_mem _ hb)

theorem DFA.runT_mem {D : DFA σ τ} (h : D.valid = true) {q : σ} (hq : q ∈ D.Q) {w : List τ}
    (hw : ∀ a, a ∈ w → a ∈ D.Sigma) : D.runT q w ∈ D.Q :=
  DFA.runT_rel (D' := D) (fun q _ => q ∈ D.Q) (fun _ _ _ hq ha => DFA.valid_next_mem h hq ha) (q' := q) hq hw

theorem DFA.runT_congr {D D' : DFA σ τ} (hd : D.delta = D'.delta) (q : σ) (w : List τ) :
    D.runT q w = D'.runT q w :=
  DFA.runT_rel (S := w) Eq (fun q _ a e _ => e ▸ DFA.next_congr hd q a) rfl fun _ h => h

theorem DFA.Run.eq_runT {D : DFA σ τ} {q : σ} {w : List τ} {r : σ} (hr : D.Run q w r) :
    r = D.runT q w := by
  induction hr with
  | nil q => rfl
  | cons hl _ ih => rw [DFA.runT_cons, DFA.next_of_lookup hl]; exact ih

theorem DFA.Run.deterministic {D : DFA σ τ} {q : σ} {w : List τ} {r r' : σ}
    (h1 : D.Run q w r) (h2 : D.Run q w r') : r = r' := by
  rw [h1.eq_runT, h2.eq_runT]

theorem DFA.Run_nil_iff {D : DFA σ τ} {q r : σ} : D.Run q [] r ↔ r = q := by
  constructor
  · intro h; cases h; rfl
  · rintro rfl; exact DFA.Run.nil _

theorem DFA.Run_cons_iff {D : DFA σ τ} {q r : σ} {a : τ} {w : List τ} :
    D.Run q (a :: w) r ↔ ∃ q', D.delta.lookup (q, a) = some q' ∧ D.Run q' w r := by
  constructor
  · intro h; cases h with | cons hl hr => exact ⟨_, hl, hr⟩
  · rintro ⟨q', hl, hr⟩; exact DFA.Run.cons hl hr

theorem DFA.Run_append {D : DFA σ τ} {q m r : σ} {u v : List τ}
    (h1 : D.Run q u m) (h2 : D.Run m v r) : D.Run q (u ++ v) r := by
  induction h1 with
  | nil q => exact h2
  | cons hl _ ih => exact DFA.Run.cons hl (ih h2)

theorem DFA.Run_append_inv {D : DFA σ τ} {q r : σ} {u v : List τ} (h : D.Run q (u ++ v) r) :
    ∃ m, D.Run q u m ∧ D.Run m v r := by
  induction u generalizing q with
  | nil => exact ⟨q, DFA.Run.nil _, h⟩
  | cons a u ih =>
    rw [List.cons_append, DFA.Run_cons_iff] at h
    obtain ⟨q', hl, hr⟩ := h
    obtain ⟨m, h1, h2⟩ := ih hr
    exact ⟨m, DFA.Run.cons hl h1, h2⟩

theorem DFA.Run_snoc_iff {D : DFA σ τ} {q r : σ} {u : List τ} {a : τ} :
    D.Run q (u ++ [a]) r ↔ ∃ m, D.Run q u m ∧ D.delta.lookup (m, a) = some r := by
  constructor
  · intro h
    obtain ⟨m, h1, h2⟩ := DFA.Run_append_inv h
    rw [DFA.Run_cons_iff] at h2
    obtain ⟨q', hl, hr⟩ := h2
    rw [DFA.Run_nil_iff] at hr
    subst hr
    exact ⟨m, h1, hl⟩
  · rintro ⟨m, h1, hl⟩
    exact DFA.Run_append h1 (DFA.Run.cons hl (DFA.Run.nil _))

theorem DFA.Run.mono {D D' : DFA σ τ} (hd : ∀ k r, D.delta.lookup k = some r → D'.delta.lookup k = some r)
    {q : σ} {w : List τ} {r : σ} (h : D.Run q w r) : D'.Run q w r := by
  induction h with
  | nil q => exact DFA.Run.nil _
  | cons hl _ ih => exact DFA.Run.cons (hd _ _ hl) ih

theorem DFA.Run.of_lookup_eq {D D' : DFA σ τ} (hd : ∀ k, D.delta.lookup k = D'.delta.lookup k)
    {q : σ} {w : List τ} {r : σ} (h : D.Run q w r) : D'.Run q w r :=
  h.mono fun k _ hl => (hd k).symm.trans hl

theorem DFA.Run.mem {D : DFA σ τ} (h : D.valid = true) {q : σ} {w : List τ} {r : σ}
    (hr : D.Run q w r) (hq : q ∈ D.Q) : r ∈ D.Q ∧ ∀ a, a ∈ w → a ∈ D.Sigma := by
  induction hr with
  | nil q => exact ⟨hq, fun a ha => by cases ha⟩
  | cons hl _ ih =>
    obtain ⟨_, ha, hq'⟩ := DFA.valid_lookup h hl
    obtain ⟨hr, hw⟩ := ih hq'
    refine ⟨hr, ?_⟩
    intro b hb
    rcases List.mem_cons.mp hb with rfl | hb
    · exact ha
    · exact hw b hb

theorem DFA.Run_runT {D : DFA σ τ} (h : D.valid = true) {q : σ} (hq : q ∈ D.Q) {w : List τ}
    (hw : ∀ a, a ∈ w → a ∈ D.Sigma) : D.Run q w (D.runT q w) := by
  induction w generalizing q with
  | nil => exact DFA.Run.nil _
  | cons a w ih =>
    have ha := hw a List.mem_cons_self
    exact DFA.Run.cons (DFA.valid_lookup_next h hq ha)
      (ih (DFA.valid_next_mem h hq ha) (fun b hb => hw b (List.mem_cons_of_mem _ hb)))

theorem DFA.Run_iff_runT {D : DFA σ τ} (h : D.valid = true) {q : σ} (hq : q ∈ D.Q) {w : List τ}
    (hw : ∀ a, a ∈ w → a ∈ D.Sigma) (r : σ) : D.Run q w r ↔ r = D.runT q w := by
  constructor
  · exact DFA.Run.eq_runT
  · rintro rfl; exact DFA.Run_runT h hq hw

theorem DFA.Reachable_iff {D : DFA σ τ} (h : D.valid = true) (q : σ) :
    D.Reachable q ↔ ∃ w, (∀ a, a ∈ w → a ∈ D.Sigma) ∧ q = D.runT D.q0 w :=
  exists_congr fun _ => and_congr_right fun hw => DFA.Run_iff_runT h (DFA.valid_q0 h) hw q

theorem DFA.dist_iff_runT (D : DFA σ τ) (hv : D.valid = true) (p q : σ) (hp : p ∈ D.Q) (hq : q ∈ D.Q) :
    D.Dist p q ↔ ∃ w, (∀ a, a ∈ w → a ∈ D.Sigma) ∧ ¬ (D.runT p w ∈ D.F ↔ D.runT q w ∈ D.F) := by
  unfold DFA.Dist
  constructor
  · rintro ⟨w, hw, p', q', hp', hq', hn⟩
    refine ⟨w, hw, ?_⟩
    rw [← hp'.eq_runT, ← hq'.eq_runT]
    exact hn
  · rintro ⟨w, hw, hn⟩
    exact ⟨w, hw, _, _, DFA.Run_runT hv hp hw, DFA.Run_runT hv hq hw, hn⟩

theorem DFA.not_Run_of_not_over {D : DFA σ τ} (h : D.valid = true) {q : σ} (hq : q ∈ D.Q)
    {w : List τ} {r : σ} (hw : ¬ ∀ a, a ∈ w → a ∈ D.Sigma) : ¬ D.Run q w r :=
  fun hr => hw (hr.mem h hq).2

theorem DFA.Accepts_of_lookup_eq {D D' : DFA σ τ} (hd : ∀ k, D.delta.lookup k = D'.delta.lookup k)
    (hq : D.q0 = D'.q0) (hF : ∀ f, f ∈ D.F ↔ f ∈ D'.F) (w : List τ) : D.Accepts w ↔ D'.Accepts w := by
  unfold DFA.Accepts
  constructor
  · rintro ⟨f, hf, hr⟩; exact ⟨f, (hF f).mp hf, hq ▸ hr.of_lookup_eq hd⟩
  · rintro ⟨f, hf, hr⟩; exact ⟨f, (hF f).mpr hf, hq ▸ hr.of_lookup_eq fun k => (hd k).symm⟩

theorem DFA.Accepts_congr {D D' : DFA σ τ} (hd : D.delta = D'.delta) (hq : D.q0 = D'.q0)
    (hF : ∀ f, f ∈ D.F ↔ f ∈ D'.F) (w : List τ) : D.Accepts w ↔ D'.Accepts w :=
  DFA.Accepts_of_lookup_eq (fun _ => hd ▸ rfl) hq hF w

/-- the direction of `Accepts_iff_runT` that needs no hypotheses -/
theorem DFA.Accepts.runT_mem {D : DFA σ τ} {w : List τ} (h : D.Accepts w) : D.runT D.q0 w ∈ D.F := by
  obtain ⟨f, hf, hr⟩ := h
  rw [← hr.eq_runT]; exact hf

theorem DFA.Accepts_iff_runT {D : DFA σ τ} (h : D.valid = true) {w : List τ}
    (hw : ∀ a, a ∈ w → a ∈ D.Sigma) : D.Accepts w ↔ D.runT D.q0 w ∈ D.F :=
  ⟨DFA.Accepts.runT_mem, fun hf => ⟨_, hf, DFA.Run_runT h (DFA.valid_q0 h) hw⟩⟩

theorem DFA.Accepts_iff_acceptsT {D : DFA σ τ} (h : D.valid = true) {w : List τ}
    (hw : ∀ a, a ∈ w → a ∈ D.Sigma) : D.Accepts w ↔ D.acceptsT w = true := by
  rw [DFA.Accepts_iff_runT h hw, DFA.acceptsT, decide_eq_true_eq]

theorem DFA.Accepts.over {D : DFA σ τ} (h : D.valid = true) {w : List τ} (ha : D.Accepts w) :
    ∀ a, a ∈ w → a ∈ D.Sigma := by
  obtain ⟨f, _, hr⟩ := ha
  exact (hr.mem h (DFA.valid_q0 h)).2

/-- a statement about the words over Σ extends to all words when the other side also holds of words over Σ only -/
theorem DFA.accepts_iff_of_over {D : DFA σ τ} (hv : D.valid = true)
    {P : List τ → Prop} (hP : ∀ w, P w → ∀ a, a ∈ w → a ∈ D.Sigma)
    (h : ∀ w, (∀ a, a ∈ w → a ∈ D.Sigma) → (D.Accepts w ↔ P w)) (w : List τ) : D.Accepts w ↔ P w :=
  ⟨fun ha => (h w (DFA.Accepts.over hv ha)).mp ha, fun hp => (h w (hP w hp)).mpr hp⟩

theorem DFA.accepts_iff_of_valid {σ' : Type} [DecidableEq σ'] {D : DFA σ τ} {D' : DFA σ' τ} (hv : D.valid = true)
    (hv' : D'.valid = true) (hS : D'.Sigma = D.Sigma)
    (h : ∀ w, (∀ a, a ∈ w → a ∈ D.Sigma) → (D'.Accepts w ↔ D.Accepts w)) (w : List τ) : D'.Accepts w ↔ D.Accepts w :=
  DFA.accepts_iff_of_over hv' (fun _ ha => hS ▸ DFA.Accepts.over hv ha) (fun w hw => h w (hS ▸ hw)) w

/-- `g` maps the automaton `D` into `D'`: same alphabet, initial state to initial state, states to states, and it commutes
    with the steps and respects acceptance on the states of `D`. Renaming (`mapStates`), the quotient by a congruence
    (`ofBlocks`, with `g = blockOf blocks`) and the inclusion of a closed set of states (`restrict`) are such maps; the image
    of a valid `D` then accepts the same words and distinguishes the same pairs of states. -/
structure DFA.Hom {σ' : Type} [DecidableEq σ'] (D : DFA σ τ) (D' : DFA σ' τ) (g : σ → σ') : Prop where
  sigma : D'.Sigma = D.Sigma
  q0 : D'.q0 = g D.q0
  mem : ∀ q, q ∈ D.Q → g q ∈ D'.Q
  next : ∀ q a, q ∈ D.Q → a ∈ D.Sigma → D'.next (g q) a = g (D.next q a)
  fin : ∀ q, q ∈ D.Q → (g q ∈ D'.F ↔ q ∈ D.F)

section Hom
variable {σ' : Type} [DecidableEq σ'] {D : DFA σ τ} {D' : DFA σ' τ} {g : σ → σ'}

theorem DFA.Hom.runT (h : D.Hom D' g) (hv : D.valid = true) {q : σ} (hq : q ∈ D.Q) {w : List τ}
    (hw : ∀ a, a ∈ w → a ∈ D.Sigma) : D'.runT (g q) w = g (D.runT q w) :=
  (DFA.runT_rel (fun q q' => q ∈ D.Q ∧ q' = g q)
    (fun q _ a ⟨hq, e⟩ ha => ⟨DFA.valid_next_mem hv hq ha, e ▸ h.next q a hq ha⟩) ⟨hq, rfl⟩ hw).2

theorem DFA.Hom.runT_mem_F (h : D.Hom D' g) (hv : D.valid = true) {q : σ} (hq : q ∈ D.Q) {w : List τ}
    (hw : ∀ a, a ∈ w → a ∈ D.Sigma) : D'.runT (g q) w ∈ D'.F ↔ D.runT q w ∈ D.F := by
  rw [h.runT hv hq hw, h.fin _ (DFA.runT_mem hv hq hw)]

/-- same language, on all words: neither automaton accepts a word with a foreign symbol -/
theorem DFA.Hom.accepts_iff (h : D.Hom D' g) (hv : D.valid = true) (hv' : D'.valid = true) (w : List τ) :
    D'.Accepts w ↔ D.Accepts w :=
  DFA.accepts_iff_of_valid hv hv' h.sigma (fun w hw => by
    rw [DFA.Accepts_iff_runT hv' (h.sigma ▸ hw), DFA.Accepts_iff_runT hv hw, h.q0, h.runT_mem_F hv (DFA.valid_q0 hv) hw]) w

theorem DFA.Hom.dist_iff (h : D.Hom D' g) (hv : D.valid = true) (hv' : D'.valid = true) {p q : σ} (hp : p ∈ D.Q)
    (hq : q ∈ D.Q) : D'.Dist (g p) (g q) ↔ D.Dist p q := by
  rw [DFA.dist_iff_runT _ hv' _ _ (h.mem p hp) (h.mem q hq), DFA.dist_iff_runT D hv p q hp hq, h.sigma]
  exact exists_congr fun w => and_congr_right fun hw => by rw [h.runT_mem_F hv hp hw, h.runT_mem_F hv hq hw]

end Hom

/-! ### replacing the set of accepting states (`dfa_complement`, `dfa_no_extend`) -/

theorem DFA.withF_valid (D : DFA σ τ) (hv : D.valid = true) (F' : List σ) (hF : ∀ f, f ∈ F' → f ∈ D.Q) :
    ({ D with F := F' } : DFA σ τ).valid = true := by
  rw [DFA.valid_iff] at hv ⊢
  exact ⟨hv.1, hF, hv.2.2⟩

theorem DFA.withF_accepts_iff (D : DFA σ τ) (hv : D.valid = true) (F' : List σ) (hF : ∀ f, f ∈ F' → f ∈ D.Q)
    {w : List τ} (hw : ∀ a, a ∈ w → a ∈ D.Sigma) :
    ({ D with F := F' } : DFA σ τ).Accepts w ↔ D.runT D.q0 w ∈ F' := by
  rw [DFA.Accepts_iff_runT (D.withF_valid hv F' hF) hw]
  show ({ D with F := F' } : DFA σ τ).runT D.q0 w ∈ F' ↔ _
  rw [DFA.runT_congr (D := { D with F := F' }) (D' := D) rfl]

theorem DFA.run_ok_iff (D : DFA σ τ) (q : σ) (w : List τ) (r : σ) :
    D.run q w = .ok r ↔ D.Run q w r := by
  induction w generalizing q with
  | nil =>
    rw [DFA.Run_nil_iff]
    exact ⟨fun h => (Except.ok.inj h).symm, fun h => h ▸ rfl⟩
  | cons a w ih =>
    simp only [DFA.run, DFA.step, Dict.get_eq_match, DFA.Run_cons_iff]
    cases D.delta.lookup (q, a) with
    | none => exact ⟨(nomatch ·), fun ⟨_, h, _⟩ => nomatch h⟩
    | some q' =>
      exact ⟨fun h => ⟨q', rfl, (ih q').mp h⟩, fun ⟨_, h, hr⟩ => Option.some.inj h ▸ (ih _).mpr hr⟩

/-- `dfa_accepts_word` returns `True` exactly on the accepted words, whatever the automaton and the word (it raises
    where there is no run): acceptance by a concrete DFA is decided by evaluation -/
theorem DFA.Accepts_iff_accepts (D : DFA σ τ) (w : List τ) : D.Accepts w ↔ D.accepts w = .ok true := by
  unfold DFA.Accepts DFA.accepts
  constructor
  · rintro ⟨f, hf, hr⟩
    rw [(D.run_ok_iff _ _ _).mpr hr]
    exact congrArg Except.ok (decide_eq_true hf)
  · intro h
    cases hr : D.run D.q0 w with
    | error e => rw [hr] at h; cases h
    | ok r =>
      rw [hr] at h
      exact ⟨r, of_decide_eq_true (Except.ok.inj h), (D.run_ok_iff _ _ _).mp hr⟩

theorem DFA.step_eq_ok {D : DFA σ τ} (h : D.valid = true) {q : σ} {a : τ}
    (hq : q ∈ D.Q) (ha : a ∈ D.Sigma) : D.step q a = .ok (D.next q a) := by
  simp [DFA.step, Dict.get_eq_match, DFA.valid_lookup_next h hq ha]

theorem DFA.run_eq_ok {D : DFA σ τ} (h : D.valid = true) {q : σ} (hq : q ∈ D.Q) {w : List τ}
    (hw : ∀ a, a ∈ w → a ∈ D.Sigma) : D.run q w = .ok (D.runT q w) :=
  (D.run_ok_iff q w _).mpr (DFA.Run_runT h hq hw)

theorem DFA.accepts_eq_ok {D : DFA σ τ} (h : D.valid = true) {w : List τ}
    (hw : ∀ a, a ∈ w → a ∈ D.Sigma) : D.accepts w = .ok (D.acceptsT w) := by
  simp only [DFA.accepts, DFA.run_eq_ok h (DFA.valid_q0 h) hw, DFA.acceptsT]
  rfl

theorem DFA.accepts_ok_iff {D : DFA σ τ} (hv : D.valid = true) (w : List τ) (b : Bool) :
    D.accepts w = .ok b ↔ (∀ a, a ∈ w → a ∈ D.Sigma) ∧ (b = true ↔ D.Accepts w) := by
  by_cases hover : ∀ a, a ∈ w → a ∈ D.Sigma
  · rw [DFA.accepts_eq_ok hv hover, DFA.Accepts_iff_acceptsT hv hover, Except.ok.injEq, and_iff_right hover,
      ← Bool.eq_iff_iff, eq_comm]
  · -- a successful run reads symbols of the alphabet only
    refine ⟨fun h => ?_, fun h => absurd h.1 hover⟩
    unfold DFA.accepts at h
    cases hr : D.run D.q0 w with
    | error e => rw [hr] at h; cases h
    | ok q => exact absurd ((D.run_ok_iff _ _ _).mp hr) (DFA.not_Run_of_not_over hv (DFA.valid_q0 hv) hover)

/-- for `true` see `DFA.Accepts_iff_accepts`, which holds of any automaton -/
theorem DFA.accepts_false_iff {D : DFA σ τ} (hv : D.valid = true) (w : List τ) :
    D.accepts w = .ok false ↔ (∀ a, a ∈ w → a ∈ D.Sigma) ∧ ¬ D.Accepts w := by
  rw [DFA.accepts_ok_iff hv, Bool.false_eq_true, false_iff]

theorem DFA.accepts_error_iff {D : DFA σ τ} (hv : D.valid = true) (w : List τ) :
    (∃ e, D.accepts w = .error e) ↔ ¬ ∀ a, a ∈ w → a ∈ D.Sigma := by
  constructor
  · rintro ⟨e, he⟩ hover
    rw [DFA.accepts_eq_ok hv hover] at he
    cases he
  · intro hn
    cases h : D.accepts w with
    | error e => exact ⟨e, rfl⟩
    | ok b => exact absurd ((DFA.accepts_ok_iff hv w b).mp h).1 hn

end Gamba
