/-
  Gamba.Proofs.C12g — helper lemmas for "the counterexample word a checker reports is genuine"
  (`Gamba.Model.CheckCex`): order independence of `compareLanguages`, the unpacking of the `xxxLangs` functions of the
  exercise checkers (those of the word-list and file checkers are `CheckAll`'s at a kind: `languageWordsLangs_dfa_eq` … in
  Props/C12h), and the `accepts / rejects` report.  What a reported word means for the parsed objects is `Enum.genuine` /
  `Enum.genuine_list` (Proofs/C12enum) with the enumeration fact of each side.
-/
import Gamba.Props.C12e
namespace Gamba
namespace C12g
open Parse

section
variable {τ : Type} [DecidableEq τ]

/-- polarity and length of the reported word only depend on the two SETS: the sets decide which of the three cases of
    `compareLanguages_spec` holds, and minimality goes both ways -/
theorem compare_order_independent {A1 A1' A2 A2' : List (List τ)} (e1 : ∀ w, w ∈ A1' ↔ w ∈ A1)
    (e2 : ∀ w, w ∈ A2' ↔ w ∈ A2) {w : List τ} {b : Bool} (h : compareLanguages A1 A2 = some (w, b)) :
    ∃ w', compareLanguages A1' A2' = some (w', b) ∧ w'.length = w.length := by
  have hs := compareLanguages_spec A1 A2
  have hs' := compareLanguages_spec A1' A2'
  rw [h] at hs
  cases hc : compareLanguages A1' A2' with
  | none =>
    rw [hc] at hs'
    cases b with
    | true => exact absurd ((e2 w).mp ((hs' w).mp ((e1 w).mpr hs.1))) hs.2.1
    | false => exact absurd ((e1 w).mp ((hs' w).mpr ((e2 w).mpr hs.1))) hs.2.1
  | some p =>
    obtain ⟨w', b'⟩ := p
    rw [hc] at hs'
    cases b <;> cases b'
    · exact ⟨w', rfl, Nat.le_antisymm (hs'.2.2.1 w ((e2 w).mpr hs.1) fun hc => hs.2.1 ((e1 w).mp hc))
        (hs.2.2.1 w' ((e2 w').mp hs'.1) fun hc => hs'.2.1 ((e1 w').mpr hc))⟩
    · exact absurd ((e2 w').mpr (hs.2.2.2 w' ((e1 w').mp hs'.1))) hs'.2.1
    · exact absurd ((e2 w).mp (hs'.2.2.2 w ((e1 w).mpr hs.1))) hs.2.1
    · exact ⟨w', rfl, Nat.le_antisymm (hs'.2.2 w ((e1 w).mpr hs.1) fun hc => hs.2.1 ((e2 w).mp hc))
        (hs.2.2 w' ((e1 w').mp hs'.1) fun hc => hs'.2.1 ((e2 w').mpr hc))⟩

end

open CheckCex in
theorem report_some {P : Option (Lang × Lang)} {w : List String} {b : Bool} (h : report P = some (w, b)) :
    ∃ A1 A2, P = some (A1, A2) ∧ compareLanguages A1 A2 = some (w, b) := by
  cases P with
  | none => cases h
  | some p => exact ⟨p.1, p.2, rfl, h⟩

open CheckCex in
theorem report_none_of {P : Option (Lang × Lang)} (h : ∀ A1 A2, P = some (A1, A2) → ∀ w, w ∈ A1 ↔ w ∈ A2) :
    report P = none := by
  cases P with
  | none => rfl
  | some p => exact (compare_none_iff p.1 p.2).mpr (h p.1 p.2 rfl)

open CheckCex in
theorem dfa2regexpLangs_some {dfa answer : String} {len : Nat} {A1 A2 : Lang}
    (h : dfa2regexpLangs dfa answer len = some (A1, A2)) :
    ∃ D r, parseDfa dfa.toList = .ok D ∧ RegexpText.parseSimple answer = some r ∧
      A1 = r.wordsUpTo len ∧ A2 = D.wordsUpTo len := by
  unfold dfa2regexpLangs at h
  split at h
  · rename_i D r h1 h2
    cases h
    exact ⟨D, r, h1, h2, rfl, rfl⟩
  · cases h

open CheckCex in
theorem chomskyLangs_some {cfg answer : String} {len : Nat} {A1 A2 : Lang}
    (h : chomskyLangs cfg answer len = some (A1, A2)) :
    ∃ G eps G1 eps1, CfgText.parseSimpleCfg cfg.toList = .ok (G, eps) ∧
      CfgText.parseSimpleCfg answer.toList = .ok (G1, eps1) ∧ A1 = G1.wordsUpTo len ∧ A2 = G.wordsUpTo len := by
  unfold chomskyLangs at h
  split at h
  · rename_i G eps G1 eps1 h1 h2
    cases h
    exact ⟨G, eps, G1, eps1, h1, h2, rfl, rfl⟩
  · cases h

open CheckCex in
theorem reverseLangs_some {dfa answer : String} {s : Sched} {len : Nat} {A1 A2 : Lang}
    (h : reverseLangs dfa answer s len = some (A1, A2)) :
    ∃ D A, parseDfa dfa.toList = .ok D ∧ parseNfa answer.toList = .ok A ∧
      A.wordsUpTo s len = .ok A1 ∧ A2 = langReverse (D.wordsUpTo len) := by
  unfold reverseLangs at h
  split at h
  · rename_i D A h1 h2
    split at h
    · rename_i L1 h3
      cases h
      exact ⟨D, A, h1, h2, h3, rfl⟩
    · cases h
  · cases h

open CheckCex in
theorem minimalLangs_some {dfa answer : String} {len : Nat} {A1 A2 : Lang}
    (h : minimalLangs dfa answer len = some (A1, A2)) :
    ∃ D A, ∃ M : DFA (List String) String,
      parseDfa dfa.toList = .ok D ∧ parseDfa answer.toList CheckText.wordOrSetStateOk = .ok A ∧
      D.quotient = .ok M ∧ A1 = A.wordsUpTo len ∧ A2 = M.wordsUpTo len := by
  unfold minimalLangs at h
  split at h
  · rename_i D A h1 h2
    split at h
    · rename_i M h3
      cases h
      exact ⟨D, A, M, h1, h2, h3, rfl, rfl⟩
    · cases h
  · cases h

open CheckCex in
theorem productLangs_some {t : ProductType} {answer dfa1 dfa2 : String} {len : Nat} {A1 A2 : Lang}
    (h : productLangs t answer dfa1 dfa2 len = some (A1, A2)) :
    ∃ D1 D2 A, parseDfa dfa1.toList = .ok D1 ∧ parseDfa dfa2.toList = .ok D2 ∧
      parseDfa answer.toList CheckText.productStateOk = .ok A ∧ (∀ a, a ∈ D1.Sigma ↔ a ∈ D2.Sigma) ∧
      A1 = A.wordsUpTo len ∧ A2 = expectedProduct t (D1.wordsUpTo len) (D2.wordsUpTo len) := by
  unfold productLangs at h
  split at h
  · rename_i D1 D2 A h1 h2 h3
    split at h
    · cases h
    · rename_i hS
      simp only [Bool.not_eq_true, Bool.not_eq_false'] at hS
      split at h
      · cases h
      · cases h
        exact ⟨D1, D2, A, h1, h2, h3, seq_iff.mp hS, rfl, rfl⟩
  · cases h

open CheckCex in
theorem acceptsRejectsReport_some {acc : List String → Except Err Bool} {accepted rejected : String}
    {w : List String} {b : Bool} (h : acceptsRejectsReport acc accepted rejected = some (w, b)) :
    (b = false → w ∈ CheckText.parseWordList accepted ∧ acc w = .ok false) ∧
    (b = true → w ∈ CheckText.parseWordList rejected ∧ acc w = .ok true ∧
      ∀ v, v ∈ CheckText.parseWordList accepted → acc v = .ok true) := by
  unfold acceptsRejectsReport at h
  split at h
  · rename_i a r ha hr
    split at h
    · rename_i p hp
      cases h
      have hm := List.mem_of_find?_eq_some hp
      have hb := List.find?_some hp
      have hacc := (mapM_ok ha).1 p hm
      simp only [Bool.not_eq_true'] at hb
      rw [hb] at hacc
      exact ⟨fun _ => ⟨(List.of_mem_zip hm).1, hacc⟩, fun hc => Bool.noConfusion hc⟩
    · rename_i hnone
      split at h
      · rename_i p hp
        cases h
        have hm := List.mem_of_find?_eq_some hp
        have hb := List.find?_some hp
        have hacc := (mapM_ok hr).1 p hm
        rw [hb] at hacc
        refine ⟨fun hc => Bool.noConfusion hc, fun _ => ⟨(List.of_mem_zip hm).1, hacc, fun v hv => ?_⟩⟩
        obtain ⟨bv, hbv⟩ := (mapM_ok ha).2.1 v hv
        have hfv := (mapM_ok ha).1 _ hbv
        rw [List.find?_eq_none] at hnone
        have := hnone _ hbv
        simp only [Bool.not_eq_true', Bool.not_eq_false] at this
        rw [hfv]
        exact congrArg Except.ok this
      · cases h
  · cases h

open CheckCex in
theorem dfaAcceptsRejectsReport_some {dfa accepted rejected : String} {w : List String} {b : Bool}
    (h : dfaAcceptsRejectsReport dfa accepted rejected = some (w, b)) :
    ∃ D, parseDfa dfa.toList = .ok D ∧ acceptsRejectsReport D.accepts accepted rejected = some (w, b) := by
  unfold dfaAcceptsRejectsReport at h
  split at h
  · rename_i D h1; exact ⟨D, h1, h⟩
  · cases h

open CheckCex in
theorem cfgAcceptsRejectsReport_some {cfg accepted rejected : String} {w : List String} {b : Bool}
    (h : cfgAcceptsRejectsReport cfg accepted rejected = some (w, b)) :
    ∃ G eps, CfgText.parseSimpleCfg cfg.toList = .ok (G, eps) ∧
      acceptsRejectsReport G.accepts accepted rejected = some (w, b) := by
  unfold cfgAcceptsRejectsReport at h
  split at h
  · rename_i G eps h1; exact ⟨G, eps, h1, h⟩
  · cases h

open CheckCex in
theorem acceptsRejectsReport_none_of_ok {acc : List String → Except Err Bool} {accepted rejected : String}
    (h : CheckText.acceptsRejectsWith acc accepted rejected = .ok) :
    acceptsRejectsReport acc accepted rejected = none := by
  obtain ⟨ha, hr⟩ := (acceptsRejectsWith_ok_iff acc accepted rejected).mp h
  cases hrep : acceptsRejectsReport acc accepted rejected with
  | none => rfl
  | some p =>
    obtain ⟨w, b⟩ := p
    obtain ⟨hf, ht⟩ := acceptsRejectsReport_some hrep
    cases b with
    | false =>
      obtain ⟨hm, hacc⟩ := hf rfl
      rw [ha w hm] at hacc
      cases hacc
    | true =>
      obtain ⟨hm, hacc, _⟩ := ht rfl
      rw [hr w hm] at hacc
      cases hacc

end C12g
end Gamba
