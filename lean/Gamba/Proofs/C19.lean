/-
  Gamba.Proofs.C19 — helper lemmas for the alias micro-model `Gamba.Model.Heap` of property C19: frame lemmas for the
  repaired (copying) constructions; and what a client sees (`view`) of a dictionary of set objects none of which is
  shared (`Shows`): there every heap operation is the corresponding operation on plain dictionaries, and copying changes
  nothing, so the original (sharing) and the repaired construction show the same result.
-/
import Gamba.Model.Heap
import Gamba.Proofs.Dict
namespace Gamba
namespace Heap
set_option linter.unusedSectionVars false
variable {σ τ : Type} [DecidableEq σ] [DecidableEq τ]

theorem read_append_lt (h l : Store σ) {a : Addr} (ha : a < h.length) :
    Store.read (h ++ l) a = Store.read h a := by
  simp [Store.read, List.getD_eq_getElem?_getD, List.getElem?_append_left ha]

theorem read_append_length (h : Store σ) (v : List σ) : Store.read (h ++ [v]) h.length = v := by
  simp [Store.read, List.getD_eq_getElem?_getD]

theorem read_set_ne (h : Store σ) {a b : Addr} (v : List σ) (hne : b ≠ a) :
    Store.read (h.set b v) a = Store.read h a := by
  simp [Store.read, List.getD_eq_getElem?_getD, List.getElem?_set_ne hne]

theorem read_set_eq (h : Store σ) {a : Addr} (v : List σ) (ha : a < h.length) :
    Store.read (h.set a v) a = v := by
  simp [Store.read, List.getD_eq_getElem?_getD, List.getElem?_set_self ha]

def Fresh (n : Nat) (d : Dict (σ × τ) Addr) : Prop := ∀ e, e ∈ d → n ≤ e.2

def FrameOK (n : Nat) (h0 h : Store σ) : Prop := n ≤ h.length ∧ ∀ a, a < n → h.read a = h0.read a

def Good (n : Nat) (h0 : Store σ) (p : Dict (σ × τ) Addr × Store σ) : Prop :=
  Fresh n p.1 ∧ FrameOK n h0 p.2

theorem FrameOK.refl (h : Store σ) : FrameOK h.length h h := ⟨Nat.le_refl _, fun _ _ => rfl⟩

theorem FrameOK.alloc {n : Nat} {h0 h : Store σ} (hf : FrameOK n h0 h) (c : List σ) :
    FrameOK n h0 (h.alloc c).1 := by
  obtain ⟨h1, h2⟩ := hf
  refine ⟨?_, ?_⟩
  · simp only [Store.alloc, List.length_append, List.length_singleton]; omega
  · intro a ha
    simp only [Store.alloc]
    rw [read_append_lt h _ (show a < h.length by omega)]
    exact h2 a ha

theorem FrameOK.mono {n m : Nat} {h0 h : Store σ} (hf : FrameOK n h0 h) (hm : m ≤ n) : FrameOK m h0 h :=
  ⟨Nat.le_trans hm hf.1, fun a ha => hf.2 a (by omega)⟩

theorem FrameOK.trans {n m : Nat} {h0 h1 h2 : Store σ} (h01 : FrameOK n h0 h1) (h12 : FrameOK m h1 h2)
    (hm : n ≤ m) : FrameOK n h0 h2 :=
  ⟨Nat.le_trans hm h12.1, fun a ha => (h12.2 a (by omega)).trans (h01.2 a ha)⟩

theorem addInPlace_good {n : Nat} {h0 : Store σ} {d : Dict (σ × τ) Addr} {h : Store σ}
    (hg : Good n h0 (d, h)) (k : σ × τ) (t : σ) : Good n h0 (addInPlace d h k t) := by
  obtain ⟨hfr, hf⟩ := hg
  unfold addInPlace
  split
  · rename_i a hl
    have ha : n ≤ a := hfr _ (Dict.mem_of_lookup hl)
    refine ⟨hfr, ?_, ?_⟩
    · simp only [Store.unionInPlace, List.length_set]; exact hf.1
    · intro b hb
      simp only [Store.unionInPlace]
      rw [read_set_ne h _ (Nat.ne_of_gt (show b < a by omega))]
      exact hf.2 b hb
  · exact ⟨List.forall_mem_append.mpr ⟨hfr, List.forall_mem_singleton.mpr hf.1⟩, hf.alloc [t]⟩

theorem foldl_addInPlace_good {n : Nat} {h0 : Store σ} (ks : List σ) (e : τ) (t : σ)
    (p : Dict (σ × τ) Addr × Store σ) (hg : Good n h0 p) :
    Good n h0 (ks.foldl (fun (acc : Dict (σ × τ) Addr × Store σ) q => addInPlace acc.1 acc.2 (q, e) t) p) :=
  List.foldlRecOn (motive := Good n h0) ks _ hg fun _ hb _ _ => addInPlace_good hb _ _

theorem copyDelta_aux_good {n : Nat} {h0 : Store σ} (d : Dict (σ × τ) Addr)
    (p : Dict (σ × τ) Addr × Store σ) (hg : Good n h0 p) :
    Good n h0 (d.foldl (fun (acc : Dict (σ × τ) Addr × Store σ) e =>
      let (h', a) := acc.2.alloc (acc.2.read e.2)
      (acc.1 ++ [(e.1, a)], h')) p) :=
  List.foldlRecOn (motive := Good n h0) d _ hg fun _ hb _ _ =>
    ⟨List.forall_mem_append.mpr ⟨hb.1, List.forall_mem_singleton.mpr hb.2.1⟩, hb.2.alloc _⟩

theorem copyDelta_good (d : Dict (σ × τ) Addr) (h : Store σ) : Good h.length h (copyDelta d h) :=
  copyDelta_aux_good d _ ⟨fun _ he => by simp at he, FrameOK.refl h⟩

theorem Good.append {n : Nat} {h0 h1 h2 : Store σ} {d1 d2 : Dict (σ × τ) Addr}
    (g1 : Good n h0 (d1, h1)) (g2 : Good h1.length h1 (d2, h2)) : Good n h0 (d1 ++ d2, h2) := by
  exact ⟨List.forall_mem_append.mpr ⟨g1.1, fun e he => Nat.le_trans g1.2.1 (g2.1 e he)⟩, g1.2.trans g2.2 g1.2.1⟩

theorem repetitionCopied_frameOK (N : HNFA σ τ) (h : Store σ) (q0 : σ) :
    FrameOK h.length h (repetitionCopied N h q0).2 := by
  have g0 := copyDelta_good N.delta h
  have g1 := foldl_addInPlace_good (sinsert N.F q0) N.eps N.q0 _ g0
  exact g1.2.alloc [N.q0]

theorem concatCopied_frameOK (N1 N2 : HNFA σ τ) (h : Store σ) :
    FrameOK h.length h (concatCopied N1 N2 h).2 := by
  have g1 := copyDelta_good N1.delta h
  have g2 := copyDelta_good N2.delta (copyDelta N1.delta h).2
  have g12 := Good.append (d1 := (copyDelta N1.delta h).1) (h1 := (copyDelta N1.delta h).2) g1 g2
  exact (foldl_addInPlace_good N1.F N1.eps N2.q0 _ g12).2

theorem view_eq_of_frame (N : HNFA σ τ) {h h' : Store σ} (hwf : N.WF h) (hf : FrameOK h.length h h') :
    N.view h' = N.view h := by
  unfold HNFA.view
  apply List.map_congr_left
  intro e he
  rw [hf.2 e.2 (hwf e he)]

/-- the keys of a dictionary of set objects with the content of their sets (`HNFA.view`) -/
def view (p : Dict (σ × τ) Addr × Store σ) : Dict (σ × τ) (List σ) := p.1.map fun e => (e.1, p.2.read e.2)

theorem lookup_view (p : Dict (σ × τ) Addr × Store σ) (k : σ × τ) : (view p).lookup k = (p.1.lookup k).map p.2.read :=
  Dict.lookup_map_snd _ _ _

/-- no two bindings of `p` share a set object, every set object is allocated, and a client sees `v` -/
def Shows (p : Dict (σ × τ) Addr × Store σ) (v : Dict (σ × τ) (List σ)) : Prop :=
  (p.1.map (·.2)).Nodup ∧ (∀ e, e ∈ p.1 → e.2 < p.2.length) ∧ view p = v

/-- `delta[k] |= {t}` on what the client sees -/
def addView (v : Dict (σ × τ) (List σ)) (k : σ × τ) (t : σ) : Dict (σ × τ) (List σ) :=
  v.set k (match v.lookup k with | some X => sunion X [t] | none => [t])

theorem Shows.snoc {d : Dict (σ × τ) Addr} {h : Store σ} {v : Dict (σ × τ) (List σ)} (hs : Shows (d, h) v)
    (k : σ × τ) (c : List σ) : Shows (d ++ [(k, h.length)], h ++ [c]) (v ++ [(k, c)]) := by
  obtain ⟨hn, ha, rfl⟩ := hs
  refine ⟨?_, fun e he => ?_, ?_⟩
  · rw [List.map_append, List.nodup_append]
    refine ⟨hn, List.nodup_cons.mpr ⟨List.not_mem_nil, List.nodup_nil⟩, fun a hm b hb => ?_⟩
    obtain ⟨e, he, rfl⟩ := List.mem_map.mp hm
    cases List.mem_singleton.mp hb
    exact Nat.ne_of_lt (ha e he)
  · rw [List.length_append]
    rcases List.mem_append.mp he with he | he
    · exact Nat.lt_succ_of_lt (ha e he)
    · cases List.mem_singleton.mp he
      exact Nat.lt_succ_self _
  · simp only [view, List.map_append, List.map_cons, List.map_nil, read_append_length]
    congr 1
    exact List.map_congr_left fun e he => by rw [read_append_lt h _ (ha e he)]

/-- writing the cell that `k` is bound to: no other binding shares it, so the client sees `k` rebound and nothing else -/
theorem Shows.write {d : Dict (σ × τ) Addr} {h : Store σ} {v : Dict (σ × τ) (List σ)} (hs : Shows (d, h) v)
    {k : σ × τ} {a : Addr} (hl : d.lookup k = some a) (c : List σ) : Shows (d, h.set a c) (v.set k c) := by
  obtain ⟨hn, ha, rfl⟩ := hs
  refine ⟨hn, fun e he => by rw [List.length_set]; exact ha e he, ?_⟩
  have hlt := ha _ (Dict.mem_of_lookup hl)
  clear ha
  induction d with
  | nil => cases hl
  | cons e d ih =>
    obtain ⟨k1, a1⟩ := e
    rw [List.map_cons, List.nodup_cons] at hn
    rw [Dict.lookup_cons_ite] at hl
    simp only [view, List.map_cons, Dict.set]
    split at hl
    · rename_i hk
      cases hl
      have hn1 : a ∉ d.map (·.2) := hn.1
      rw [if_pos hk.symm, read_set_eq h c hlt, hk]
      congr 1
      exact List.map_congr_left fun e he => by
        rw [read_set_ne h c fun h' : a = e.2 => hn1 (h' ▸ List.mem_map_of_mem (f := (·.2)) he)]
    · rename_i hk
      have hne : a ≠ a1 := fun h' => hn.1 (h' ▸ List.mem_map_of_mem (f := (·.2)) (Dict.mem_of_lookup hl))
      rw [if_neg (Ne.symm hk), read_set_ne h c hne]
      exact congrArg _ (ih hl hn.2 hlt)

/-- without aliasing, the in-place update is the update of what the client sees -/
theorem Shows.addInPlace {d : Dict (σ × τ) Addr} {h : Store σ} {v : Dict (σ × τ) (List σ)} (hs : Shows (d, h) v)
    (k : σ × τ) (t : σ) : Shows (addInPlace d h k t) (addView v k t) := by
  unfold Heap.addInPlace addView
  rw [← hs.2.2, lookup_view, hs.2.2]
  cases hl : d.lookup k with
  | none =>
    rw [Dict.set_of_not_mem]
    · exact hs.snoc k [t]
    · rw [← hs.2.2, view, List.map_map]
      exact Dict.lookup_eq_none_iff.mp hl
  | some a => exact hs.write hl _

theorem Shows.foldl_addInPlace {p : Dict (σ × τ) Addr × Store σ} {v : Dict (σ × τ) (List σ)} (hs : Shows p v)
    (ks : List σ) (e : τ) (t : σ) :
    Shows (ks.foldl (fun (acc : Dict (σ × τ) Addr × Store σ) q => Heap.addInPlace acc.1 acc.2 (q, e) t) p)
      (ks.foldl (fun v q => addView v (q, e) t) v) := by
  induction ks generalizing p v with
  | nil => exact hs
  | cons q ks ih => exact ih (Shows.addInPlace (d := p.1) (h := p.2) hs (q, e) t)

/-- copying appends, to what the client sees, what it saw of the copied dictionary -/
theorem Shows.copy {h : Store σ} {p : Dict (σ × τ) Addr × Store σ} {v : Dict (σ × τ) (List σ)} (hs : Shows p v)
    (hf : FrameOK h.length h p.2) (d : Dict (σ × τ) Addr) (hwf : ∀ e, e ∈ d → e.2 < h.length) :
    Shows (d.foldl (fun (acc : Dict (σ × τ) Addr × Store σ) e =>
      let (h', a) := acc.2.alloc (acc.2.read e.2)
      (acc.1 ++ [(e.1, a)], h')) p) (v ++ view (d, h)) := by
  induction d generalizing p v with
  | nil => exact (List.append_nil v).symm ▸ hs
  | cons e d ih =>
    have := ih (Shows.snoc (d := p.1) (h := p.2) hs e.1 (p.2.read e.2)) (hf.alloc _)
      fun e he => hwf e (List.mem_cons_of_mem _ he)
    rw [List.append_assoc] at this
    rw [List.foldl_cons]
    show Shows _ (v ++ ([(e.1, h.read e.2)] ++ view (d, h)))
    rw [← hf.2 _ (hwf e List.mem_cons_self)]
    exact this

/-- the copy shows what the operand showed, whether or not the operand had aliasing -/
theorem shows_copyDelta (d : Dict (σ × τ) Addr) (h : Store σ) (hwf : ∀ e, e ∈ d → e.2 < h.length) :
    Shows (copyDelta d h) (view (d, h)) :=
  Shows.copy (p := ([], h)) ⟨List.nodup_nil, nofun, rfl⟩ (FrameOK.refl h) d hwf

/-- the original `nfa_repetition` on an operand without aliasing: the client sees the construction carried out on
    what it saw of the operand.  (`repetitionCopied N h q0` is `repetitionShared` on the copy.) -/
theorem repetitionShared_view {N : HNFA σ τ} {h : Store σ} {v : Dict (σ × τ) (List σ)} (hs : Shows (N.delta, h) v)
    (q0 : σ) :
    view ((repetitionShared N h q0).1.delta, (repetitionShared N h q0).2) =
      ((sinsert N.F q0).foldl (fun v q => addView v (q, N.eps) N.q0) v).set (q0, N.eps) [N.q0] := by
  have hs' := hs.foldl_addInPlace (sinsert N.F q0) N.eps N.q0
  show view (Dict.set _ _ (List.length _), _ ++ [_]) = _
  rw [view, Dict.map_snd_set, read_append_length, ← hs'.2.2]
  congr 1
  exact List.map_congr_left fun e he => by rw [read_append_lt _ _ (hs'.2.1 e he)]

end Heap

end Gamba
