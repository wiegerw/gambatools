/-
  Gamba.Proofs.ListFacts — list facts used by the worklist loops and counting arguments: a strict version of
  `List.countP_mono_left`, lengths under `sinsert` / `dedup` / `sunion`, `pickAt` on the empty worklist, the pigeonhole
  bound on pairwise disjoint non-empty sublists, cutting a list at a separator, injectivity of the decimal notation of
  naturals, the number of distinct elements (`(dedup l).length`) under renaming, the list of all pairs, and
  `(List.range n).map f` indexed and reversed.
-/
import Gamba.Model.Basic
namespace Gamba

theorem countP_lt_of {α : Type} {p q : α → Bool} {l : List α} (hpq : ∀ x, x ∈ l → p x = true → q x = true)
    {x : α} (hx : x ∈ l) (hqx : q x = true) (hpx : p x = false) : l.countP p < l.countP q := by
  induction l with
  | nil => cases hx
  | cons y l ih =>
    rw [List.countP_cons, List.countP_cons]
    have hpq' : ∀ z, z ∈ l → p z = true → q z = true := fun z hz => hpq z (List.mem_cons_of_mem _ hz)
    rcases List.mem_cons.mp hx with rfl | hx'
    · have := List.countP_mono_left hpq'
      rw [hqx, hpx, if_pos rfl, if_neg Bool.false_ne_true]
      omega
    · have := ih hpq' hx'
      by_cases hpy : p y = true
      · rw [if_pos hpy, if_pos (hpq y List.mem_cons_self hpy)]; omega
      · rw [if_neg hpy]; omega

theorem countP_lt_length {α : Type} {p : α → Bool} {l : List α} {x : α} (hx : x ∈ l) (hpx : p x = false) :
    l.countP p < l.length := by
  simpa only [List.countP_true] using countP_lt_of (q := fun _ => true) (fun _ _ _ => rfl) hx rfl hpx

theorem length_sinsert_le {α : Type} [DecidableEq α] (l : List α) (x : α) :
    (sinsert l x).length ≤ l.length + 1 := by
  unfold sinsert; split <;> simp

theorem nodup_sinsert {α : Type} [DecidableEq α] {l : List α} {x : α} (h : l.Nodup) :
    (sinsert l x).Nodup := by
  unfold sinsert
  split
  · exact h
  · rename_i hx
    rw [List.nodup_append]
    refine ⟨h, by simp, ?_⟩
    intro a ha b hb
    simp only [List.mem_singleton] at hb
    subst hb
    rintro rfl
    exact hx ha

/-- pigeonhole: the heads of pairwise disjoint non-empty sublists of `Q` are distinct elements of `Q` -/
theorem length_le_of_disjoint {σ : Type} (VV : List (List σ)) (Q : List σ) (hne : ∀ B, B ∈ VV → B ≠ [])
    (hsub : ∀ B, B ∈ VV → ∀ q, q ∈ B → q ∈ Q) (hpd : VV.Pairwise (fun B C => ∀ q, q ∈ B → q ∉ C)) :
    VV.length ≤ Q.length := by
  have hhead : ∀ B, B ∈ VV → ∃ b, b ∈ B ∧ B.head? = some b := by
    intro B hB
    cases B with
    | nil => exact absurd rfl (hne _ hB)
    | cons b B => exact ⟨b, List.mem_cons_self, rfl⟩
  have hnd : (VV.map List.head?).Nodup := by
    refine List.pairwise_map.mpr (hpd.imp_of_mem ?_)
    intro B C hB _ hd he
    obtain ⟨b, hb, hbB⟩ := hhead B hB
    exact hd b hb (List.mem_of_mem_head? (he ▸ hbB))
  have hss : VV.map List.head? ⊆ Q.map some := by
    intro o ho
    obtain ⟨B, hB, rfl⟩ := List.mem_map.mp ho
    obtain ⟨b, hb, hbB⟩ := hhead B hB
    exact hbB ▸ List.mem_map_of_mem (hsub B hB b hb)
  simpa only [List.length_map] using hnd.length_le_of_subset hss

theorem pickAt_eq_none_iff {β : Type} {l : List β} {i : Nat} : pickAt l i = none ↔ l = [] := by
  cases l with
  | nil => simp [pickAt]
  | cons x l => simp [pickAt]

theorem pickAt_none {α : Type} {l : List α} {i : Nat} (h : pickAt l i = none) : l = [] :=
  pickAt_eq_none_iff.mp h

theorem length_dedup_le {σ : Type} [DecidableEq σ] (l : List σ) : (dedup l).length ≤ l.length :=
  List.Nodup.length_le_of_subset (nodup_dedup l) (fun _ hx => mem_dedup.mp hx)

theorem length_sunion_le {σ : Type} [DecidableEq σ] (a b : List σ) : (sunion a b).length ≤ a.length + b.length := by
  unfold sunion
  rw [List.length_append]
  have := List.length_filter_le (fun x => decide (x ∉ a)) b
  omega

theorem sunion_eq_append {α : Type} [DecidableEq α] {a b : List α} (h : ∀ x, x ∈ b → x ∉ a) : sunion a b = a ++ b := by
  unfold sunion
  rw [List.filter_eq_self.mpr fun x hx => by simpa using h x hx]

theorem mem_getD_nil_iff {α : Type} {o : Option (List α)} {x : α} : x ∈ o.getD [] ↔ ∃ l, o = some l ∧ x ∈ l := by
  cases o with
  | none => simp
  | some l => simp

theorem flatMap_congr {α β : Type} {l : List α} {f g : α → List β} (h : ∀ x, x ∈ l → f x = g x) :
    l.flatMap f = l.flatMap g := by
  induction l with
  | nil => rfl
  | cons x l ih =>
    simp only [List.flatMap_cons]
    rw [h x List.mem_cons_self, ih (fun y hy => h y (List.mem_cons_of_mem _ hy))]

theorem append_sep_inj {α : Type} (sep : α) : ∀ (l l' r r' : List α), sep ∉ l → sep ∉ l' →
    l ++ sep :: r = l' ++ sep :: r' → l = l' ∧ r = r'
  | [], [], _, _, _, _, h => ⟨rfl, List.tail_eq_of_cons_eq h⟩
  | [], c :: l', _, _, _, h', h => by
    have : sep = c := List.head_eq_of_cons_eq h
    exact absurd (this ▸ List.mem_cons_self) h'
  | c :: l, [], _, _, h', _, h => by
    have : c = sep := List.head_eq_of_cons_eq h
    exact absurd (this ▸ List.mem_cons_self) h'
  | c :: l, c' :: l', r, r', hl, hl', h => by
    have hc : c = c' := List.head_eq_of_cons_eq h
    have ht : l ++ sep :: r = l' ++ sep :: r' := List.tail_eq_of_cons_eq h
    obtain ⟨e1, e2⟩ := append_sep_inj sep l l' r r' (fun e => hl (List.mem_cons_of_mem _ e))
      (fun e => hl' (List.mem_cons_of_mem _ e)) ht
    exact ⟨by rw [hc, e1], e2⟩

theorem append_sep_inj_right {α : Type} (sep : α) (l l' r r' : List α) (hr : sep ∉ r) (hr' : sep ∉ r')
    (h : l ++ sep :: r = l' ++ sep :: r') : l = l' ∧ r = r' := by
  have h' := congrArg List.reverse h
  simp only [List.reverse_append, List.reverse_cons, List.append_assoc, List.singleton_append] at h'
  obtain ⟨e1, e2⟩ := append_sep_inj sep r.reverse r'.reverse l.reverse l'.reverse
    (fun e => hr (List.mem_reverse.mp e)) (fun e => hr' (List.mem_reverse.mp e)) h'
  exact ⟨List.reverse_inj.mp e2, List.reverse_inj.mp e1⟩

theorem nat_toString_injective {m n : Nat} (h : toString m = toString n) : m = n := by
  have h' : Nat.repr m = Nat.repr n := h
  have h'' : Nat.toDigits 10 m = Nat.toDigits 10 n := by
    rw [← Nat.toList_repr, ← Nat.toList_repr, h']
  rw [← @Nat.ofDigitChars_ten_toDigits m, ← @Nat.ofDigitChars_ten_toDigits n, h'']

theorem mem_flatMap_of_perm {α β : Type} {l l' : List α} (hp : l.Perm l') (f : α → List β) (b : β) :
    b ∈ l.flatMap f ↔ b ∈ l'.flatMap f := by
  simp only [List.mem_flatMap]
  constructor
  · rintro ⟨a, ha, hb⟩; exact ⟨a, hp.mem_iff.mp ha, hb⟩
  · rintro ⟨a, ha, hb⟩; exact ⟨a, hp.mem_iff.mpr ha, hb⟩

theorem all_congr_mem {α : Type} {l l' : List α} (h : ∀ x, x ∈ l' ↔ x ∈ l) (p : α → Bool) : l'.all p = l.all p := by
  rw [Bool.eq_iff_iff, List.all_eq_true, List.all_eq_true]
  constructor
  · intro h1 x hx; exact h1 x ((h x).mpr hx)
  · intro h1 x hx; exact h1 x ((h x).mp hx)

theorem dedup_length_congr {α : Type} [DecidableEq α] {l l' : List α} (h : ∀ x, x ∈ l' ↔ x ∈ l) :
    (dedup l').length = (dedup l).length := by
  apply Nat.le_antisymm
  · exact List.Nodup.length_le_of_subset (nodup_dedup _) (fun x hx => mem_dedup.mpr ((h x).mp (mem_dedup.mp hx)))
  · exact List.Nodup.length_le_of_subset (nodup_dedup _) (fun x hx => mem_dedup.mpr ((h x).mpr (mem_dedup.mp hx)))

theorem nodup_flatMap_pairs {σ κ α : Type} (l : List σ) (h : σ → List α) (f : σ → κ) (hl : l.Nodup)
    (hh : ∀ s, s ∈ l → (h s).Nodup) (hf : ∀ x y, x ∈ l → y ∈ l → f x = f y → x = y) :
    (l.flatMap fun s => (h s).map fun a => (f s, a)).Nodup := by
  rw [List.nodup_iff_pairwise_ne, List.pairwise_flatMap]
  refine ⟨?_, ?_⟩
  · intro s hs
    rw [List.pairwise_map]
    exact (hh s hs).imp (fun hab e => hab (Prod.mk.inj e).2)
  · refine hl.imp_of_mem ?_
    intro s1 s2 h1 h2 hne x hx y hy e
    obtain ⟨a, _, rfl⟩ := List.mem_map.mp hx
    obtain ⟨b, _, he⟩ := List.mem_map.mp hy
    rw [← he] at e
    exact hne (hf s1 s2 h1 h2 (Prod.mk.inj e).1)

section Count
variable {α β : Type} [DecidableEq α] [DecidableEq β]

omit [DecidableEq α] [DecidableEq β] in
theorem nodup_map_of_inj_on (f : α → β) (l : List α) (hn : l.Nodup)
    (hf : ∀ x y, x ∈ l → y ∈ l → f x = f y → x = y) : (l.map f).Nodup :=
  List.pairwise_map.mpr (hn.imp_of_mem fun hx hy hne e => hne (hf _ _ hx hy e))

theorem dedup_length_le_of_inj (f : α → β) (l1 : List α) (l2 : List β)
    (hm : ∀ x, x ∈ l1 → f x ∈ l2) (hf : ∀ x y, x ∈ l1 → y ∈ l1 → f x = f y → x = y) :
    (dedup l1).length ≤ (dedup l2).length := by
  have h1 : ((dedup l1).map f).Nodup :=
    nodup_map_of_inj_on f _ (nodup_dedup l1) (fun x y hx hy => hf x y (mem_dedup.mp hx) (mem_dedup.mp hy))
  have h2 := List.Nodup.length_le_of_subset (l₂ := dedup l2) h1 (by
    intro y hy
    obtain ⟨x, hx, rfl⟩ := List.mem_map.mp hy
    exact mem_dedup.mpr (hm x (mem_dedup.mp hx)))
  rwa [List.length_map] at h2

theorem dedup_map_length (f : α → β) (l : List α) (hf : ∀ x y, x ∈ l → y ∈ l → f x = f y → x = y) :
    (dedup (l.map f)).length = (dedup l).length := by
  apply Nat.le_antisymm
  · have := List.Nodup.length_le_of_subset (l₂ := (dedup l).map f) (nodup_dedup (l.map f)) (by
      intro y hy
      obtain ⟨x, hx, rfl⟩ := List.mem_map.mp (mem_dedup.mp hy)
      exact List.mem_map.mpr ⟨x, mem_dedup.mpr hx, rfl⟩)
    rwa [List.length_map] at this
  · exact dedup_length_le_of_inj f l (l.map f) (fun x hx => List.mem_map.mpr ⟨x, hx, rfl⟩) hf

end Count

/-! ### the list of all pairs (the states of `dfa_product`, the loops over `Q × Σ`, the bound of the isomorphism tests) -/

theorem mem_pairs {α β : Type} {l : List α} {m : List β} {x : α × β} :
    x ∈ (l.flatMap fun q => m.map fun a => (q, a)) ↔ x.1 ∈ l ∧ x.2 ∈ m := by
  simp only [List.mem_flatMap, List.mem_map]
  exact ⟨fun ⟨q, hq, a, ha, e⟩ => e ▸ ⟨hq, ha⟩, fun ⟨hq, ha⟩ => ⟨x.1, hq, x.2, ha, rfl⟩⟩

theorem length_pairs {α β : Type} (l1 : List α) (l2 : List β) :
    (l1.flatMap fun p => l2.map fun q => (p, q)).length = l1.length * l2.length := by
  induction l1 with
  | nil => simp
  | cons a l ih =>
    rw [List.flatMap_cons, List.length_append, ih, List.length_map, List.length_cons, Nat.succ_mul]
    omega

theorem zipIdx_map_range {α : Type} (f : Nat → α) (n : Nat) :
    ((List.range n).map f).zipIdx = (List.range n).map fun i => (f i, i) := by
  apply List.ext_getElem?
  intro i
  by_cases h : i < n <;> simp [h]

theorem reverse_map_range {α : Type} (f : Nat → α) (n : Nat) :
    ((List.range n).map f).reverse = (List.range n).map fun i => f (n - 1 - i) := by
  rw [← List.map_reverse, List.range_eq_range', List.reverse_range', List.map_map, ← List.range_eq_range', Nat.zero_add]
  rfl

theorem head?_append_ne_nil {α : Type} {p : List α} (hp : p ≠ []) (q : List α) : (p ++ q).head? = p.head? := by
  cases p with
  | nil => exact absurd rfl hp
  | cons x xs => rfl

theorem getLast?_append_cons {α : Type} (l1 : List α) (x : α) (l2 : List α) :
    (l1 ++ x :: l2).getLast? = (x :: l2).getLast? := by
  rw [List.getLast?_append, List.getLast?_cons, Option.some_or]

end Gamba
