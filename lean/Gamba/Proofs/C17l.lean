/-
  Gamba.Proofs.C17l — layout independence of the line parser (C17): the result of `parseRaw` does not
  depend on comment / blank lines, on white space, on how the labels of an edge are distributed over
  lines, and (up to `Raw.Equiv`) on the order of the lines; the DFA and NFA builders respect `Raw.Equiv`
  (those of PDA and TM: Proofs/C17m.lean).
-/
import Gamba.Proofs.C16b
namespace Gamba
namespace Parse
open Text

/- `lineWords` (TextBasic) keeps the words of comment lines, which `parseWords` then skips.  Here two texts that differ
   only in comment and blank lines must get the same normal form, so `normLines` drops the comment lines too; it is
   stated with `splitWs (strip l)`, the form in which the theorems of Props/C17l.lean speak about the words of a line. -/

/-- `parseRaw` on the list of lines of the text -/
def parseLines (k : Kind) (ok : Word → Bool) (ls : List Word) : Except Err Raw :=
  ls.foldlM (parseLine k ok) {}

/-- a line that `parseLine` ignores: blank, or first word starting with `%` -/
def isSkipLine (l : Word) : Bool :=
  match splitWs (strip l) with
  | [] => true
  | w0 :: _ => w0.head? == some '%'

def unwords (ws : List Word) : Word := [' '].intercalate ws

def normLines (ls : List Word) : List (List Word) :=
  (ls.filter fun l => !isSkipLine l).map fun l => splitWs (strip l)

theorem parseLine_eq_strip (k : Kind) (ok : Word → Bool) (st : Raw) (l : Word) :
    parseLine k ok st l = parseWords k ok st (splitWs (strip l)) := by
  rw [parseLine_eq, splitWs_strip]

theorem parseLine_skip (k : Kind) (ok : Word → Bool) (st : Raw) {l : Word} (h : isSkipLine l = true) :
    parseLine k ok st l = .ok st := by
  rw [parseLine_eq_strip, parseWords_eq_act]
  unfold isSkipLine at h
  split at h
  · rename_i e; rw [e]; rfl
  · rename_i w0 rest e
    rw [e, show act k ok (w0 :: rest) = .skip from if_pos h]; rfl

theorem foldlM_parseLine_norm (k : Kind) (ok : Word → Bool) (st : Raw) (ls : List Word) :
    ls.foldlM (parseLine k ok) st = parseWordLines k ok st (normLines ls) := by
  rw [parseWordLines, normLines, List.foldlM_map, List.foldlM_filter]
  refine congrArg (fun f => List.foldlM f st ls) (funext fun s => funext fun l => ?_)
  cases h : isSkipLine l with
  | true => exact parseLine_skip k ok s h
  | false => exact parseLine_eq_strip k ok s l

theorem parseLines_eq_norm (k : Kind) (ok : Word → Bool) (ls : List Word) :
    parseLines k ok ls = parseWordLines k ok {} (normLines ls) :=
  foldlM_parseLine_norm k ok {} ls

theorem normLines_append (a b : List Word) : normLines (a ++ b) = normLines a ++ normLines b := by
  simp [normLines]

theorem normLines_cons_skip {l : Word} (h : isSkipLine l = true) (ls : List Word) :
    normLines (l :: ls) = normLines ls := by
  simp [normLines, h]

theorem normLines_cons_of_not_skip {l : Word} (h : isSkipLine l = false) (ls : List Word) :
    normLines (l :: ls) = splitWs (strip l) :: normLines ls := by
  simp [normLines, h]

theorem normLines_congr {ls ls' : List Word}
    (h : ls.map (fun l => splitWs (strip l)) = ls'.map (fun l => splitWs (strip l))) :
    normLines ls = normLines ls' := by
  -- whether a line is skipped is read off its words, so `normLines` is a function of the lines' word lists
  have e : ∀ ls : List Word, normLines ls = (ls.map fun l => splitWs (strip l)).filter fun ws =>
      !(match ws with | [] => true | w0 :: _ => w0.head? == some '%') := fun ls => by rw [List.filter_map]; rfl
  rw [e, e, h]

/-- same declarations (as a lookup table), same `states` / `initial` / `final`, the same transition entries
    up to their order -/
def Raw.Equiv (A B : Raw) : Prop :=
  A.states = B.states ∧ A.initial = B.initial ∧ A.final = B.final ∧
  (∀ key, A.items.lookup key = B.items.lookup key) ∧ A.transitions.Perm B.transitions

theorem Raw.Equiv.refl (A : Raw) : Raw.Equiv A A := ⟨rfl, rfl, rfl, fun _ => rfl, List.Perm.refl _⟩

theorem Raw.Equiv.symm {A B : Raw} (h : Raw.Equiv A B) : Raw.Equiv B A :=
  ⟨h.1.symm, h.2.1.symm, h.2.2.1.symm, fun key => (h.2.2.2.1 key).symm, h.2.2.2.2.symm⟩

/-- both fail, or both succeed with equivalent records -/
def ExEquiv : Except Err Raw → Except Err Raw → Prop
  | .ok a, .ok b => Raw.Equiv a b
  | .error _, .error _ => True
  | _, _ => False

theorem ExEquiv.refl (x : Except Err Raw) : ExEquiv x x := by
  cases x with
  | error e => trivial
  | ok a => exact Raw.Equiv.refl a

theorem ExEquiv.symm {x y : Except Err Raw} (h : ExEquiv x y) : ExEquiv y x := by
  cases x <;> cases y <;> simp only [ExEquiv] at h ⊢
  exact h.symm

theorem ExEquiv.of_eq {x y : Except Err Raw} (h : x = y) : ExEquiv x y := h ▸ ExEquiv.refl x

theorem ExEquiv.ok_left {A : Raw} {y : Except Err Raw} (h : ExEquiv (.ok A) y) : ∃ B, y = .ok B ∧ Raw.Equiv A B := by
  cases y with
  | error e => exact absurd h (by simp [ExEquiv])
  | ok B => exact ⟨B, rfl, h⟩

theorem rawOf_equiv {ds ds' : List (String × List String)} {ts ts' : List (String × Word × String)} (hd : ds.Perm ds')
    (hnd : (ds.map (·.1)).Nodup) (ht : ts.Perm ts') : Raw.Equiv (rawOf {} ds ts) (rawOf {} ds' ts') :=
  ⟨congrArg (·.getD []) (lookup_eq_of_perm hd hnd _), congrArg (·.getD []) (lookup_eq_of_perm hd hnd _),
    congrArg (·.getD []) (lookup_eq_of_perm hd hnd _), fun key => lookup_eq_of_perm hd hnd key, ht⟩

/-- acceptance only asks that no action fails and no key is declared twice, and the record lists what was declared: none of
    this depends on the order -/
theorem foldlM_applyAct_ok_of_perm {as as' : List Act} (hp : as.Perm as') {A : Raw} (h : as.foldlM applyAct {} = .ok A) :
    ∃ A', as'.foldlM applyAct {} = .ok A' ∧ Raw.Equiv A A' := by
  obtain ⟨hf, hnd, _, rfl⟩ := foldlM_applyAct_eq_ok.mp h
  have hd : (declsOf as).Perm (declsOf as') := hp.filterMap _
  exact ⟨_, foldlM_applyAct_eq_ok.mpr ⟨fun hm => hf (hp.mem_iff.mpr hm), (hd.map _).nodup_iff.mp hnd, fun _ _ => rfl, rfl⟩,
    rawOf_equiv hd hnd (hp.flatMap_right _)⟩

theorem parseWordLines_perm (k : Kind) (ok : Word → Bool) {wls wls' : List (List Word)} (hp : wls.Perm wls') :
    ExEquiv (parseWordLines k ok {} wls) (parseWordLines k ok {} wls') := by
  rw [parseWordLines_eq_acts, parseWordLines_eq_acts]
  have hp' := hp.map (act k ok)
  cases h : (wls.map (act k ok)).foldlM applyAct {} with
  | ok A =>
    obtain ⟨A', h', e⟩ := foldlM_applyAct_ok_of_perm hp' h
    rw [h']; exact e
  | error e =>
    cases h' : (wls'.map (act k ok)).foldlM applyAct {} with
    | error e' => trivial
    | ok A' =>
      obtain ⟨A, h'', _⟩ := foldlM_applyAct_ok_of_perm hp'.symm h'
      rw [h] at h''; cases h''

theorem normLines_perm {ls ls' : List Word} (hp : ls.Perm ls') : (normLines ls).Perm (normLines ls') :=
  (hp.filter _).map _

/-- the master statement: two lists of lines whose non-comment, non-blank lines have the same words up to the
    order of the lines parse alike -/
theorem parseLines_layout (k : Kind) (ok : Word → Bool) {ls ls' : List Word}
    (hp : (normLines ls).Perm (normLines ls')) : ExEquiv (parseLines k ok ls) (parseLines k ok ls') := by
  rw [parseLines_eq_norm, parseLines_eq_norm]
  exact parseWordLines_perm k ok hp

/-- a builder `f` run after the line parser: if `f` respects `Raw.Equiv` (with conclusion `C`), two layouts of the same
    lines give results related by `C` -/
theorem parseLines_bind_layout (k : Kind) (ok : Word → Bool) {β : Type} {f : Raw → Except Err β} {C : Raw → β → β → Prop}
    (hf : ∀ {A0 B0 : Raw} {D : β}, Raw.Equiv A0 B0 → f A0 = .ok D → ∃ D', f B0 = .ok D' ∧ C A0 D' D)
    {ls ls' : List Word} (hp : (normLines ls).Perm (normLines ls')) {D : β} (h : (parseLines k ok ls).bind f = .ok D) :
    ∃ A0 D', parseLines k ok ls = .ok A0 ∧ (parseLines k ok ls').bind f = .ok D' ∧ C A0 D' D := by
  obtain ⟨A0, h0, hD⟩ := Except.bind_eq_ok.mp h
  have he := parseLines_layout k ok hp
  rw [h0] at he
  obtain ⟨B0, hB, hE⟩ := he.ok_left
  obtain ⟨D', hD', r⟩ := hf hE hD
  exact ⟨A0, D', h0, by rw [hB]; exact hD', r⟩

theorem splitWs_strip_unwords {ws : List Word} (h : ∀ w, w ∈ ws → Token w) : splitWs (strip (unwords ws)) = ws := by
  rw [splitWs_strip]; exact splitWs_intercalate h

/-- `parseDfa` on the list of lines of the text -/
def parseDfaLines (ls : List Word) (stateOk : Word → Bool := isWord) : Except Err (DFA String String) := do
  let A0 ← parseLines .dfa stateOk ls
  dfaOfRaw A0 stateOk

theorem usedStates_mem_congr {A B : Raw} (h : Raw.Equiv A B) (q : String) : q ∈ usedStates A ↔ q ∈ usedStates B := by
  obtain ⟨_, h2, h3, _, h5⟩ := h
  simp only [mem_usedStates, h2, h3, h5.mem_iff]

/-- the shared builder checks respect the equivalence; the state list is the same when it was declared, and
    otherwise the same up to order -/
theorem commonChecks_congr {A0 B0 A : Raw} {ok : Word → Bool} (extra : List String) (h : Raw.Equiv A0 B0)
    (hc : commonChecks A0 extra ok = .ok A) :
    ∃ B, commonChecks B0 extra ok = .ok B ∧ B.states.Perm A.states ∧ (A0.states ≠ [] → B.states = A.states) ∧
      B.initial = A.initial ∧ B.final = A.final ∧ (∀ key, B.items.lookup key = A.items.lookup key) ∧
      B.transitions.Perm A.transitions := by
  obtain ⟨rfl, c1, c2, c3⟩ := commonChecks_ok hc
  have hu := usedStates_mem_congr h
  obtain ⟨h1, h2, h3, h4, h5⟩ := h
  have hS : (if B0.states.isEmpty then dedup (usedStates B0 ++ extra) else B0.states).Perm
      (if A0.states.isEmpty then dedup (usedStates A0 ++ extra) else A0.states) := by
    rw [← h1]
    split
    · rw [List.perm_ext_iff_of_nodup (nodup_dedup _) (nodup_dedup _)]
      intro q
      simp only [mem_dedup, List.mem_append, hu q]
    · exact List.Perm.refl _
  have hS' : A0.states ≠ [] → (if B0.states.isEmpty then dedup (usedStates B0 ++ extra) else B0.states) =
      (if A0.states.isEmpty then dedup (usedStates A0 ++ extra) else A0.states) := by
    intro hne
    have he : A0.states.isEmpty = false := by cases hA : A0.states <;> simp_all
    rw [← h1, he]; rfl
  exact ⟨_, commonChecks_iff.mpr ⟨fun q hq => hS.mem_iff.mpr (c1 q ((hu q).mpr hq)), fun q hq => c2 q (hS.mem_iff.mp hq),
    h2 ▸ c3, rfl⟩, hS, hS', h2.symm, h3.symm, fun key => (h4 key).symm, h5.symm⟩

theorem getSymbolSet_congr {A B : Raw} {key : String} {used used' S : List String}
    (hl : B.items.lookup key = A.items.lookup key) (hu : ∀ a, a ∈ used' ↔ a ∈ used)
    (h : getSymbolSet A key used = .ok S) :
    ∃ S', getSymbolSet B key used' = .ok S' ∧ ∀ a, a ∈ S' ↔ a ∈ S := by
  cases hk : A.items.lookup key with
  | none =>
    exact ⟨used', (getSymbolSet_none (hl.trans hk)).mpr rfl, fun a => by rw [(getSymbolSet_none hk).mp h]; exact hu a⟩
  | some d =>
    obtain ⟨hs, rfl⟩ := (getSymbolSet_some hk).mp h
    exact ⟨dedup d, (getSymbolSet_some (hl.trans hk)).mpr ⟨fun a ha => hs a ((hu a).mp ha), rfl⟩, fun _ => Iff.rfl⟩

theorem wordsOk_congr {S S' : List String} (h : ∀ a, a ∈ S' ↔ a ∈ S) (hw : wordsOk S = true) : wordsOk S' = true := by
  simp only [wordsOk, List.all_eq_true] at hw ⊢
  exact fun a ha => hw a ((h a).mp ha)

theorem dfaOfRaw_congr {A0 B0 : Raw} {ok : Word → Bool} {D : DFA String String} (h : Raw.Equiv A0 B0)
    (hD : dfaOfRaw A0 ok = .ok D) :
    ∃ D', dfaOfRaw B0 ok = .ok D' ∧ D'.Q.Perm D.Q ∧ (A0.states ≠ [] → D'.Q = D.Q) ∧ D'.q0 = D.q0 ∧ D'.F = D.F ∧
      (∀ a, a ∈ D'.Sigma ↔ a ∈ D.Sigma) ∧ ∀ key, D'.delta.lookup key = D.delta.lookup key := by
  obtain ⟨A, Sigma, h1, h2, h3, h4, h5, h6⟩ := dfaOfRaw_eq_ok.mp hD
  obtain ⟨rfl, _⟩ := DFA.checked_ok h6
  obtain ⟨B, g1, gS, gS', gi, gf, gl, gt⟩ := commonChecks_congr [] h h1
  have hkeys : (B.transitions.map fun t => (t.1, str t.2.1)).Perm (A.transitions.map fun t => (t.1, str t.2.1)) :=
    gt.map _
  have hdelta : (B.transitions.map fun t => ((t.1, str t.2.1), t.2.2)).Perm
      (A.transitions.map fun t => ((t.1, str t.2.1), t.2.2)) := gt.map _
  have g2 : parseDfa.hasDupPairs (B.transitions.map fun t => (t.1, str t.2.1)) = false := by
    rw [hasDupPairs_eq_false_iff] at h2 ⊢
    exact hkeys.nodup_iff.mpr h2
  have hused : ∀ a, a ∈ dedup (B.transitions.map fun t => str t.2.1) ↔ a ∈ dedup (A.transitions.map fun t => str t.2.1) := by
    intro a
    simp only [mem_dedup]
    exact (gt.map _).mem_iff
  obtain ⟨Sigma', g3, hSig⟩ := getSymbolSet_congr (gl "input_symbols") hused h3
  have g4 := wordsOk_congr hSig h4
  have g5 : (B.states.all fun p => Sigma'.all fun a => decide ((p, a) ∈ B.transitions.map fun t => (t.1, str t.2.1))) = true := by
    simp only [List.all_eq_true, decide_eq_true_eq] at h5 ⊢
    intro p hp a ha
    exact hkeys.mem_iff.mpr (h5 p (gS.mem_iff.mp hp) a ((hSig a).mp ha))
  have hnd : ((B.transitions.map fun t => ((t.1, str t.2.1), t.2.2)).map (·.1)).Nodup := by
    rw [List.map_map]
    exact hasDupPairs_eq_false_iff.mp g2
  have hlook : ∀ key, (B.transitions.map fun t => ((t.1, str t.2.1), t.2.2)).lookup key =
      (A.transitions.map fun t => ((t.1, str t.2.1), t.2.2)).lookup key :=
    fun key => lookup_eq_of_perm hdelta hnd key
  have hq0 : initialOf B = initialOf A := by simp only [initialOf, gi]
  exact ⟨_, dfaOfRaw_eq_ok.mpr ⟨_, _, g1, g2, g3, g4, g5, DFA.checked_of_valid (dfaBuilt_valid g1 g3 g5)⟩, gS, gS', hq0, gf, hSig,
    hlook⟩

theorem normLines_all_skip {cs : List Word} (h : ∀ c, c ∈ cs → isSkipLine c = true) : normLines cs = [] := by
  induction cs with
  | nil => rfl
  | cons c cs ih =>
    rw [normLines_cons_skip (h c (by simp)), ih (fun x hx => h x (List.mem_cons_of_mem _ hx))]

theorem normLines_perm_skip {ls ls' cs : List Word} (hcs : ∀ c, c ∈ cs → isSkipLine c = true) (hp : ls.Perm (ls' ++ cs)) :
    (normLines ls).Perm (normLines ls') := by
  have := normLines_perm hp
  rwa [normLines_append, normLines_all_skip hcs, List.append_nil] at this

theorem parseLines_states_ne (k : Kind) (ok : Word → Bool) {ls : List Word} {A : Raw} {l : Word} {rest : List Word}
    (hl : l ∈ ls) (hw : splitWs (strip l) = "states".toList :: rest) (h : parseLines k ok ls = .ok A) :
    A.states ≠ [] := by
  rw [parseLines_eq_norm, parseWordLines_eq_acts] at h
  obtain ⟨hf, hnd, _, rfl⟩ := foldlM_applyAct_eq_ok.mp h
  have hns : isSkipLine l = false := by
    unfold isSkipLine; rw [hw]; show ("states".toList.head? == some '%') = false; decide
  have hm : act k ok ("states".toList :: rest) ∈ (normLines ls).map (act k ok) :=
    List.mem_map_of_mem (hw ▸ List.mem_map.mpr ⟨l, List.mem_filter.mpr ⟨hl, by simp [hns]⟩, rfl⟩)
  -- the line is accepted, so it is a declaration of at least one state, and the only one under that key
  rcases act_kw_cases (k := k) (ok := ok) (w0 := "states".toList) rest (by rw [str_toList]; simp) with e | ⟨e, hne⟩
  · exact absurd (e ▸ hm) hf
  · rw [e] at hm
    have hd : ("states", rest.map str) ∈ declsOf ((normLines ls).map (act k ok)) := List.mem_filterMap.mpr ⟨_, hm, rfl⟩
    show (List.lookup "states" _).getD [] ≠ []
    rw [Dict.lookup_of_mem_nodup hnd hd]
    exact fun e' => hne (str_toList _) (List.map_eq_nil_iff.mp e')

theorem foldlM_parseLine_split_labels (k : Kind) (ok : Word → Bool) (st : Raw) (post : List Word) (p q : Word)
    (ls1 ls2 : List Word) (hp : Token p) (hq : Token q) (hl1 : ∀ w, w ∈ ls1 → Token w) (hl2 : ∀ w, w ∈ ls2 → Token w)
    (hne1 : ls1 ≠ []) (hne2 : ls2 ≠ []) (hkw : str p ∉ ["states", "final", "initial"] ++ keywords k) :
    (unwords (p :: q :: (ls1 ++ ls2)) :: post).foldlM (parseLine k ok) st =
      (unwords (p :: q :: ls1) :: unwords (p :: q :: ls2) :: post).foldlM (parseLine k ok) st := by
  have t1 : ∀ w, w ∈ p :: q :: ls1 → Token w := List.forall_mem_cons.mpr ⟨hp, List.forall_mem_cons.mpr ⟨hq, hl1⟩⟩
  have t2 : ∀ w, w ∈ p :: q :: ls2 → Token w := List.forall_mem_cons.mpr ⟨hp, List.forall_mem_cons.mpr ⟨hq, hl2⟩⟩
  have t12 : ∀ w, w ∈ p :: q :: (ls1 ++ ls2) → Token w :=
    List.forall_mem_cons.mpr ⟨hp, List.forall_mem_cons.mpr ⟨hq, List.forall_mem_append.mpr ⟨hl1, hl2⟩⟩⟩
  simp only [List.foldlM_cons, parseLine_eq_strip, splitWs_strip_unwords t12, splitWs_strip_unwords t1,
    splitWs_strip_unwords t2]
  rw [parseWords_split_labels k ok st p q ls1 ls2 hkw hne1 hne2]
  cases parseWords k ok st (p :: q :: ls1) with
  | error e => rfl
  | ok s => rfl

theorem foldlM_parseLine_append_congr {k : Kind} {ok : Word → Bool} (pre : List Word) {a b : List Word}
    (h : ∀ st, a.foldlM (parseLine k ok) st = b.foldlM (parseLine k ok) st) :
    parseLines k ok (pre ++ a) = parseLines k ok (pre ++ b) := by
  unfold parseLines
  rw [List.foldlM_append, List.foldlM_append]
  congr 1
  funext st
  exact h st

/-- `parseNfa` on the list of lines of the text -/
def parseNfaLines (ls : List Word) (stateOk : Word → Bool := isWord) : Except Err (NFA String String) := do
  let A0 ← parseLines .nfa stateOk ls
  nfaOfRaw A0 stateOk

theorem parseSymbol_congr {A B : Raw} {key : String} {value : Char} {dflt : String}
    (hl : B.items.lookup key = A.items.lookup key) (ht : B.transitions.Perm A.transitions) :
    parseSymbol B key value dflt = parseSymbol A key value dflt := by
  unfold parseSymbol
  rw [hl]
  have : (B.transitions.any fun t => t.2.1.contains value) = (A.transitions.any fun t => t.2.1.contains value) := by
    rw [Bool.eq_iff_iff, List.any_eq_true, List.any_eq_true]
    constructor
    · rintro ⟨t, ht', h⟩; exact ⟨t, ht.mem_iff.mp ht', h⟩
    · rintro ⟨t, ht', h⟩; exact ⟨t, ht.mem_iff.mpr ht', h⟩
  rw [this]

theorem nfaOfRaw_congr {A0 B0 : Raw} {ok : Word → Bool} {N : NFA String String} (h : Raw.Equiv A0 B0)
    (hN : nfaOfRaw A0 ok = .ok N) :
    ∃ N', nfaOfRaw B0 ok = .ok N' ∧ N'.Q.Perm N.Q ∧ (A0.states ≠ [] → N'.Q = N.Q) ∧ N'.q0 = N.q0 ∧ N'.F = N.F ∧
      N'.eps = N.eps ∧ (∀ a, a ∈ N'.Sigma ↔ a ∈ N.Sigma) ∧
      ∀ p a x, x ∈ (N'.delta.lookup (p, a)).getD [] ↔ x ∈ (N.delta.lookup (p, a)).getD [] := by
  obtain ⟨A, eps, Sigma, h1, h2, h3, h4, h6⟩ := nfaOfRaw_eq_ok.mp hN
  obtain ⟨rfl, hv⟩ := NFA.checked_ok h6
  obtain ⟨B, g1, gS, gS', gi, gf, gl, gt⟩ := commonChecks_congr [] h h1
  have g2 : parseSymbol B "epsilon" 'ε' "_" = .ok eps := (parseSymbol_congr (gl "epsilon") gt).trans h2
  have hts : (B.transitions.map fun t => (t.1, str t.2.1, t.2.2)).Perm
      (A.transitions.map fun t => (t.1, str t.2.1, t.2.2)) := gt.map _
  have hused : ∀ a, a ∈ dedup ((B.transitions.map fun t => str t.2.1).filter (· ≠ eps)) ↔
      a ∈ dedup ((A.transitions.map fun t => str t.2.1).filter (· ≠ eps)) := by
    intro a
    simp only [mem_dedup]
    exact ((gt.map _).filter _).mem_iff
  obtain ⟨Sigma', g3, hSig⟩ := getSymbolSet_congr (gl "input_symbols") hused h3
  have g4 := wordsOk_congr hSig h4
  have hq0 : initialOf B = initialOf A := by simp only [initialOf, gi]
  have hsucc : ∀ p a x, x ∈ ((groupNfa (B.transitions.map fun t => (t.1, str t.2.1, t.2.2))).lookup (p, a)).getD [] ↔
      x ∈ ((groupNfa (A.transitions.map fun t => (t.1, str t.2.1, t.2.2))).lookup (p, a)).getD [] := by
    intro p a x
    rw [mem_groupNfa_lookup, mem_groupNfa_lookup]
    exact hts.mem_iff
  refine ⟨
    { Q := B.states, Sigma := Sigma', q0 := initialOf B, F := B.final, eps := eps,
      delta := groupNfa (B.transitions.map fun t => (t.1, str t.2.1, t.2.2)) },
    nfaOfRaw_eq_ok.mpr ⟨_, _, _, g1, g2, g3, g4, NFA.checked_of_valid (nfaBuilt_valid g1 g3 (mt (hSig _).mp ((NFA.valid_iff _).mp hv).2.2.1))⟩, gS, ?_, hq0, gf, rfl, hSig, hsucc⟩
  exact gS'

end Parse
end Gamba
