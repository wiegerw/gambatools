/-
  Gamba.Proofs.C06b — `dfa_to_gnfa`, `gnfa_minimize` (state ripping in any order) and `dfa_to_regexp`.
  Both tables are filled by loops whose writes only ever ADD words to the language of an entry (`Dict.obs_lookup_foldl`), so
  the language of every label is known without asking how often or in which order a pair is visited; then path surgery
  for one ripped state and the elimination invariant.
-/
import Gamba.Spec.GNFA
import Gamba.Proofs.C05
import Gamba.Proofs.DFABasic
import Gamba.Proofs.DictFold
namespace Gamba
namespace C06b
set_option linter.unusedSectionVars false

variable {σ τ : Type} [DecidableEq σ] [DecidableEq τ]

/-- what a table entry contributes to the language of the automaton -/
abbrev langOf (o : Option (Regexp τ)) (w : List τ) : Prop := (o.getD .zero).Lang w

omit [DecidableEq σ] [DecidableEq τ] in
def addSym (e : (σ × τ) × σ) : Option (Regexp τ) → Regexp τ
  | some r => .sum r (.sym e.1.2)
  | none => .sym e.1.2

theorem toGnfa_delta (D : DFA σ τ) (qs qa : σ) :
    (D.toGnfa qs qa).delta =
      D.delta.foldl (fun (d : Dict (σ × σ) (Regexp τ)) e => d.set (e.1.1, e.2) (addSym e (d.lookup (e.1.1, e.2))))
        (D.F.foldl (fun (d : Dict (σ × σ) (Regexp τ)) q => d.set (q, qa) Regexp.one) [((qs, D.q0), Regexp.one)]) := by
  show D.delta.foldl _ _ = _
  congr 1
  funext d e
  cases h : d.lookup (e.1.1, e.2) <;> simp [h, addSym]

theorem lang_addSym (e : (σ × τ) × σ) (o : Option (Regexp τ)) (w : List τ) :
    (addSym e o).Lang w ↔ langOf o w ∨ w = [e.1.2] := by
  cases o <;> simp [addSym, langOf, Regexp.lang_sum, Regexp.lang_sym]

theorem lookup_foldF (F : List σ) (qa : σ) (d : Dict (σ × σ) (Regexp τ)) (x y : σ) :
    (F.foldl (fun d q => d.set (q, qa) Regexp.one) d).lookup (x, y) =
      if y = qa ∧ x ∈ F then some .one else d.lookup (x, y) := by
  induction F generalizing d with
  | nil => simp
  | cons f F ih =>
    rw [List.foldl_cons, ih, Dict.lookup_set]
    by_cases h1 : y = qa ∧ x ∈ F
    · rw [if_pos h1, if_pos ⟨h1.1, List.mem_cons_of_mem _ h1.2⟩]
    · rw [if_neg h1]
      by_cases h2 : (x, y) = (f, qa)
      · rw [if_pos h2]
        simp only [Prod.mk.injEq] at h2
        rw [if_pos ⟨h2.2, h2.1 ▸ List.mem_cons_self⟩]
      · rw [if_neg h2, if_neg]
        rintro ⟨hy, hx⟩
        rcases List.mem_cons.mp hx with rfl | hx
        · exact h2 (by rw [hy])
        · exact h1 ⟨hy, hx⟩

theorem Path.src_mem {G : GNFA σ τ} {p r : σ} {w : List τ} (h : G.Path p w r) : p ∈ G.Q := by
  cases h with
  | one hp _ _ => exact hp
  | cons hp _ _ _ => exact hp

theorem Path.dst_mem {G : GNFA σ τ} {p r : σ} {w : List τ} (h : G.Path p w r) : r ∈ G.Q := by
  induction h with
  | one _ hr _ => exact hr
  | cons _ _ _ _ ih => exact ih

theorem Path.first_edge {G : GNFA σ τ} {p r : σ} {w : List τ} (h : G.Path p w r) :
    ∃ m u, (G.get p m).Lang u := by
  cases h with
  | one _ _ hl => exact ⟨_, _, hl⟩
  | cons _ _ hl _ => exact ⟨_, _, hl⟩

theorem Path.last_edge {G : GNFA σ τ} {p r : σ} {w : List τ} (h : G.Path p w r) :
    ∃ m u, (G.get m r).Lang u := by
  induction h with
  | one _ _ hl => exact ⟨_, _, hl⟩
  | cons _ _ _ _ ih => exact ih

theorem no_path_from_accept {G : GNFA σ τ} (hp : G.Proper) {r : σ} {w : List τ} :
    ¬ G.Path G.qAccept w r := by
  intro h
  obtain ⟨m, u, hl⟩ := Path.first_edge h
  rw [hp.2.2.2.2 m] at hl
  exact Regexp.lang_zero.1 hl

theorem no_path_into_start {G : GNFA σ τ} (hp : G.Proper) {p : σ} {w : List τ} :
    ¬ G.Path p w G.qStart := by
  intro h
  obtain ⟨m, u, hl⟩ := Path.last_edge h
  rw [hp.2.2.2.1 m] at hl
  exact Regexp.lang_zero.1 hl

theorem Path.trans {G : GNFA σ τ} {p m r : σ} {u v : List τ} (h1 : G.Path p u m) (h2 : G.Path m v r) :
    G.Path p (u ++ v) r := by
  induction h1 with
  | one hp _ hl => exact GNFA.Path.cons hp (Path.src_mem h2) hl h2
  | cons hp hr hl _ ih =>
    rw [List.append_assoc]
    exact GNFA.Path.cons hp hr hl (ih h2)

section ToGnfa
variable (D : DFA σ τ) (qs qa : σ)

theorem toGnfa_get_lang (p r : σ) (w : List τ) :
    ((D.toGnfa qs qa).get p r).Lang w ↔
      (((r = qa ∧ p ∈ D.F) ∨ (p = qs ∧ r = D.q0)) ∧ w = []) ∨ ∃ a, ((p, a), r) ∈ D.delta ∧ w = [a] := by
  unfold GNFA.get
  rw [toGnfa_delta]
  refine (Dict.obs_lookup_foldl _ addSym langOf _ lang_addSym ..).trans ?_
  rw [langOf, lookup_foldF, Dict.lookup_cons_ite, List.lookup_nil]
  apply or_congr
  · by_cases h1 : r = qa ∧ p ∈ D.F
    · simp [h1, Regexp.lang_one]
    · rw [if_neg h1]
      by_cases h2 : (p, r) = (qs, D.q0)
      · rw [if_pos h2]
        simp only [Prod.mk.injEq] at h2
        simp [h2, Regexp.lang_one]
      · rw [if_neg h2]
        simp only [Prod.mk.injEq] at h2
        simp [h1, h2]
  · constructor
    · rintro ⟨⟨⟨p', a⟩, r'⟩, he, hk, hw⟩
      cases hk
      exact ⟨a, he, hw⟩
    · rintro ⟨a, he, hw⟩
      exact ⟨((p, a), r), he, rfl, hw⟩

/-- a pair for which nothing is written has the label `0` -/
theorem toGnfa_get_zero {p r : σ} (hF : ¬ (r = qa ∧ p ∈ D.F)) (h0 : (p, r) ≠ (qs, D.q0))
    (hd : ∀ e, e ∈ D.delta → (e.1.1, e.2) ≠ (p, r)) : (D.toGnfa qs qa).get p r = .zero := by
  unfold GNFA.get
  rw [toGnfa_delta, Dict.lookup_foldl_other _ addSym _ _ _ hd, lookup_foldF, if_neg hF, Dict.lookup_cons_ite, if_neg h0]
  rfl

variable (hv : D.valid = true) (hs : qs ∉ D.Q) (ha : qa ∉ D.Q) (hne : qs ≠ qa)
include hv hs ha hne

theorem toGnfa_mem_Q (q : σ) : q ∈ (D.toGnfa qs qa).Q ↔ q ∈ D.Q ∨ q = qs ∨ q = qa := by
  show q ∈ sinsert (sinsert D.Q qa) qs ↔ _
  simp only [mem_sinsert]
  constructor
  · rintro ((h | h) | h)
    · exact Or.inl h
    · exact Or.inr (Or.inr h)
    · exact Or.inr (Or.inl h)
  · rintro (h | h | h)
    · exact Or.inl (Or.inl h)
    · exact Or.inr h
    · exact Or.inl (Or.inr h)

theorem toGnfa_proper : (D.toGnfa qs qa).Proper := by
  have hmem := toGnfa_mem_Q D qs qa hv hs ha hne
  have h4 (p : σ) : (D.toGnfa qs qa).get p qs = .zero := by
    refine toGnfa_get_zero D qs qa (fun h => hne h.1) (fun h => ?_) fun e he h => ?_
    · exact hs ((Prod.mk.inj h).2 ▸ DFA.valid_q0 hv)
    · exact hs ((Prod.mk.inj h).2 ▸ (DFA.valid_closed hv he).2.2)
  have h5 (p : σ) : (D.toGnfa qs qa).get qa p = .zero := by
    refine toGnfa_get_zero D qs qa (fun h => ha (DFA.valid_F hv h.2)) (fun h => hne (Prod.mk.inj h).1.symm)
      fun e he h => ?_
    exact ha ((Prod.mk.inj h).1 ▸ (DFA.valid_closed hv he).1)
  exact ⟨(hmem qs).2 (Or.inr (Or.inl rfl)), (hmem qa).2 (Or.inr (Or.inr rfl)), hne, h4, h5⟩

theorem toGnfa_path_of_run {p f : σ} {w : List τ} (hr : D.Run p w f) (hp : p ∈ D.Q) (hf : f ∈ D.F) :
    (D.toGnfa qs qa).Path p w qa := by
  have hmem := toGnfa_mem_Q D qs qa hv hs ha hne
  induction hr with
  | nil q =>
    exact GNFA.Path.one ((hmem _).2 (Or.inl hp)) ((hmem _).2 (Or.inr (Or.inr rfl)))
      ((toGnfa_get_lang D qs qa _ _ _).2 (Or.inl ⟨Or.inl ⟨rfl, hf⟩, rfl⟩))
  | @cons q q' r a w hl _ ih =>
    have hq' := (DFA.valid_lookup hv hl).2.2
    have : a :: w = [a] ++ w := rfl
    rw [this]
    exact GNFA.Path.cons ((hmem _).2 (Or.inl hp)) ((hmem _).2 (Or.inl hq'))
      ((toGnfa_get_lang D qs qa _ _ _).2 (Or.inr ⟨a, Dict.mem_of_lookup hl, rfl⟩)) (ih hq' hf)

theorem toGnfa_run_of_path (hk : (D.delta.map (·.1)).Nodup) {p r : σ} {w : List τ}
    (h : (D.toGnfa qs qa).Path p w r) :
    r = qa → (p ∈ D.Q → ∃ f, f ∈ D.F ∧ D.Run p w f) ∧ (p = qs → D.Accepts w) := by
  have hpr := toGnfa_proper D qs qa hv hs ha hne
  induction h with
  | @one p r w _ _ hl =>
    intro hr
    subst hr
    rw [toGnfa_get_lang] at hl
    rcases hl with ⟨⟨_, hf⟩ | ⟨_, h0⟩, rfl⟩ | ⟨a, he, _⟩
    · refine ⟨fun _ => ⟨p, hf, DFA.Run.nil _⟩, ?_⟩
      rintro rfl
      exact absurd (DFA.valid_F hv hf) hs
    · exact absurd (h0 ▸ DFA.valid_q0 hv) ha
    · exact absurd (DFA.valid_closed hv he).2.2 ha
  | @cons p m r u v _ _ hl hpath ih =>
    intro hr
    subst hr
    rw [toGnfa_get_lang] at hl
    rcases hl with ⟨⟨hm, _⟩ | ⟨hp, h0⟩, rfl⟩ | ⟨a, he, rfl⟩
    · subst hm
      exact absurd hpath (no_path_from_accept hpr)
    · subst h0
      refine ⟨fun h => absurd (hp ▸ h) hs, fun _ => ?_⟩
      obtain ⟨f, hf, hrun⟩ := (ih rfl).1 (DFA.valid_q0 hv)
      exact ⟨f, hf, hrun⟩
    · obtain ⟨hp, _, hm⟩ := DFA.valid_closed hv he
      refine ⟨fun _ => ?_, fun h => absurd (h ▸ hp) hs⟩
      obtain ⟨f, hf, hrun⟩ := (ih rfl).1 hm
      exact ⟨f, hf, DFA.Run.cons (Dict.lookup_of_mem_nodup hk he) hrun⟩

theorem toGnfa_glang (hk : (D.delta.map (·.1)).Nodup) (w : List τ) :
    (D.toGnfa qs qa).GLang w ↔ D.Accepts w := by
  have hmem := toGnfa_mem_Q D qs qa hv hs ha hne
  constructor
  · intro h
    exact (toGnfa_run_of_path D qs qa hv hs ha hne hk h rfl).2 rfl
  · rintro ⟨f, hf, hr⟩
    have h1 := toGnfa_path_of_run D qs qa hv hs ha hne hr (DFA.valid_q0 hv) hf
    have : w = [] ++ w := rfl
    show (D.toGnfa qs qa).Path qs w qa
    rw [this]
    exact GNFA.Path.cons ((hmem _).2 (Or.inr (Or.inl rfl))) ((hmem _).2 (Or.inl (DFA.valid_q0 hv)))
      ((toGnfa_get_lang D qs qa _ _ _).2 (Or.inl ⟨Or.inr ⟨rfl, rfl⟩, rfl⟩)) h1

end ToGnfa

/-- the words that ripping `q` adds between `k.1` and `k.2`: into `q`, around it any number of times, out of it -/
def Via (G : GNFA σ τ) (q : σ) (k : σ × σ) (w : List τ) : Prop :=
  ∃ u1 u2 u3, w = u1 ++ (u2 ++ u3) ∧ (G.get k.1 q).Lang u1 ∧ (Regexp.star (G.get q q)).Lang u2 ∧
    (G.get q k.2).Lang u3

/-- `simplify (R1 . (R2* . R3) + R4)`, where `R4` is the entry so far -/
def ripLabel (G : GNFA σ τ) (q : σ) (k : σ × σ) (o : Option (Regexp τ)) : Regexp τ :=
  Regexp.simplify (.sum (.cat (G.get k.1 q) (.cat (.star (G.get q q)) (G.get q k.2))) (o.getD .zero))

theorem lang_ripLabel (G : GNFA σ τ) (q : σ) (k : σ × σ) (o : Option (Regexp τ)) (w : List τ) :
    (ripLabel G q k o).Lang w ↔ langOf o w ∨ Via G q k w := by
  unfold ripLabel Via
  rw [Regexp.simplify_lang, Regexp.lang_sum, Regexp.lang_cat, or_comm]
  refine or_congr Iff.rfl ⟨?_, ?_⟩
  · rintro ⟨u1, v, rfl, h1, h23⟩
    obtain ⟨u2, u3, rfl, h2, h3⟩ := Regexp.lang_cat.1 h23
    exact ⟨u1, u2, u3, rfl, h1, h2, h3⟩
  · rintro ⟨u1, u2, u3, rfl, h1, h2, h3⟩
    exact ⟨u1, u2 ++ u3, rfl, h1, Regexp.lang_cat.2 ⟨u2, u3, rfl, h2, h3⟩⟩

/-- the pairs whose label `rip` rewrites, in the order of the two loops -/
def ripPairs (G : GNFA σ τ) (q : σ) : List (σ × σ) :=
  ((G.Q.filter (· ≠ q)).filter (· ≠ G.qAccept)).flatMap fun qi =>
    ((G.Q.filter (· ≠ q)).filter (· ≠ G.qStart)).map fun qj => (qi, qj)

theorem rip_delta (G : GNFA σ τ) (q : σ) :
    (G.rip q).delta = (ripPairs G q).foldl (fun d k => d.set k (ripLabel G q k (d.lookup k))) G.delta := by
  rw [ripPairs, List.foldl_flatMap]
  simp only [List.foldl_map]
  rfl

theorem rip_Q (G : GNFA σ τ) (q : σ) : (G.rip q).Q = G.Q.filter (· ≠ q) := rfl
theorem rip_qStart (G : GNFA σ τ) (q : σ) : (G.rip q).qStart = G.qStart := rfl
theorem rip_qAccept (G : GNFA σ τ) (q : σ) : (G.rip q).qAccept = G.qAccept := rfl

theorem rip_mem_Q (G : GNFA σ τ) (q p : σ) : p ∈ (G.rip q).Q ↔ p ∈ G.Q ∧ p ≠ q := by
  rw [rip_Q, List.mem_filter, decide_eq_true_eq]

theorem mem_ripPairs {G : GNFA σ τ} {q x y : σ} :
    (x, y) ∈ ripPairs G q ↔ (x ∈ (G.rip q).Q ∧ x ≠ G.qAccept) ∧ y ∈ (G.rip q).Q ∧ y ≠ G.qStart := by
  simp only [ripPairs, rip_Q, List.mem_flatMap, List.mem_map, List.mem_filter, decide_eq_true_eq, Prod.mk.injEq]
  exact ⟨fun ⟨_, ha, _, hb, e1, e2⟩ => e1 ▸ e2 ▸ ⟨ha, hb⟩, fun ⟨ha, hb⟩ => ⟨x, ha, y, hb, rfl, rfl⟩⟩

theorem rip_get_other (G : GNFA σ τ) (q : σ) {x y : σ} (h : (x, y) ∉ ripPairs G q) :
    (G.rip q).get x y = G.get x y := by
  unfold GNFA.get
  rw [rip_delta]
  exact congrArg (Option.getD · Regexp.zero)
    (Dict.lookup_foldl_other (fun k => k) _ _ _ _ fun k hk (e : k = (x, y)) => h (e ▸ hk))

/-- the language of every label after ripping `q`; no matter if a pair is visited more than once -/
theorem rip_get_lang' (G : GNFA σ τ) (q x y : σ) (w : List τ) :
    ((G.rip q).get x y).Lang w ↔ (G.get x y).Lang w ∨ (x, y) ∈ ripPairs G q ∧ Via G q (x, y) w := by
  unfold GNFA.get
  rw [rip_delta]
  refine (Dict.obs_lookup_foldl (fun k => k) _ langOf _ (lang_ripLabel G q) ..).trans (or_congr Iff.rfl ?_)
  exact ⟨fun ⟨_, hk, e, h⟩ => e ▸ ⟨hk, h⟩, fun ⟨hk, h⟩ => ⟨_, hk, rfl, h⟩⟩

theorem rip_get_lang (G : GNFA σ τ) (hp : G.Proper) (q : σ) (x y : σ)
    (hx : x ∈ (G.rip q).Q) (hy : y ∈ (G.rip q).Q) (w : List τ) :
    ((G.rip q).get x y).Lang w ↔
      (∃ u1 u2 u3, w = u1 ++ (u2 ++ u3) ∧ (G.get x q).Lang u1 ∧ (Regexp.star (G.get q q)).Lang u2 ∧
        (G.get q y).Lang u3) ∨ (G.get x y).Lang w := by
  rw [rip_get_lang', or_comm]
  refine or_congr ⟨And.right, fun h => ⟨?_, h⟩⟩ Iff.rfl
  -- the pair is among those visited: no word leaves the accept state, none enters the start state
  obtain ⟨u1, u2, u3, -, h1, -, h3⟩ := h
  refine mem_ripPairs.2 ⟨⟨hx, ?_⟩, hy, ?_⟩ <;> rintro rfl
  · rw [hp.2.2.2.2] at h1; exact Regexp.lang_zero.1 h1
  · rw [hp.2.2.2.1] at h3; exact Regexp.lang_zero.1 h3

theorem rip_proper (G : GNFA σ τ) (hp : G.Proper) (q : σ) (hqs : q ≠ G.qStart) (hqa : q ≠ G.qAccept) :
    (G.rip q).Proper := by
  obtain ⟨h1, h2, h3, h4, h5⟩ := hp
  refine ⟨(rip_mem_Q G q _).2 ⟨h1, fun h => hqs h.symm⟩, (rip_mem_Q G q _).2 ⟨h2, fun h => hqa h.symm⟩, h3,
    fun p => ?_, fun p => ?_⟩
  · exact (rip_get_other G q fun h => (mem_ripPairs.1 h).2.2 rfl).trans (h4 p)
  · exact (rip_get_other G q fun h => (mem_ripPairs.1 h).1.2 rfl).trans (h5 p)

section Surgery
variable (G G' : GNFA σ τ) (q : σ) (hq : q ∈ G.Q)
  (hQ : ∀ x, x ∈ G'.Q ↔ x ∈ G.Q ∧ x ≠ q)
  (hL : ∀ x y, x ∈ G'.Q → y ∈ G'.Q → ∀ w, (G'.get x y).Lang w ↔
      (∃ u1 u2 u3, w = u1 ++ (u2 ++ u3) ∧ (G.get x q).Lang u1 ∧ (Regexp.star (G.get q q)).Lang u2 ∧
        (G.get q y).Lang u3) ∨ (G.get x y).Lang w)

include hq in
theorem loop_path {u v : List τ} {r : σ} (hu : (Regexp.star (G.get q q)).Lang u) (hv : G.Path q v r) :
    G.Path q (u ++ v) r := by
  refine hu.star_induction (P := fun u => G.Path q (u ++ v) r) hv fun u1 u2 h1 _ ih => ?_
  rw [List.append_assoc]
  exact GNFA.Path.cons hq hq h1 ih

include hq hQ hL in
theorem edge_to_path {x y : σ} {w : List τ} (hx : x ∈ G'.Q) (hy : y ∈ G'.Q) (hl : (G'.get x y).Lang w) :
    G.Path x w y := by
  have hx' := ((hQ x).1 hx).1
  have hy' := ((hQ y).1 hy).1
  rcases (hL x y hx hy w).1 hl with ⟨u1, u2, u3, rfl, h1, h2, h3⟩ | h
  · exact GNFA.Path.cons hx' hq h1 (loop_path G q hq h2 (GNFA.Path.one hq hy' h3))
  · exact GNFA.Path.one hx' hy' h

include hq hQ hL in
/-- soundness of ripping: every path of the ripped automaton expands to a path of `G` -/
theorem path_of_rip {p r : σ} {w : List τ} (h : G'.Path p w r) : G.Path p w r := by
  induction h with
  | one hp hr hl => exact edge_to_path G G' q hq hQ hL hp hr hl
  | cons hp hm hl _ ih => exact Path.trans (edge_to_path G G' q hq hQ hL hp hm hl) ih

include hq hQ hL in
/-- completeness of ripping: visits to `q` are contracted to single edges -/
theorem rip_of_path {x r : σ} {w : List τ} (h : G.Path x w r) :
    r ≠ q → (x ≠ q → G'.Path x w r) ∧
      (x = q → ∀ p u1 u2, p ∈ G'.Q → (G.get p q).Lang u1 → (Regexp.star (G.get q q)).Lang u2 →
        G'.Path p (u1 ++ (u2 ++ w)) r) := by
  induction h with
  | @one x r w hx hr hl =>
    intro hrq
    have hr' : r ∈ G'.Q := (hQ r).2 ⟨hr, hrq⟩
    constructor
    · intro hxq
      have hx' : x ∈ G'.Q := (hQ x).2 ⟨hx, hxq⟩
      exact GNFA.Path.one hx' hr' ((hL x r hx' hr' w).2 (Or.inr hl))
    · rintro rfl p u1 u2 hp h1 h2
      exact GNFA.Path.one hp hr' ((hL p r hp hr' _).2 (Or.inl ⟨u1, u2, w, rfl, h1, h2, hl⟩))
  | @cons x m r u v hx hm hl _ ih =>
    intro hrq
    obtain ⟨ih1, ih2⟩ := ih hrq
    constructor
    · intro hxq
      have hx' : x ∈ G'.Q := (hQ x).2 ⟨hx, hxq⟩
      by_cases hmq : m = q
      · subst hmq
        have := ih2 rfl x u [] hx' hl Regexp.lang_star_nil
        simpa using this
      · have hm' : m ∈ G'.Q := (hQ m).2 ⟨hm, hmq⟩
        exact GNFA.Path.cons hx' hm' ((hL x m hx' hm' u).2 (Or.inr hl)) (ih1 hmq)
    · rintro rfl p u1 u2 hp h1 h2
      by_cases hmq : m = x
      · subst hmq
        have := ih2 rfl p u1 (u2 ++ u) hp h1 (Regexp.lang_star_append h2 (Regexp.lang_of_star hl))
        simpa [List.append_assoc] using this
      · have hm' : m ∈ G'.Q := (hQ m).2 ⟨hm, hmq⟩
        have := GNFA.Path.cons hp hm' ((hL p m hp hm' _).2 (Or.inl ⟨u1, u2, u, rfl, h1, h2, hl⟩)) (ih1 hmq)
        simpa [List.append_assoc] using this

end Surgery

theorem rip_glang (G : GNFA σ τ) (hp : G.Proper) (q : σ) (hq : q ∈ G.Q) (hqs : q ≠ G.qStart)
    (hqa : q ≠ G.qAccept) (w : List τ) : (G.rip q).GLang w ↔ G.GLang w := by
  have hQ := rip_mem_Q G q
  have hL := rip_get_lang G hp q
  constructor
  · intro h
    exact path_of_rip G (G.rip q) q hq hQ hL h
  · intro h
    exact (rip_of_path G (G.rip q) q hq hQ hL h (fun h => hqa h.symm)).1 (fun h => hqs h.symm)

theorem rip_nodup (G : GNFA σ τ) (q : σ) (hnd : G.Q.Nodup) : (G.rip q).Q.Nodup := by
  rw [rip_Q]; exact hnd.filter _

theorem minimize_nil (G : GNFA σ τ) : G.minimize [] = G := rfl
theorem minimize_cons (G : GNFA σ τ) (q : σ) (order : List σ) :
    G.minimize (q :: order) = (G.rip q).minimize order := rfl

theorem minimize_spec (order : List σ) (G : GNFA σ τ) (hp : G.Proper) (ho : order.Nodup)
    (hm : ∀ x, x ∈ order → x ∈ G.Q ∧ x ≠ G.qStart ∧ x ≠ G.qAccept) :
    (G.minimize order).Proper ∧ (G.minimize order).qStart = G.qStart ∧
    (G.minimize order).qAccept = G.qAccept ∧
    (∀ x, x ∈ (G.minimize order).Q ↔ x ∈ G.Q ∧ x ∉ order) ∧
    ∀ w, (G.minimize order).GLang w ↔ G.GLang w := by
  induction order generalizing G with
  | nil =>
    rw [minimize_nil]
    exact ⟨hp, rfl, rfl, fun x => by simp, fun w => Iff.rfl⟩
  | cons q order ih =>
    rw [List.nodup_cons] at ho
    obtain ⟨hq, hqs, hqa⟩ := hm q List.mem_cons_self
    rw [minimize_cons]
    have hm' : ∀ x, x ∈ order → x ∈ (G.rip q).Q ∧ x ≠ (G.rip q).qStart ∧ x ≠ (G.rip q).qAccept := by
      intro x hx
      obtain ⟨h1, h2, h3⟩ := hm x (List.mem_cons_of_mem _ hx)
      refine ⟨(rip_mem_Q G q x).2 ⟨h1, ?_⟩, h2, h3⟩
      rintro rfl
      exact ho.1 hx
    obtain ⟨i1, i2, i3, i5, i6⟩ := ih (G.rip q) (rip_proper G hp q hqs hqa) ho.2 hm'
    refine ⟨i1, i2, i3, ?_, ?_⟩
    · intro x
      rw [i5, rip_mem_Q, List.mem_cons]
      constructor
      · rintro ⟨⟨h1, h2⟩, h3⟩
        exact ⟨h1, fun h => h.elim h2 h3⟩
      · rintro ⟨h1, h2⟩
        exact ⟨⟨h1, fun h => h2 (Or.inl h)⟩, fun h => h2 (Or.inr h)⟩
    · intro w
      rw [i6, rip_glang G hp q hq hqs hqa]

/-- with only the start and the accept state left, the language is that of the single edge -/
theorem glang_two (G : GNFA σ τ) (hp : G.Proper) (hQ : ∀ x, x ∈ G.Q → x = G.qStart ∨ x = G.qAccept)
    (w : List τ) : G.GLang w ↔ (G.get G.qStart G.qAccept).Lang w := by
  constructor
  · have key : ∀ p r w, G.Path p w r → p = G.qStart → r = G.qAccept → (G.get p r).Lang w := by
      intro p r w h
      cases h with
      | one _ _ hl => intro _ _; exact hl
      | @cons _ m _ u v _ hm hl hpath =>
        intro h1 h2
        subst h1
        rcases hQ m hm with rfl | rfl
        · rw [hp.2.2.2.1] at hl
          exact absurd hl Regexp.lang_zero.1
        · exact absurd hpath (no_path_from_accept hp)
    intro h
    exact key _ _ _ h rfl rfl
  · intro h
    exact GNFA.Path.one hp.1 hp.2.1 h

/-- `dfa_to_regexp` is correct for every elimination order, whether or not `D.Q` lists a state twice -/
theorem toRegexp_spec (D : DFA σ τ) (hv : D.valid = true) (hk : (D.delta.map (·.1)).Nodup)
    (qs qa : σ) (hs : qs ∉ D.Q) (ha : qa ∉ D.Q) (hne : qs ≠ qa)
    (order : List σ) (ho : order.Nodup) (hm : ∀ q, q ∈ order ↔ q ∈ D.Q) (w : List τ) :
    (D.toRegexp qs qa order).Lang w ↔ D.Accepts w := by
  have hmem := toGnfa_mem_Q D qs qa hv hs ha hne
  have hpr := toGnfa_proper D qs qa hv hs ha hne
  have hm' : ∀ x, x ∈ order → x ∈ (D.toGnfa qs qa).Q ∧ x ≠ (D.toGnfa qs qa).qStart ∧
      x ≠ (D.toGnfa qs qa).qAccept := by
    intro x hx
    have hxQ := (hm x).1 hx
    refine ⟨(hmem x).2 (Or.inl hxQ), ?_, ?_⟩
    · rintro rfl; exact hs hxQ
    · rintro rfl; exact ha hxQ
  obtain ⟨m1, m2, m3, m5, m6⟩ := minimize_spec order (D.toGnfa qs qa) hpr ho hm'
  have htwo : ∀ x, x ∈ ((D.toGnfa qs qa).minimize order).Q →
      x = ((D.toGnfa qs qa).minimize order).qStart ∨ x = ((D.toGnfa qs qa).minimize order).qAccept := by
    intro x hx
    rw [m2, m3]
    obtain ⟨h1, h2⟩ := (m5 x).1 hx
    rcases (hmem x).1 h1 with h | h | h
    · exact absurd ((hm x).2 h) h2
    · exact Or.inl h
    · exact Or.inr h
  have h2 := glang_two _ m1 htwo w
  rw [m2, m3, m6, toGnfa_glang D qs qa hv hs ha hne hk] at h2
  exact h2.symm

theorem toRegexp_lang (D : DFA σ τ) (hv : D.valid = true) (hk : (D.delta.map (·.1)).Nodup) (hQ : D.Q.Nodup)
    (qs qa : σ) (hs : qs ∉ D.Q) (ha : qa ∉ D.Q) (hne : qs ≠ qa)
    (order : List σ) (ho : order.Nodup) (hm : ∀ q, q ∈ order ↔ q ∈ D.Q) (w : List τ) :
    (D.toRegexp qs qa order).Lang w ↔ D.Accepts w :=
  have _ := hQ
  toRegexp_spec D hv hk qs qa hs ha hne order ho hm w

/-- the DFA of the examples: even number of `a`s over `{a, b}` -/
def evenA : DFA String String :=
  { Q := ["q0", "q1"], Sigma := ["a", "b"],
    delta := [(("q0", "a"), "q1"), (("q0", "b"), "q0"), (("q1", "a"), "q0"), (("q1", "b"), "q1")],
    q0 := "q0", F := ["q0"] }

/-- `evenA` with the fresh names "start", "accept" meets the hypotheses of `toGnfa_spec` and `toRegexp_lang` -/
theorem evenA_ok : evenA.valid = true ∧ (evenA.delta.map (·.1)).Nodup ∧ "start" ∉ evenA.Q ∧
    "accept" ∉ evenA.Q ∧ "start" ≠ "accept" := by decide +kernel

end C06b
end Gamba
