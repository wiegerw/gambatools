/-
  Gamba.Proofs.C02reg — helper lemmas for the bounded enumerations `dfa_words_up_to_n` /
  `nfa_words_up_to_n` (property C02, regular part).
-/
import Gamba.Proofs.DFABasic
import Gamba.Proofs.C01
import Gamba.Proofs.Words
namespace Gamba

section
variable {σ τ : Type} [DecidableEq σ] [DecidableEq τ]

/-! `dfa_words_up_to_n`: the state of a frontier pair is a function of its word, so the frontiers are the levels of `wordsUpTo` (Model/Basic)
with the states attached, and the enumeration is that list filtered: an equation between lists, order included. -/

theorem DFA.frontierStep_map (D : DFA σ τ) (L : List (List τ)) :
    D.frontierStep (L.map fun w => (D.runT D.q0 w, w)) =
      (L.flatMap fun w => D.Sigma.map fun a => w ++ [a]).map fun w => (D.runT D.q0 w, w) := by
  rw [DFA.frontierStep, List.flatMap_map, List.map_flatMap]
  simp only [List.map_map, Function.comp_def, DFA.runT_append, DFA.runT_cons, DFA.runT_nil]

theorem DFA.wordsUpToAux_eq (D : DFA σ τ) (n : Nat) : ∀ (i : Nat) (words : List (List τ)),
    D.wordsUpToAux n ((wordsOfLength D.Sigma i).map fun w => (D.runT D.q0 w, w)) words =
      words ++ ((List.range' (i + 1) n).flatMap (wordsOfLength D.Sigma)).filter D.acceptsT := by
  induction n with
  | zero => intro i words; exact (List.append_nil _).symm
  | succ n ih =>
    intro i words
    rw [DFA.wordsUpToAux, D.frontierStep_map, ← wordsOfLength, ih, List.range'_succ, List.flatMap_cons,
      List.filter_append, List.append_assoc, List.filter_map, List.map_map]
    exact congrArg (fun l => words ++ (l ++ _)) (List.map_id' _)

theorem DFA.wordsUpTo_eq (D : DFA σ τ) (n : Nat) :
    D.wordsUpTo n = (Gamba.wordsUpTo D.Sigma n).filter D.acceptsT := by
  rw [Gamba.wordsUpTo, List.range_eq_range', List.range'_succ, List.flatMap_cons, List.filter_append]
  refine (D.wordsUpToAux_eq n 0 _).trans (congrArg (· ++ _) ?_)
  rw [wordsOfLength, List.filter_cons, List.filter_nil]
  by_cases h : D.q0 ∈ D.F <;> simp [DFA.acceptsT, h]

theorem DFA.mem_wordsUpTo (D : DFA σ τ) (n : Nat) (w : List τ) :
    w ∈ D.wordsUpTo n ↔
      w.length ≤ n ∧ (∀ a, a ∈ w → a ∈ D.Sigma) ∧ D.runT D.q0 w ∈ D.F := by
  rw [D.wordsUpTo_eq, List.mem_filter, Gamba.mem_wordsUpTo, DFA.acceptsT, decide_eq_true_iff, and_assoc]

/-- one step of the frontier of `nfa_words_up_to_n`, as a total function -/
def NFA.frontierStep (N : NFA σ τ) (s : Sched) (W : List (σ × List τ)) : List (σ × List τ) :=
  dedup (W.flatMap fun p => N.Sigma.flatMap fun a => (N.eqaT s p.1 a).map fun q1 => (q1, p.2 ++ [a]))

theorem NFA.mem_frontierStep {N : NFA σ τ} (hv : N.valid = true) (s : Sched)
    (W : List (σ × List τ)) (p : σ × List τ) :
    p ∈ N.frontierStep s W ↔
      ∃ q w, (q, w) ∈ W ∧ ∃ a, a ∈ N.Sigma ∧ p.2 = w ++ [a] ∧
        ∃ q', N.Succ q a q' ∧ N.EpsReach [q'] p.1 := by
  simp only [NFA.frontierStep, mem_dedup, List.mem_flatMap, List.mem_map, ← NFA.mem_eqaT hv s]
  constructor
  · rintro ⟨⟨q, w⟩, hqw, a, ha, q1, hq1, rfl⟩; exact ⟨q, w, hqw, a, ha, rfl, hq1⟩
  · rintro ⟨q, w, hqw, a, ha, hp2, hq'⟩; exact ⟨(q, w), hqw, a, ha, p.1, hq', hp2 ▸ rfl⟩

theorem NFA.wordsLoop_succ {N : NFA σ τ} (hv : N.valid = true) (s : Sched) (F1 : List σ) (n : Nat)
    (W : List (σ × List τ)) (result : List (List τ)) :
    N.wordsLoop s F1 (n + 1) W result =
      N.wordsLoop s F1 n (N.frontierStep s W)
        (sunion result (((N.frontierStep s W).filter fun p => decide (p.1 ∈ F1)).map (·.2))) := by
  rw [NFA.wordsLoop]
  rw [mapM_ok_map (g := fun p =>
    (N.Sigma.map fun a => (N.eqaT s p.1 a).map fun q1 => (q1, p.2 ++ [a])).flatten) W]
  · rfl
  · rintro ⟨q, w⟩ _
    dsimp only
    rw [mapM_ok_map (g := fun a => (N.eqaT s q a).map fun q1 => (q1, w ++ [a])) N.Sigma]
    · rfl
    · intro a _
      rw [NFA.eqa_eq_ok hv]
      rfl

/-- the invariant of `NFA.wordsLoop`: the frontier after `i` steps -/
def NFA.Front (N : NFA σ τ) (i : Nat) (W : List (σ × List τ)) : Prop :=
  ∀ q w, (q, w) ∈ W ↔ w ∈ wordsOfLength N.Sigma i ∧ N.Run N.q0 w q

theorem NFA.Front_zero {N : NFA σ τ} (hv : N.valid = true) (s : Sched) :
    N.Front 0 ((N.closureT s [N.q0]).map fun q => (q, [])) := by
  intro q w
  simp only [List.mem_map, Prod.mk.injEq, NFA.mem_closureT hv, ← NFA.Run_nil_iff_epsReach, wordsOfLength,
    List.mem_singleton]
  constructor
  · rintro ⟨q', hq', rfl, rfl⟩; exact ⟨rfl, hq'⟩
  · rintro ⟨rfl, hr⟩; exact ⟨q, hr, rfl, rfl⟩

theorem NFA.Front_step {N : NFA σ τ} (hv : N.valid = true) (s : Sched) {i : Nat}
    {W : List (σ × List τ)} (h : N.Front i W) : N.Front (i + 1) (N.frontierStep s W) := by
  intro q' w'
  have hne : ∀ a, a ∈ N.Sigma → a ≠ N.eps := fun a ha => NFA.valid_ne_eps hv ha
  simp only [NFA.mem_frontierStep hv, wordsOfLength, List.mem_flatMap, List.mem_map]
  constructor
  · rintro ⟨q, w, hqw, a, ha, rfl, q1, hs, he⟩
    obtain ⟨hw, hr⟩ := (h q w).mp hqw
    exact ⟨⟨w, hw, a, ha, rfl⟩, (NFA.Run_snoc_iff (hne a ha)).mpr ⟨q, q1, hr, hs, he⟩⟩
  · rintro ⟨⟨u, hu, a, ha, rfl⟩, hr⟩
    obtain ⟨q, q1, hru, hs, he⟩ := (NFA.Run_snoc_iff (hne a ha)).mp hr
    exact ⟨q, u, (h q u).mpr ⟨hu, hru⟩, a, ha, rfl, q1, hs, he⟩

/-- `F1`: the states whose ε-closure meets `F` -/
def NFA.F1T (N : NFA σ τ) (s : Sched) : List σ :=
  N.Q.filter fun q => !sdisjoint (N.closureT s [q]) N.F

theorem NFA.F1_eq_ok {N : NFA σ τ} (hv : N.valid = true) (s : Sched) :
    (N.Q.filterM fun q => do
      let C ← N.closure s [q]
      pure (!sdisjoint C N.F)) = .ok (N.F1T s) := by
  unfold NFA.F1T
  apply filterM_ok
  intro q _
  rw [NFA.closure_eq_ok hv]
  rfl

theorem NFA.mem_F1T {N : NFA σ τ} (hv : N.valid = true) (s : Sched) (q : σ) :
    q ∈ N.F1T s ↔ q ∈ N.Q ∧ ∃ f, f ∈ N.F ∧ N.Run q [] f := by
  simp only [NFA.F1T, List.mem_filter, Bool.not_eq_true', sdisjoint_false_iff, NFA.mem_closureT hv,
    ← NFA.Run_nil_iff_epsReach]
  constructor
  · rintro ⟨hq, f, hf, hfF⟩; exact ⟨hq, f, hfF, hf⟩
  · rintro ⟨hq, f, hfF, hr⟩; exact ⟨hq, f, hr, hfF⟩

theorem NFA.Accepts_iff_frontier {N : NFA σ τ} (hv : N.valid = true) (w : List τ) :
    N.Accepts w ↔ ∃ q, N.Run N.q0 w q ∧ q ∈ N.Q ∧ ∃ f, f ∈ N.F ∧ N.Run q [] f := by
  constructor
  · rintro ⟨f, hf, hr⟩
    exact ⟨f, hr, NFA.valid_F hv hf, f, hf, NFA.Run.nil f⟩
  · rintro ⟨q, hr, _, f, hf, hr'⟩
    have := NFA.Run.append hr hr'
    rw [List.append_nil] at this
    exact ⟨f, hf, this⟩

theorem NFA.wordsLoop_spec {N : NFA σ τ} (hv : N.valid = true) (s : Sched) (n : Nat) :
    ∀ (i : Nat) (W : List (σ × List τ)) (result : List (List τ)), N.Front i W →
    ∃ L, N.wordsLoop s (N.F1T s) n W result = .ok L ∧
      ∀ w, w ∈ L ↔ w ∈ result ∨ w ∈ (List.range' (i + 1) n).flatMap (wordsOfLength N.Sigma) ∧ N.Accepts w := by
  induction n with
  | zero =>
    intro i W result _
    exact ⟨result, rfl, fun w => ⟨Or.inl, fun h => h.elim id fun h => nomatch h.1⟩⟩
  | succ n ih =>
    intro i W result hW
    have hW' := NFA.Front_step hv s hW
    obtain ⟨L, hL, hm⟩ := ih (i + 1) _
      (sunion result (((N.frontierStep s W).filter
        fun (p : σ × List τ) => decide (p.1 ∈ N.F1T s)).map fun (p : σ × List τ) => p.2)) hW'
    refine ⟨L, by rw [NFA.wordsLoop_succ hv]; exact hL, ?_⟩
    intro w
    have hnew : w ∈ ((N.frontierStep s W).filter fun p => decide (p.1 ∈ N.F1T s)).map (·.2) ↔
        w ∈ wordsOfLength N.Sigma (i + 1) ∧ N.Accepts w := by
      simp only [List.mem_map, List.mem_filter, decide_eq_true_eq, NFA.Accepts_iff_frontier hv,
        NFA.mem_F1T hv]
      constructor
      · rintro ⟨⟨q, w'⟩, ⟨hmem, hf⟩, rfl⟩
        obtain ⟨hl, hr⟩ := (hW' q w').mp hmem
        exact ⟨hl, q, hr, hf⟩
      · rintro ⟨hl, q, hr, hf⟩
        exact ⟨(q, w), ⟨(hW' q w).mpr ⟨hl, hr⟩, hf⟩, rfl⟩
    rw [hm w, mem_sunion, hnew, List.range'_succ, List.flatMap_cons, List.mem_append, or_and_right, or_assoc]

theorem NFA.wordsUpTo_spec {N : NFA σ τ} (hv : N.valid = true) (s : Sched) (n : Nat) :
    ∃ L, N.wordsUpTo s n = .ok L ∧
      ∀ w, w ∈ L ↔ w.length ≤ n ∧ (∀ a, a ∈ w → a ∈ N.Sigma) ∧ N.Accepts w := by
  obtain ⟨L, hL, hm⟩ := NFA.wordsLoop_spec hv s n 0 _
    (if N.q0 ∈ N.F1T s then [[]] else []) (NFA.Front_zero hv s)
  refine ⟨L, ?_, fun w => ?_⟩
  · unfold NFA.wordsUpTo
    rw [NFA.F1_eq_ok hv, NFA.closure_eq_ok hv]
    exact hL
  · have hacc : N.q0 ∈ N.F1T s ↔ N.Accepts [] := by
      rw [NFA.mem_F1T hv]
      exact ⟨fun ⟨_, h⟩ => h, fun h => ⟨NFA.valid_q0 hv, h⟩⟩
    have h0 : w ∈ (if N.q0 ∈ N.F1T s then [[]] else ([] : List (List τ))) ↔
        w ∈ wordsOfLength N.Sigma 0 ∧ N.Accepts w := by
      rw [wordsOfLength, List.mem_singleton]
      split <;> simp_all
    rw [hm w, h0, ← and_assoc, ← mem_wordsUpTo, Gamba.wordsUpTo, List.range_eq_range', List.range'_succ,
      List.flatMap_cons, List.mem_append, or_and_right]

end
end Gamba
