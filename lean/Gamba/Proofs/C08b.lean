/-
  Gamba.Proofs.C08b — helper lemmas for phase 3 of the CNF conversion (`CFG.elimUnit`):
  unit-derivability (`derivable`), the rule set of `elimUnit`, language preservation.
-/
import Gamba.Proofs.CFGPairs
import Gamba.Proofs.Saturate
import Gamba.Proofs.ListFacts
namespace Gamba

theorem prefix_sinsert {α : Type} [DecidableEq α] (l : List α) (x : α) : l <+: sinsert l x := by
  unfold sinsert
  split
  · exact List.prefix_refl l
  · exact List.prefix_append l [x]

theorem mem_set_set_swap {α : Type} {l : List α} {i j : Nat} {a b : α} (hi : l[i]? = some a)
    (hj : l[j]? = some b) (x : α) : x ∈ (l.set i b).set j a ↔ x ∈ l := by
  have hil := (List.getElem?_eq_some_iff.mp hi).1
  have hjl : j < (l.set i b).length := by rw [List.length_set]; exact (List.getElem?_eq_some_iff.mp hj).1
  constructor
  · intro h
    rcases List.mem_or_eq_of_mem_set h with h | rfl
    · rcases List.mem_or_eq_of_mem_set h with h | rfl
      · exact h
      · exact List.mem_of_getElem? hj
    · exact List.mem_of_getElem? hi
  · intro h
    obtain ⟨k, hk⟩ := List.mem_iff_getElem?.mp h
    by_cases hki : k = i
    · -- `x = a`, which the exchange puts at `j`
      rw [hki, hi] at hk; cases hk
      exact List.mem_set hjl _
    · by_cases hkj : k = j
      · -- `x = b`, which the exchange puts at `i ≠ j`
        rw [hkj, hj] at hk; cases hk
        refine List.mem_iff_getElem?.mpr ⟨i, ?_⟩
        rw [List.getElem?_set_ne (fun e => hki (hkj.trans e)), List.getElem?_set_self hil]
      · refine List.mem_iff_getElem?.mpr ⟨k, ?_⟩
        rw [List.getElem?_set_ne (Ne.symm hkj), List.getElem?_set_ne (Ne.symm hki), hk]

namespace CFG

/-- `for r in rs: if g r = some B: acc.add(B)` -/
def sfold (g : CRule → Option String) (init : List String) (rs : List CRule) : List String :=
  rs.foldl (fun acc r => match g r with | some B => sinsert acc B | none => acc) init

theorem mem_sfold {g : CRule → Option String} {rs : List CRule} {init : List String} {x : String} :
    x ∈ sfold g init rs ↔ x ∈ init ∨ ∃ r, r ∈ rs ∧ g r = some x := by
  refine mem_foldl_acc _ (fun r x => g r = some x) (fun acc r y => ?_) rs init x
  cases g r with
  | none => simp
  | some B => simp only [mem_sinsert, Option.some.injEq]; exact or_congr_right eq_comm

theorem nodup_sfold {g : CRule → Option String} {rs : List CRule} {init : List String}
    (h : init.Nodup) : (sfold g init rs).Nodup := by
  refine List.foldlRecOn (motive := List.Nodup) _ _ h fun acc hacc r _ => ?_
  cases g r with
  | none => exact hacc
  | some B => exact nodup_sinsert hacc

theorem prefix_sfold (g : CRule → Option String) (rs : List CRule) (init : List String) : init <+: sfold g init rs := by
  refine List.foldlRecOn (motive := (init <+: ·)) _ _ (List.prefix_refl init) fun acc hacc r _ => ?_
  cases g r with
  | none => exact hacc
  | some B => exact hacc.trans (prefix_sinsert acc B)

/-- `len(rhs) == 1 and rhs[0] in V`: the test looks at the name of the symbol -/
theorem unitTarget_spec {G : CFG} {r : CRule} {B : String} :
    unitTarget G r = some B ↔ ∃ x, r.rhs = [x] ∧ x.name = B ∧ B ∈ G.V := by
  unfold unitTarget
  split
  · rename_i x hx
    simp only [hx, List.cons.injEq, and_true, exists_eq_left']
    split
    · rename_i h; exact ⟨fun e => by cases e; exact ⟨rfl, h⟩, fun e => by rw [e.1]⟩
    · rename_i h; exact ⟨nofun, fun e => absurd (e.1 ▸ e.2) h⟩
  · rename_i h; exact ⟨nofun, fun ⟨x, hx, _⟩ => absurd hx (h x)⟩

theorem unitTarget_mem_V {G : CFG} {r : CRule} {B : String} (h : unitTarget G r = some B) : B ∈ G.V :=
  have ⟨_, _, _, hB⟩ := unitTarget_spec.mp h
  hB

/-- unit-derivability: non-empty chains of unit rules -/
inductive UnitReach (G : CFG) : String → String → Prop
  | one {A B : String} : G.HasRule A [.v B] → UnitReach G A B
  | step {A B C : String} : UnitReach G A B → G.HasRule B [.v C] → UnitReach G A C

theorem unitTarget_eq_some_iff {G : CFG} (hv : G.valid = true) (hd : G.Disjoint) {r : CRule}
    (hr : r ∈ G.R) (B : String) : unitTarget G r = some B ↔ r.rhs = [.v B] := by
  obtain ⟨_, hsym⟩ := (valid_iff G).mp hv r hr
  rw [unitTarget_spec]
  constructor
  · rintro ⟨x, hx, rfl, hV⟩
    cases x with
    | v A => exact hx
    | t a => exact absurd (hsym (.t a) (by rw [hx]; simp)) (hd a hV)
  · intro h
    exact ⟨_, h, rfl, hsym (.v B) (by rw [h]; simp)⟩

theorem UnitReach.head {G : CFG} {A B C : String} (h : G.HasRule A [.v B]) (h2 : UnitReach G B C) :
    UnitReach G A C := by
  induction h2 with
  | one h' => exact .step (.one h) h'
  | step _ h' ih => exact .step ih h'

/-- one pass of the loop, as an `sfold` -/
def passG (G : CFG) (W : List String) (r : CRule) : Option String :=
  if r.lhs ∈ W then unitTarget G r else none

theorem derivableLoop_succ (G : CFG) (fuel : Nat) (W : List String) :
    derivableLoop G (fuel + 1) W =
      if (sfold (passG G W) W G.R).length = W.length then sfold (passG G W) W G.R
      else derivableLoop G fuel (sfold (passG G W) W G.R) := by
  have key : ∀ (X Y : List String), X = Y →
      (if X.length = W.length then X else derivableLoop G fuel X) =
      (if Y.length = W.length then Y else derivableLoop G fuel Y) := by
    intro X Y h; rw [h]
  simp only [derivableLoop, sfold]
  apply key
  congr 1
  funext acc r
  unfold passG
  by_cases h : r.lhs ∈ W
  · simp only [h, if_true]; cases unitTarget G r <;> rfl
  · simp only [h, if_false]; cases unitTarget G r <;> rfl

def startG (G : CFG) (A : String) (r : CRule) : Option String :=
  if r.lhs = A then unitTarget G r else none

/-- the targets of the unit rules of `C`, as `derivable` collects them for its start set -/
def usucc (G : CFG) (C : String) : List String := sfold (startG G C) [] G.R

theorem mem_usucc {G : CFG} {C B : String} :
    B ∈ usucc G C ↔ ∃ r, r ∈ G.R ∧ r.lhs = C ∧ unitTarget G r = some B := by
  simp only [usucc, mem_sfold, startG, Option.ite_none_right_eq_some, List.not_mem_nil, false_or]

theorem usucc_sub_V {G : CFG} {C B : String} (h : B ∈ usucc G C) : B ∈ G.V :=
  have ⟨_, _, _, ht⟩ := mem_usucc.mp h
  unitTarget_mem_V ht

theorem mem_usucc_iff {G : CFG} (hv : G.valid = true) (hd : G.Disjoint) {C B : String} :
    B ∈ usucc G C ↔ G.HasRule C [.v B] := by
  rw [mem_usucc]
  constructor
  · rintro ⟨r, hr, hl, ht⟩; exact ⟨r, hr, hl, (unitTarget_eq_some_iff hv hd hr B).mp ht⟩
  · rintro ⟨r, hr, hl, ht⟩; exact ⟨r, hr, hl, (unitTarget_eq_some_iff hv hd hr B).mpr ht⟩

theorem reach_usucc_iff_unitReach {G : CFG} (hv : G.valid = true) (hd : G.Disjoint) (A B : String) :
    Reach (usucc G) (usucc G A) B ↔ UnitReach G A B := by
  constructor
  · intro h
    induction h with
    | base h => exact .one ((mem_usucc_iff hv hd).mp h)
    | step _ hy ih => exact .step ih ((mem_usucc_iff hv hd).mp hy)
  · intro h
    induction h with
    | one h => exact .base ((mem_usucc_iff hv hd).mpr h)
    | step _ h ih => exact .step ih ((mem_usucc_iff hv hd).mpr h)

/-- The loop has no todo list: every pass expands all of `W` (`Sat.expand` with `X = W`), and all of the new `W` stays
    "to do" unless the pass has added nothing. A pass that adds something lengthens a duplicate-free list of variables. -/
theorem derivableLoop_spec (G : CFG) (S : List String) (fuel : Nat) (W : List String) (hnd : W.Nodup)
    (hV : ∀ x, x ∈ W → x ∈ G.V) (hf : G.V.length + 1 ≤ fuel + W.length) (hw : Sat (usucc G) S W W) :
    Sat (usucc G) S (derivableLoop G fuel W) [] := by
  induction fuel generalizing W with
  | zero =>
    have := hnd.length_le_of_subset hV
    omega
  | succ fuel ih =>
    rw [derivableLoop_succ]
    have hmem : ∀ x, x ∈ sfold (passG G W) W G.R ↔ x ∈ W ∨ ∃ C, C ∈ W ∧ x ∈ usucc G C := by
      intro x
      simp only [mem_sfold, passG, Option.ite_none_right_eq_some, mem_usucc]
      refine or_congr_right ⟨?_, ?_⟩
      · rintro ⟨r, hr, hl, ht⟩; exact ⟨r.lhs, hl, r, hr, rfl, ht⟩
      · rintro ⟨C, hC, r, hr, rfl, ht⟩; exact ⟨r, hr, hC, ht⟩
    have hexp := fun {todo'} => hw.expand (todo' := todo') (fun _ h => h) hmem
    have hp := prefix_sfold (passG G W) G.R W
    split
    · rename_i hl
      exact hexp nofun fun y hy _ => .inl (hp.eq_of_length hl.symm ▸ hy)
    · have := hp.length_le
      refine ih _ (nodup_sfold hnd) (fun x hx => ?_) (by omega) (hexp (fun _ h => h) fun _ h hn => absurd h hn)
      exact ((hmem x).mp hx).elim (hV x) fun ⟨_, _, hC⟩ => usucc_sub_V hC

theorem derivable_eq (G : CFG) (A : String) :
    G.derivable A = (derivableLoop G (G.V.length + 1) (usucc G A)).filter (· ≠ A) := by
  simp only [derivable, usucc, sfold]
  congr 3
  funext acc r
  unfold startG
  by_cases h : r.lhs = A
  · simp only [h, if_true]; cases unitTarget G r <;> rfl
  · simp only [h, if_false]

/-- `derivable` without any hypothesis on the grammar: what is reachable through `unitTarget` -/
theorem mem_derivable_iff (G : CFG) (A B : String) :
    B ∈ G.derivable A ↔ Reach (usucc G) (usucc G A) B ∧ B ≠ A := by
  rw [derivable_eq, List.mem_filter, decide_eq_true_eq]
  exact and_congr_left fun _ => Sat.mem_iff (derivableLoop_spec G _ _ _ (nodup_sfold List.nodup_nil)
    (fun _ => usucc_sub_V) (Nat.le_add_right ..) (.init fun _ => .rfl)) B

theorem mem_derivable_iff_unitReach {G : CFG} (hv : G.valid = true) (hd : G.Disjoint) (A B : String) :
    B ∈ G.derivable A ↔ (UnitReach G A B ∧ B ≠ A) := by
  rw [mem_derivable_iff, reach_usucc_iff_unitReach hv hd]

theorem mem_putStartInFront (S : String) (R : List CRule) (x : CRule) :
    x ∈ putStartInFront S R ↔ x ∈ R := by
  unfold putStartInFront
  split
  · rfl
  · split
    · rename_i r0 ri h0 hi
      exact mem_set_set_swap h0 hi x
    · rfl

/-- `isUnit` only looks at the right-hand side -/
def unitRhs (rhs : List Sym) : Bool :=
  match rhs with
  | [.v _] => true
  | _ => false

theorem isUnit_eq (r : CRule) : isUnit r = unitRhs r.rhs := rfl

def euInner (A : String) (W : List String) (R1 : List CRule) (r : CRule) : List CRule :=
  if r.lhs ∈ W ∧ !isUnit r then
    let r1 : CRule := { lhs := A, aid := r.aid, rhs := r.rhs }
    if R1.any (sameRule r1) then R1 else R1 ++ [r1]
  else R1

/-- the double loop of `elimUnit`, over an arbitrary list of variables -/
def euR1 (G : CFG) (Vs : List String) (acc : List CRule) : List CRule :=
  Vs.foldl (fun R1 A => G.R.foldl (euInner A (G.derivable A)) R1) acc

theorem elimUnit_eq (G : CFG) :
    G.elimUnit = { G with R := putStartInFront G.S ((euR1 G G.V G.R).filter (fun r => !isUnit r)) } := rfl

theorem mem_pair_euInner {A : String} {W : List String} (R1 : List CRule) (r : CRule) (p : String × List Sym) :
    p ∈ (euInner A W R1 r).map pair ↔ p ∈ R1.map pair ∨ (r.lhs ∈ W ∧ isUnit r = false ∧ p = (A, r.rhs)) := by
  unfold euInner
  split
  · rename_i hc
    rw [map_pair_addNew, mem_sinsert]
    exact or_congr_right ⟨fun h => ⟨hc.1, by simpa using hc.2, h⟩, fun h => h.2.2⟩
  · rename_i hc
    exact ⟨Or.inl, fun h => h.resolve_right fun ⟨h1, h2, _⟩ => hc ⟨h1, by simp [h2]⟩⟩

theorem mem_pair_euR1 (G : CFG) (Vs : List String) (acc : List CRule) (p : String × List Sym) :
    p ∈ (euR1 G Vs acc).map pair ↔ p ∈ acc.map pair ∨
      ∃ A, A ∈ Vs ∧ ∃ r, r ∈ G.R ∧ r.lhs ∈ G.derivable A ∧ isUnit r = false ∧ p = (A, r.rhs) :=
  foldl_obs (fun R p => p ∈ R.map pair) _
    (fun A p => ∃ r, r ∈ G.R ∧ r.lhs ∈ G.derivable A ∧ isUnit r = false ∧ p = (A, r.rhs))
    (fun R1 _ p => foldl_obs (fun R p => p ∈ R.map pair) _ _ mem_pair_euInner G.R R1 p) Vs acc p

theorem elimUnit_hasRule_iff (G : CFG) (A : String) (rhs : List Sym) :
    G.elimUnit.HasRule A rhs ↔
      unitRhs rhs = false ∧ (G.HasRule A rhs ∨
        (A ∈ G.V ∧ ∃ B, B ∈ G.derivable A ∧ G.HasRule B rhs)) := by
  have h1 : G.elimUnit.HasRule A rhs ↔ unitRhs rhs = false ∧ (A, rhs) ∈ (euR1 G G.V G.R).map pair := by
    simp only [HasRule, elimUnit_eq, mem_putStartInFront, List.mem_filter, Bool.not_eq_true', isUnit_eq, List.mem_map,
      pair, Prod.mk.injEq]
    constructor
    · rintro ⟨x, ⟨hx, hu⟩, rfl, rfl⟩; exact ⟨hu, x, hx, rfl, rfl⟩
    · rintro ⟨hu, x, hx, rfl, rfl⟩; exact ⟨x, ⟨hx, hu⟩, rfl, rfl⟩
  rw [h1, mem_pair_euR1, ← hasRule_iff_pair]
  refine and_congr_right fun hu => or_congr_right ⟨?_, ?_⟩
  · rintro ⟨_, hA, r, hr, hW, _, he⟩; cases he; exact ⟨hA, r.lhs, hW, r, hr, rfl, rfl⟩
  · rintro ⟨hA, B, hB, r, hr, rfl, rfl⟩; exact ⟨A, hA, r, hr, hB, hu, rfl⟩

theorem mem_elimUnit_R {G : CFG} {x : CRule} (h : x ∈ G.elimUnit.R) :
    isUnit x = false ∧ ∃ r, r ∈ G.R ∧ x.rhs = r.rhs ∧
      (x.lhs = r.lhs ∨ x.lhs ∈ G.V ∧ r.lhs ∈ G.derivable x.lhs) := by
  obtain ⟨hu, ⟨r, hr, hl, he⟩ | ⟨hV, _, hB, r, hr, rfl, he⟩⟩ := (elimUnit_hasRule_iff G x.lhs x.rhs).mp ⟨x, h, rfl, rfl⟩
  · exact ⟨hu, r, hr, he.symm, Or.inl hl.symm⟩
  · exact ⟨hu, r, hr, he.symm, Or.inr ⟨hV, hB⟩⟩

theorem elimUnit_S (G : CFG) : G.elimUnit.S = G.S := rfl
theorem elimUnit_V (G : CFG) : G.elimUnit.V = G.V := rfl
theorem elimUnit_Sigma (G : CFG) : G.elimUnit.Sigma = G.Sigma := rfl

theorem elimUnit_noUnit (G : CFG) : NoUnit G.elimUnit :=
  fun _ hr => (mem_elimUnit_R hr).1

theorem elimUnit_valid {G : CFG} (hv : G.valid = true) : G.elimUnit.valid = true := by
  rw [valid_iff] at hv ⊢
  intro x hx
  obtain ⟨_, r, hr, he, h⟩ := mem_elimUnit_R hx
  exact ⟨h.elim (fun h => h ▸ (hv r hr).1) (·.1), he ▸ (hv r hr).2⟩

theorem elimUnit_startNotOnRhs {G : CFG} (h : StartNotOnRhs G) : StartNotOnRhs G.elimUnit := by
  intro x hx
  obtain ⟨_, r, hr, he, _⟩ := mem_elimUnit_R hx
  rw [elimUnit_S, he]; exact h r hr

/-- a copied rule keeps the alternative it is copied from -/
theorem elimUnit_aliasOK {G : CFG} (h : AliasOK G) : AliasOK G.elimUnit := by
  have key : ∀ x, x ∈ euR1 G G.V G.R → ∃ r, r ∈ G.R ∧ x.aid = r.aid ∧ x.rhs = r.rhs := by
    refine List.foldlRecOn (motive := fun R1 => ∀ x : CRule, x ∈ R1 → ∃ r, r ∈ G.R ∧ x.aid = r.aid ∧ x.rhs = r.rhs) _ _
      (fun x hx => ⟨x, hx, rfl, rfl⟩) fun R1 h1 A _ => ?_
    refine List.foldlRecOn (motive := fun R1 => ∀ x : CRule, x ∈ R1 → ∃ r, r ∈ G.R ∧ x.aid = r.aid ∧ x.rhs = r.rhs) _ _ h1
      fun R1 h1 r hr x hx => ?_
    unfold euInner at hx
    split at hx
    · simp only at hx
      split at hx
      · exact h1 x hx
      · rcases List.mem_append.mp hx with hx | hx
        · exact h1 x hx
        · exact ⟨r, hr, by rw [List.mem_singleton.mp hx], by rw [List.mem_singleton.mp hx]⟩
    · exact h1 x hx
  intro x y hx hy hxy
  rw [elimUnit_eq] at hx hy
  simp only [mem_putStartInFront, List.mem_filter] at hx hy
  obtain ⟨r, hr, h1, h2⟩ := key x hx.1
  obtain ⟨s, hs, h3, h4⟩ := key y hy.1
  rw [h2, h4]
  exact h r s hr hs (by rw [← h1, ← h3]; exact hxy)

theorem UnitReach.last {G : CFG} {A B : String} (h : UnitReach G A B) : ∃ C, G.HasRule C [.v B] := by
  cases h with
  | one h' => exact ⟨_, h'⟩
  | step _ h' => exact ⟨_, h'⟩

theorem elimUnit_noEps {G : CFG} (hv : G.valid = true) (hd : G.Disjoint)
    (h1 : NoEpsExceptStart G) (h2 : StartNotOnRhs G) : NoEpsExceptStart G.elimUnit := by
  intro x hx hnil
  rw [elimUnit_S]
  obtain ⟨_, r, hr, he, hl | ⟨_, hder⟩⟩ := mem_elimUnit_R hx
  · exact hl ▸ h1 r hr (he ▸ hnil)
  · exfalso
    have hrS : r.lhs = G.S := h1 r hr (he ▸ hnil)
    obtain ⟨hreach, _⟩ := (mem_derivable_iff_unitReach hv hd _ _).mp hder
    obtain ⟨C, s, hs, _, hrhs⟩ := hreach.last
    apply h2 s hs
    rw [hrhs, hrS]; simp

theorem gen_of_unitReach {G : CFG} {A B : String} (h : UnitReach G A B) {u : List String}
    (hg : G.Gen [.v B] u) : G.Gen [.v A] u := by
  induction h with
  | one h' => exact gen_v_iff.mpr ⟨_, h', hg⟩
  | step _ h' ih => exact ih (gen_v_iff.mpr ⟨_, h', hg⟩)

theorem elimUnit_gen_sound {G : CFG} (hv : G.valid = true) (hd : G.Disjoint) {f : List Sym}
    {w : List String} (h : G.elimUnit.Gen f w) : G.Gen f w := by
  refine gen_of_rules (fun A rhs hr u hg => ?_) h
  obtain ⟨_, hr' | ⟨_, B, hB, hr'⟩⟩ := (elimUnit_hasRule_iff G A rhs).mp hr
  · exact gen_v_iff.mpr ⟨_, hr', hg⟩
  · exact gen_of_unitReach ((mem_derivable_iff_unitReach hv hd _ _).mp hB).1 (gen_v_iff.mpr ⟨_, hr', hg⟩)

theorem unitRhs_eq_true {rhs : List Sym} (h : unitRhs rhs = true) : ∃ B, rhs = [.v B] := by
  unfold unitRhs at h
  split at h
  · exact ⟨_, rfl⟩
  · cases h

/-- completeness needs no induction of its own: a unit rule `A → B` of `G` is simulated in `elimUnit G` by whatever rule
    `B → α` the derivation uses next, because `α` was copied to everything that unit-reaches its owner -/
theorem elimUnit_gen_complete {G : CFG} (hv : G.valid = true) (hd : G.Disjoint) {f : List Sym}
    {w : List String} (h : G.Gen f w) : G.elimUnit.Gen f w := by
  refine gen_of_rules (fun A rhs hr w hg => ?_) h
  have hA := ((valid_iff_hasRule G).mp hv _ _ hr).1
  cases hu : unitRhs rhs with
  | false => exact gen_v_iff.mpr ⟨rhs, (elimUnit_hasRule_iff G A rhs).mpr ⟨hu, Or.inl hr⟩, hg⟩
  | true =>
    obtain ⟨B, rfl⟩ := unitRhs_eq_true hu
    obtain ⟨α, hα, hgα⟩ := gen_v_iff.mp hg
    obtain ⟨hnu, hsrc⟩ := (elimUnit_hasRule_iff G B α).mp hα
    -- `α` is a rule of some `C` with `A →⁺ C` by unit rules
    obtain ⟨C, hAC, hC⟩ : ∃ C, UnitReach G A C ∧ G.HasRule C α := by
      rcases hsrc with hB | ⟨_, C, hC, hCα⟩
      · exact ⟨B, .one hr, hB⟩
      · exact ⟨C, UnitReach.head hr ((mem_derivable_iff_unitReach hv hd _ _).mp hC).1, hCα⟩
    refine gen_v_iff.mpr ⟨α, (elimUnit_hasRule_iff G A α).mpr ⟨hnu, ?_⟩, hgα⟩
    by_cases hCA : C = A
    · exact Or.inl (hCA ▸ hC)
    · exact Or.inr ⟨hA, C, (mem_derivable_iff_unitReach hv hd _ _).mpr ⟨hAC, hCA⟩, hC⟩

theorem unitTarget_congr (G : CFG) (V' : List String) (hp : ∀ A, A ∈ V' ↔ A ∈ G.V) (r : CRule) :
    unitTarget ({ G with V := V' } : CFG) r = unitTarget G r :=
  Option.ext fun B => by rw [unitTarget_spec, unitTarget_spec, hp]

theorem mem_derivable_congr (G : CFG) (V' : List String) (hp : ∀ A, A ∈ V' ↔ A ∈ G.V) (A B : String) :
    B ∈ ({ G with V := V' } : CFG).derivable A ↔ B ∈ G.derivable A := by
  have : usucc ({ G with V := V' } : CFG) = usucc G := by
    funext C
    exact congrArg (sfold · [] G.R) (funext fun r => by unfold startG; rw [unitTarget_congr G V' hp])
  rw [mem_derivable_iff, mem_derivable_iff, this]

end CFG
end Gamba
