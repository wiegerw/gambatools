/-
  Gamba.Proofs.C08c — phases 4 (`binarise`) and 5 (`isolateTerminals`) of the Chomsky-normal-form conversion.
  Both introduce fresh variables that stand for fixed forms (`Intro`, Proofs/CFGIntro.lean); this file shows
  that a step of `binarise` is a run of such introductions, one variable each (`split`, `chain_induction`), and that the
  result of `isolateTerminals` (`IsoRes`) is one.
-/
import Gamba.Proofs.C08a
namespace Gamba
namespace CFG
/- all helpers live in `Gamba.CFG.C08c` so that they cannot clash with the helpers of the other C08 files -/
namespace C08c

theorem freshVariables_spec (hint : String) (n : Nat) : ∀ (V : List String),
    (freshVariables V hint n).1.Nodup ∧ (∀ A, A ∈ (freshVariables V hint n).1 → A ∉ V) ∧
    (freshVariables V hint n).2 = V ++ (freshVariables V hint n).1 ∧
    (freshVariables V hint n).1.length = n := by
  induction n with
  | zero => intro V; simp [freshVariables]
  | succ n ih =>
    intro V
    obtain ⟨h1, h2, h3, h4⟩ := ih (V ++ [freshVariable V hint])
    simp only [freshVariables]
    refine ⟨?_, ?_, ?_, ?_⟩
    · refine List.nodup_cons.mpr ⟨?_, h1⟩
      intro hm
      exact h2 _ hm (by simp)
    · intro A hA
      rcases List.mem_cons.mp hA with rfl | hA
      · exact freshVariable_not_mem V hint
      · intro hV; exact h2 A hA (by simp [hV])
    · rw [h3, List.append_assoc, List.singleton_append]
    · simp [h4]

theorem subst_append (exp) (f g : List Sym) : subst exp (f ++ g) = subst exp f ++ subst exp g := by
  simp [subst]

theorem isUnit_of_two_le {r : CRule} (h : 2 ≤ r.rhs.length) : isUnit r = false := by
  unfold isUnit
  split
  · rename_i heq; rw [heq] at h; simp at h
  · rfl

/-- the model's in-place assignment of a new right-hand side to the alternative `a` (all rules sharing it see it) -/
def setAlt (a : Nat) (rhs' : List Sym) (r : CRule) : CRule := if r.aid = a then { r with rhs := rhs' } else r

theorem setAlt_lhs (a rhs' r) : (setAlt a rhs' r).lhs = r.lhs := by
  unfold setAlt; split <;> rfl
theorem setAlt_aid (a rhs' r) : (setAlt a rhs' r).aid = r.aid := by
  unfold setAlt; split <;> rfl
theorem setAlt_cases (a rhs' r) :
    (r.aid = a ∧ (setAlt a rhs' r).rhs = rhs') ∨ (r.aid ≠ a ∧ setAlt a rhs' r = r) := by
  unfold setAlt; split
  · rename_i h; exact Or.inl ⟨h, rfl⟩
  · rename_i h; exact Or.inr ⟨h, rfl⟩

/-- one split: the alternative `a`, whose right-hand side is `x :: rest`, becomes `x X`, and the new variable `X` gets the
    rule `X → rest` under the new alternative `s` -/
def split (G : CFG) (a s : Nat) (x : Sym) (X : String) (rest : List Sym) : CFG :=
  { G with V := G.V ++ [X], R := G.R.map (setAlt a [x, .v X]) ++ [⟨X, s, rest⟩] }

variable {G : CFG} {a s : Nat} {x : Sym} {X : String} {rest : List Sym}

theorem mem_split_R {r' : CRule} :
    r' ∈ (split G a s x X rest).R ↔ (∃ r, r ∈ G.R ∧ setAlt a [x, .v X] r = r') ∨ r' = ⟨X, s, rest⟩ := by
  simp only [split, List.mem_append, List.mem_map, List.mem_singleton]

/-- what a split needs: `X` is new, `s` is an unused alternative, and the alternative `a` reads `x :: rest` with `rest` of
    length at least two -/
structure Splittable (G : CFG) (a s : Nat) (x : Sym) (X : String) (rest : List Sym) : Prop where
  alt : ∃ r, r ∈ G.R ∧ r.aid = a ∧ r.rhs = x :: rest
  len : 2 ≤ rest.length
  new : X ∉ G.V
  aid : ∀ r, r ∈ G.R → r.aid < s

namespace Splittable

theorem aliasOK (h : Splittable G a s x X rest) (ha : AliasOK G) : AliasOK (split G a s x X rest) := by
  intro r' s' hr' hs' he
  rcases mem_split_R.mp hr' with ⟨r, hr, rfl⟩ | rfl <;> rcases mem_split_R.mp hs' with ⟨q, hq, rfl⟩ | rfl
  · rw [setAlt_aid, setAlt_aid] at he
    rcases setAlt_cases a [x, .v X] r with ⟨e1, he1⟩ | ⟨e1, he1⟩ <;>
      rcases setAlt_cases a [x, .v X] q with ⟨e2, he2⟩ | ⟨e2, he2⟩
    · rw [he1, he2]
    · exact absurd (he ▸ e1) e2
    · exact absurd (he ▸ e2) e1
    · rw [he1, he2]; exact ha r q hr hq he
  · rw [setAlt_aid] at he; exact absurd he (Nat.ne_of_lt (h.aid r hr))
  · rw [setAlt_aid] at he; exact absurd he.symm (Nat.ne_of_lt (h.aid q hq))
  · rfl

theorem noUnit (h : Splittable G a s x X rest) (hn : NoUnit G) : NoUnit (split G a s x X rest) := by
  intro r' hr'
  rcases mem_split_R.mp hr' with ⟨r, hr, rfl⟩ | rfl
  · rcases setAlt_cases a [x, .v X] r with ⟨_, he⟩ | ⟨_, he⟩
    · exact isUnit_of_two_le (by rw [he]; exact Nat.le_refl 2)
    · rw [he]; exact hn r hr
  · exact isUnit_of_two_le h.len

/-- a split introduces `X` for `rest`; sharing of alternatives (`ha`) is what makes every rewritten rule expand to its old
    right-hand side -/
theorem intro (h : Splittable G a s x X rest) (hv : G.valid = true) (ha : AliasOK G) :
    Intro G (split G a s x X rest) [(X, rest)] := by
  rw [valid_iff] at hv
  obtain ⟨q, hq, hqa, hqr⟩ := h.alt
  have hsym : ∀ y, y ∈ x :: rest → G.SymOK y := hqr ▸ (hv q hq).2
  have hfresh : ∀ A, A ∈ [(X, rest)].map (·.1) → A ∉ G.V := fun A hA => List.mem_singleton.mp hA ▸ h.new
  have hold : ∀ y, G.SymOK y → OldSym (look [(X, rest)]) y := fun y => oldSym_of_fresh hfresh
  have hrewr : ∀ r, r ∈ G.R → subst (look [(X, rest)]) (setAlt a [x, .v X] r).rhs = r.rhs := by
    intro r hr
    rcases setAlt_cases a [x, .v X] r with ⟨e, he⟩ | ⟨_, he⟩
    · rw [he, subst_cons, subst_cons, subst_nil, sigma_old (hold _ (hsym x (by simp))),
        ha r q hr hq (e.trans hqa.symm), hqr]
      simp [sigma, look]
    · rw [he]; exact subst_old fun y hy => hold y ((hv r hr).2 y hy)
  exact {
    hSigma := rfl
    hV := fun A => by simp [split]
    nodup := by simp
    fresh := hfresh
    hexp := fun p hp => by
      rw [List.mem_singleton.mp hp]
      exact ⟨by have := h.len; rintro rfl; simp at this, fun y hy => hsym y (List.mem_cons_of_mem _ hy)⟩
    rules := fun r' hr' => by
      rcases mem_split_R.mp hr' with ⟨r, hr, rfl⟩ | rfl
      · exact Or.inl ⟨r, hr, (setAlt_lhs ..).symm, (hrewr r hr).symm⟩
      · exact Or.inr (List.mem_singleton.mpr rfl)
    back := fun r hr => ⟨_, mem_split_R.mpr (Or.inl ⟨r, hr, rfl⟩), setAlt_lhs .., hrewr r hr⟩
    defs := fun p hp => List.mem_singleton.mp hp ▸ ⟨_, mem_split_R.mpr (Or.inr rfl), rfl, rfl⟩ }

end Splittable

/-- a non-trivial `binariseStep` on the alternative `a`, which reads `u0 :: us`, with the new variables `A0 :: A` and new
    alternatives from `s` on -/
def chained (G : CFG) (a s : Nat) (u0 : Sym) (us : List Sym) (A0 : String) (A : List String) : CFG :=
  { G with V := G.V ++ A0 :: A, R := G.R.map (setAlt a [u0, .v A0]) ++ chainRules s (A0 :: A) us }

structure Chain (G : CFG) (a s : Nat) (u0 : Sym) (us : List Sym) (A0 : String) (A : List String) : Prop where
  alt : ∃ r, r ∈ G.R ∧ r.aid = a ∧ r.rhs = u0 :: us
  len : (A0 :: A).length + 1 = us.length
  nodup : (A0 :: A).Nodup
  new : ∀ X, X ∈ A0 :: A → X ∉ G.V
  aid : ∀ r, r ∈ G.R → r.aid < s

theorem Chain.splittable {u0 : Sym} {us : List Sym} {A0 : String} {A : List String} (h : Chain G a s u0 us A0 A) :
    Splittable G a s u0 A0 us :=
  ⟨h.alt, by have := h.len; simp at this; omega, h.new A0 (by simp), h.aid⟩

/-- A step of `binarise` is a run of splits: the first splits `a`, each further one the alternative that the one before it
    has just made. So what every split keeps, the step keeps. -/
theorem chain_induction {P : CFG → Prop}
    (hstep : ∀ G a s x X rest, Splittable G a s x X rest → P G → P (split G a s x X rest)) :
    ∀ (A : List String) (A0 : String) (us : List Sym) (G : CFG) (a s : Nat) (u0 : Sym),
      Chain G a s u0 us A0 A → P G → P (chained G a s u0 us A0 A) := by
  intro A
  induction A with
  | nil => exact fun A0 us G a s u0 h hP => hstep G a s u0 A0 us h.splittable hP
  | cons A1 A ih =>
    intro A0 us G a s u0 h hP
    obtain ⟨u1, us, rfl⟩ : ∃ u1 us', us = u1 :: us' := by
      cases us with
      | nil => exact absurd h.len (by simp)
      | cons u1 us' => exact ⟨u1, us', rfl⟩
    have := ih A1 us (split G a s u0 A0 (u1 :: us)) s (s + 1) u1
      { alt := ⟨_, List.mem_append_right _ (List.mem_singleton.mpr rfl), rfl, rfl⟩
        len := by have := h.len; simp at this ⊢; omega
        nodup := (List.nodup_cons.mp h.nodup).2
        new := fun X hX hV => by
          rcases List.mem_append.mp hV with hV | hV
          · exact h.new X (List.mem_cons_of_mem _ hX) hV
          · exact (List.nodup_cons.mp h.nodup).1 (List.mem_singleton.mp hV ▸ hX)
        aid := fun r hr => by
          rcases mem_split_R.mp hr with ⟨r0, hr0, rfl⟩ | rfl
          · rw [setAlt_aid]; exact Nat.lt_succ_of_lt (h.aid r0 hr0)
          · exact Nat.lt_succ_self s }
      (hstep G a s u0 A0 (u1 :: us) h.splittable hP)
    -- the second split leaves the rules of `G` alone: their alternatives are older than `s`
    have hmap : (G.R.map (setAlt a [u0, .v A0])).map (setAlt s [u1, .v A1]) = G.R.map (setAlt a [u0, .v A0]) := by
      rw [List.map_map]
      refine List.map_congr_left fun r hr => ((setAlt_cases s _ _).resolve_left fun e => ?_).2
      exact Nat.ne_of_lt (h.aid r hr) ((setAlt_aid ..).symm.trans e.1)
    simpa [chained, split, chainRules, hmap, setAlt] using this

theorem chainRules_mem : ∀ (s : Nat) (A : List String) (us : List Sym), A.length + 1 = us.length →
    ∀ r, r ∈ chainRules s A us → r.lhs ∈ A ∧ r.rhs.length = 2 ∧ s ≤ r.aid
  | _, [], _, _, r, hr => by simp [chainRules] at hr
  | s, [a], us, hl, r, hr => by
    simp only [chainRules, List.mem_singleton] at hr
    rw [hr]; exact ⟨List.mem_singleton.mpr rfl, by simpa using hl.symm, Nat.le_refl s⟩
  | s, a :: a' :: A, [], hl, _, _ => by simp at hl
  | s, a :: a' :: A, x :: u, hl, r, hr => by
    simp only [chainRules, List.mem_cons] at hr
    rcases hr with rfl | hr
    · exact ⟨List.mem_cons_self .., rfl, Nat.le_refl s⟩
    · have ⟨h1, h2, h3⟩ := chainRules_mem (s + 1) (a' :: A) u (by simpa using hl) r hr
      exact ⟨List.mem_cons_of_mem _ h1, h2, Nat.le_of_succ_le h3⟩

theorem chainRules_aid_inj : ∀ (s : Nat) (A : List String) (us : List Sym), A.length + 1 = us.length →
    ∀ r r', r ∈ chainRules s A us → r' ∈ chainRules s A us → r.aid = r'.aid → r = r' := by
  intro s A
  induction A generalizing s with
  | nil => intro us _ r r' hr; simp [chainRules] at hr
  | cons a A ih =>
    intro us hl r r' hr hr' he
    cases A with
    | nil =>
      simp only [chainRules, List.mem_singleton] at hr hr'
      rw [hr, hr']
    | cons a' A =>
      cases us with
      | nil => simp at hl
      | cons x u =>
        have hl' : (a' :: A).length + 1 = u.length := by simp at hl ⊢; omega
        simp only [chainRules, List.mem_cons] at hr hr'
        rcases hr with rfl | hr <;> rcases hr' with rfl | hr'
        · rfl
        · have := (chainRules_mem (s + 1) _ u hl' _ hr').2.2
          simp only at he; omega
        · have := (chainRules_mem (s + 1) _ u hl' _ hr).2.2
          simp only at he; omega
        · exact ih (s + 1) u hl' r r' hr hr' he

def Short (G : CFG) (j : Nat) : Prop := ∀ r, G.R[j]? = some r → r.rhs.length ≤ 2

theorem binariseStep_cases (G : CFG) (i : Nat) :
    (binariseStep G i = G ∧ Short G i) ∨ ∃ rule u0 urest A0 Arest, G.R[i]? = some rule ∧
      Chain G rule.aid G.nextAid u0 urest A0 Arest ∧
      binariseStep G i = chained G rule.aid G.nextAid u0 urest A0 Arest := by
  unfold binariseStep Short
  cases hri : G.R[i]? with
  | none => left; exact ⟨rfl, fun r hr => by cases hr⟩
  | some rule =>
    simp only []
    by_cases hlen : rule.rhs.length ≤ 2
    · left; refine ⟨by simp [hlen], ?_⟩
      intro r hr; cases hr; exact hlen
    · simp only [hlen, if_false]
      obtain ⟨h1, h2, h3, h4⟩ := freshVariables_spec rule.lhs (rule.rhs.length - 2) G.V
      generalize freshVariables G.V rule.lhs (rule.rhs.length - 2) = p at *
      obtain ⟨A, V'⟩ := p
      simp only at h1 h2 h3 h4 ⊢
      cases hu : rule.rhs with
      | nil => rw [hu] at hlen; simp at hlen
      | cons u0 urest =>
        rw [hu] at hlen h4
        simp only [List.length_cons] at hlen h4
        cases A with
        | nil => simp only [List.length_nil] at h4; omega
        | cons A0 Arest =>
          right
          refine ⟨rule, u0, urest, A0, Arest, rfl,
            ⟨⟨rule, List.mem_of_getElem? hri, rfl, hu⟩, ?_, h1, h2, fun _ => aid_lt_nextAid⟩, h3 ▸ rfl⟩
          simp only [List.length_cons] at h4 ⊢; omega

/-- after the step, the rule at position `i` (the one that was split) is short, and so is every rule that was -/
theorem chained_short {rule : CRule} {u0 : Sym} {us : List Sym} {A0 : String} {A : List String} {i j : Nat}
    (hi : G.R[i]? = some rule) (hl : (A0 :: A).length + 1 = us.length) (hs : j = i ∨ Short G j) :
    Short (chained G rule.aid s u0 us A0 A) j := by
  intro r' hr'
  rw [chained, List.getElem?_append] at hr'
  split at hr'
  · rw [List.getElem?_map] at hr'
    obtain ⟨r, hr, rfl⟩ := Option.map_eq_some_iff.mp hr'
    rcases setAlt_cases rule.aid [u0, .v A0] r with ⟨_, he⟩ | ⟨hne, he⟩
    · rw [he]; exact Nat.le_refl _
    · rw [he]
      rcases hs with rfl | hs
      · rw [hi] at hr; cases hr; exact absurd rfl hne
      · exact hs r hr
  · exact Nat.le_of_eq (chainRules_mem _ _ _ hl r' (List.mem_of_getElem? hr')).2.1

/-- everything `binarise_spec` says about a grammar reached from `G0` -/
structure BinInv (G0 G : CFG) : Prop where
  valid : G.valid = true
  alias : AliasOK G
  hS : G.S = G0.S
  hV : ∀ A, A ∈ G0.V → A ∈ G.V
  noUnit : NoUnit G0 → NoUnit G
  noEps : NoEpsExceptStart G0 → NoEpsExceptStart G
  start : G0.S ∈ G0.V → StartNotOnRhs G0 → StartNotOnRhs G
  lang : G0.S ∈ G0.V → ∀ w, G.Lang w ↔ G0.Lang w

theorem BinInv.refl (hv : G.valid = true) (ha : AliasOK G) : BinInv G G :=
  ⟨hv, ha, rfl, fun _ h => h, id, id, fun _ h => h, fun _ _ => Iff.rfl⟩

theorem BinInv.split {G0 : CFG} (h : BinInv G0 G)
    (hs : Splittable G a s x X rest) : BinInv G0 (split G a s x X rest) := by
  have hi := hs.intro h.valid h.alias
  obtain ⟨q, hq, _, hqr⟩ := hs.alt
  exact {
    valid := hi.valid h.valid
    alias := hs.aliasOK h.alias
    hS := h.hS
    hV := fun A hA => hi.V_mono A (h.hV A hA)
    noUnit := fun hn => hs.noUnit (h.noUnit hn)
    noEps := fun hn => hi.noEps rfl (h.noEps hn)
    start := fun hSV hn => hi.startNotOnRhs rfl (h.hS ▸ h.hV _ hSV)
      (fun p hp hm => h.start hSV hn q hq (by
        rw [List.mem_singleton.mp hp] at hm; rw [hqr]; exact List.mem_cons_of_mem _ hm))
      (h.start hSV hn)
    lang := fun hSV w => (hi.lang_of_S h.valid rfl (h.hS ▸ h.hV _ hSV) w).trans (h.lang hSV w) }

theorem binariseStep_inv {G0 : CFG} (i : Nat) (h : BinInv G0 G) :
    BinInv G0 (binariseStep G i) ∧ (∀ j, Short G j → Short (binariseStep G i) j) ∧
      Short (binariseStep G i) i := by
  rcases binariseStep_cases G i with ⟨he, hs⟩ | ⟨rule, u0, urest, A0, Arest, hi, hc, he⟩
  · rw [he]
    exact ⟨h, fun _ hs => hs, hs⟩
  · rw [he]
    exact ⟨chain_induction (fun _ _ _ _ _ _ hs hP => BinInv.split hP hs) _ _ _ _ _ _ _ hc h,
      fun j hs => chained_short hi hc.len (Or.inr hs), chained_short hi hc.len (Or.inl rfl)⟩

theorem binarise_fold {G0 : CFG} (hv : G0.valid = true) (ha : AliasOK G0) :
    ∀ k, BinInv G0 ((List.range k).foldl binariseStep G0) ∧
      ∀ j, (j < k ∨ G0.R.length ≤ j) → Short ((List.range k).foldl binariseStep G0) j := by
  intro k
  induction k with
  | zero =>
    refine ⟨BinInv.refl hv ha, ?_⟩
    intro j hj r hr
    simp only [List.range_zero, List.foldl_nil] at hr
    have := (List.getElem?_eq_some_iff.mp hr).1
    omega
  | succ k ih =>
    obtain ⟨hinv, hshort⟩ := ih
    rw [List.range_succ, List.foldl_append]
    simp only [List.foldl_cons, List.foldl_nil]
    obtain ⟨h1, h2, h3⟩ := binariseStep_inv k hinv
    refine ⟨h1, ?_⟩
    intro j hj
    by_cases hjk : j = k
    · subst hjk; exact h3
    · apply h2
      apply hshort
      omega

theorem binarise_inv (hv : G.valid = true) (ha : AliasOK G) :
    BinInv G G.binarise ∧ RhsLe2 G.binarise := by
  obtain ⟨h1, h2⟩ := binarise_fold hv ha G.R.length
  refine ⟨h1, ?_⟩
  intro r hr
  obtain ⟨j, hj, hjr⟩ := List.getElem_of_mem hr
  have hs : Short G.binarise j := h2 j (by omega)
  exact hs r (by rw [List.getElem?_eq_getElem hj, hjr])

/-- the accumulator of `isolateLoop` over `G0`: its variables are those of `G0` plus the pairwise distinct new ones
    recorded in `repl`, and every replaced terminal occurs in a rule of `G0` -/
structure AccOK (G0 : CFG) (acc : TermAcc) : Prop where
  hV : ∀ A, A ∈ acc.V ↔ A ∈ G0.V ∨ A ∈ acc.repl.map (·.2)
  hnodup : (acc.repl.map (·.2)).Nodup
  hnew : ∀ A, A ∈ acc.repl.map (·.2) → A ∉ G0.V
  hterm : ∀ p, p ∈ acc.repl → ∃ r, r ∈ G0.R ∧ Sym.t p.1 ∈ r.rhs

/-- the replacement table only grows at the end (so earlier lookups stay valid) -/
def Ext (acc acc' : TermAcc) : Prop := ∃ l, acc'.repl = acc.repl ++ l

theorem Ext.refl (acc : TermAcc) : Ext acc acc := ⟨[], by simp⟩
theorem Ext.trans {a b c : TermAcc} (h1 : Ext a b) (h2 : Ext b c) : Ext a c := by
  obtain ⟨l1, h1⟩ := h1
  obtain ⟨l2, h2⟩ := h2
  exact ⟨l1 ++ l2, by rw [h2, h1, List.append_assoc]⟩

theorem Ext.lookup {acc acc' : TermAcc} (h : Ext acc acc') {a A : String}
    (hl : acc.repl.lookup a = some A) : acc'.repl.lookup a = some A := by
  obtain ⟨l, h⟩ := h
  rw [h, List.lookup_append, hl]; rfl

theorem Ext.sub {acc acc' : TermAcc} (h : Ext acc acc') : ∀ p, p ∈ acc.repl → p ∈ acc'.repl := by
  obtain ⟨l, h⟩ := h
  intro p hp; rw [h]; exact List.mem_append_left _ hp

/-- what the loop makes of a symbol: a variable stays, a terminal becomes a variable recorded for it -/
def Repl (m : List (String × String)) : Sym → Sym → Prop
  | .v A, y => y = .v A
  | .t a, y => ∃ A, (a, A) ∈ m ∧ y = .v A

theorem Repl.mono {m m' : List (String × String)} (h : ∀ p, p ∈ m → p ∈ m') {x y : Sym} (hr : Repl m x y) :
    Repl m' x y := by
  cases x with
  | v A => exact hr
  | t a => obtain ⟨A, hA, e⟩ := hr; exact ⟨A, h _ hA, e⟩

theorem Repl.isVar {m : List (String × String)} {x y : Sym} (hr : Repl m x y) : ∃ A, y = .v A := by
  cases x with
  | v A => exact ⟨A, hr⟩
  | t a => obtain ⟨A, _, e⟩ := hr; exact ⟨A, e⟩

/-- replacing again changes nothing: the result of the first replacement is a variable -/
theorem Repl.trans {m m' : List (String × String)} {x y z : Sym} (h1 : Repl m x y) (h2 : Repl m' y z) : z = y := by
  obtain ⟨A, rfl⟩ := h1.isVar
  exact h2

/-- `Repl`, symbol by symbol -/
inductive Repls (m : List (String × String)) : List Sym → List Sym → Prop
  | nil : Repls m [] []
  | cons {x y : Sym} {xs ys : List Sym} : Repl m x y → Repls m xs ys → Repls m (x :: xs) (y :: ys)

theorem Repls.mono {m m' : List (String × String)} (h : ∀ p, p ∈ m → p ∈ m') {xs ys : List Sym}
    (hr : Repls m xs ys) : Repls m' xs ys := by
  induction hr with
  | nil => exact .nil
  | cons h1 _ ih => exact .cons (h1.mono h) ih

theorem Repls.trans {m m' : List (String × String)} {xs ys zs : List Sym} (h1 : Repls m xs ys)
    (h2 : Repls m' ys zs) : zs = ys := by
  induction h1 generalizing zs with
  | nil => cases h2; rfl
  | cons h _ ih => cases h2 with
    | cons h' h2' => rw [h.trans h', ih h2']

theorem Repls.isVar {m : List (String × String)} {xs ys : List Sym} (h : Repls m xs ys) :
    ∀ y, y ∈ ys → ∃ A, y = .v A := by
  induction h with
  | nil => intro y hy; cases hy
  | cons h _ ih =>
    intro y hy
    rcases List.mem_cons.mp hy with rfl | hy
    · exact h.isVar
    · exact ih y hy

theorem Repls.length {m : List (String × String)} {xs ys : List Sym} (h : Repls m xs ys) : ys.length = xs.length := by
  induction h with
  | nil => rfl
  | cons _ _ ih => simp [ih]

theorem replaceSymbol_t_some {acc : TermAcc} {a A : String} (h : acc.repl.lookup a = some A) :
    replaceSymbol acc (.t a) = (acc, .v A) := by
  simp [replaceSymbol, h]

theorem replaceSymbol_t_none {acc : TermAcc} {a : String} (h : acc.repl.lookup a = none) :
    replaceSymbol acc (.t a) =
      ({ V := acc.V ++ [freshVariable acc.V (upperAscii a)],
         repl := acc.repl ++ [(a, freshVariable acc.V (upperAscii a))] },
       .v (freshVariable acc.V (upperAscii a))) := by
  simp [replaceSymbol, h]

theorem replaceSymbol_rel {G0 : CFG} {acc : TermAcc} (x : Sym) (hok : AccOK G0 acc)
    (hx : ∀ a, x = .t a → ∃ r, r ∈ G0.R ∧ Sym.t a ∈ r.rhs) :
    AccOK G0 (replaceSymbol acc x).1 ∧ Ext acc (replaceSymbol acc x).1 ∧
      Repl (replaceSymbol acc x).1.repl x (replaceSymbol acc x).2 := by
  cases x with
  | v A => exact ⟨hok, Ext.refl _, rfl⟩
  | t a =>
    cases hl : acc.repl.lookup a with
    | some A => rw [replaceSymbol_t_some hl]; exact ⟨hok, Ext.refl _, A, Dict.mem_of_lookup hl, rfl⟩
    | none =>
      rw [replaceSymbol_t_none hl]
      have hA := freshVariable_not_mem acc.V (upperAscii a)
      generalize freshVariable acc.V (upperAscii a) = A at hA
      refine ⟨⟨?_, ?_, ?_, ?_⟩, ⟨[(a, A)], rfl⟩, A, by simp, rfl⟩
      · intro B
        simp only [List.mem_append, List.mem_singleton, List.map_append, List.map_cons, List.map_nil, hok.hV B,
          or_assoc]
      · simp only [List.map_append, List.map_cons, List.map_nil]
        rw [List.nodup_append]
        refine ⟨hok.hnodup, by simp, ?_⟩
        intro B hB C hC
        simp only [List.mem_singleton] at hC
        subst hC
        rintro rfl
        exact hA ((hok.hV B).mpr (Or.inr hB))
      · intro B hB
        simp only [List.map_append, List.map_cons, List.map_nil, List.mem_append, List.mem_singleton] at hB
        rcases hB with hB | rfl
        · exact hok.hnew B hB
        · intro hV; exact hA ((hok.hV B).mpr (Or.inl hV))
      · intro p hp
        simp only [List.mem_append, List.mem_singleton] at hp
        rcases hp with hp | rfl
        · exact hok.hterm p hp
        · exact hx a rfl

theorem replaceSymbols_rel {G0 : CFG} : ∀ (xs : List Sym) (acc : TermAcc), AccOK G0 acc →
    (∀ a, Sym.t a ∈ xs → ∃ r, r ∈ G0.R ∧ Sym.t a ∈ r.rhs) →
    AccOK G0 (replaceSymbols acc xs).1 ∧ Ext acc (replaceSymbols acc xs).1 ∧
      Repls (replaceSymbols acc xs).1.repl xs (replaceSymbols acc xs).2 := by
  intro xs
  induction xs with
  | nil => intro acc hok _; exact ⟨hok, Ext.refl _, .nil⟩
  | cons x xs ih =>
    intro acc hok hx
    obtain ⟨h1, h2, h3⟩ := replaceSymbol_rel x hok (by rintro a rfl; exact hx a (by simp))
    obtain ⟨k1, k2, k3⟩ := ih (replaceSymbol acc x).1 h1 (fun a ha => hx a (List.mem_cons_of_mem _ ha))
    simp only [replaceSymbols]
    exact ⟨k1, h2.trans k2, .cons (h3.mono k2.sub) k3⟩

/-- the right-hand side that the alternative `a` has in `G0` (all rules sharing it agree: `AliasOK`) -/
def origRhs (G0 : CFG) (a : Nat) : List Sym := ((G0.R.find? (·.aid = a)).map (·.rhs)).getD []

theorem origRhs_eq {G0 : CFG} (ha : AliasOK G0) {r : CRule} (hr : r ∈ G0.R) : origRhs G0 r.aid = r.rhs := by
  unfold origRhs
  cases hf : G0.R.find? (·.aid = r.aid) with
  | none => exact absurd (List.find?_eq_none.mp hf r hr) (by simp)
  | some s => exact ha s r (List.mem_of_find?_eq_some hf) hr (by simpa using List.find?_some hf)

/-- the state of a rule during the loop, read off its alternative: untouched (and short, once visited: `b`), or
    the image of what the alternative was in `G0` -/
def Seen (G0 : CFG) (b : Bool) (m : List (String × String)) (r : CRule) : Prop :=
  (∃ r0, r0 ∈ G0.R ∧ r0.aid = r.aid ∧ r0.lhs = r.lhs) ∧
  ((r.rhs = origRhs G0 r.aid ∧ (b = true → (origRhs G0 r.aid).length < 2)) ∨
    (2 ≤ (origRhs G0 r.aid).length ∧ Repls m (origRhs G0 r.aid) r.rhs))

namespace Seen
variable {G0 : CFG} {b : Bool} {m : List (String × String)} {r q : CRule}

theorem mono {acc acc' : TermAcc} (h : Ext acc acc') (hp : Seen G0 b acc.repl r) : Seen G0 b acc'.repl r :=
  ⟨hp.1, hp.2.imp_right fun ⟨h1, h2⟩ => ⟨h1, h2.mono h.sub⟩⟩

theorem length_eq (hp : Seen G0 b m r) : r.rhs.length = (origRhs G0 r.aid).length := by
  rcases hp.2 with h | ⟨_, h⟩
  · rw [h.1]
  · exact h.length

/-- assigning to the alternative of `q`: a rule sharing it shares its original too, so nothing about aliasing is needed here -/
theorem setAlt {acc acc' : TermAcc} (hp : Seen G0 b acc.repl r) (hext : Ext acc acc')
    (hlen : 2 ≤ (origRhs G0 q.aid).length) {rhs' : List Sym} (hrhs : Repls acc'.repl (origRhs G0 q.aid) rhs') :
    Seen G0 b acc'.repl (C08c.setAlt q.aid rhs' r) := by
  unfold C08c.setAlt
  split
  · rename_i he
    exact ⟨hp.1, Or.inr (by rw [show ({ r with rhs := rhs' } : CRule).aid = q.aid from he]; exact ⟨hlen, hrhs⟩)⟩
  · exact hp.mono hext

end Seen

/-- visiting `q`: whether or not an alias has rewritten it before, the new right-hand side is the image of the original -/
theorem replaceSymbols_seen {G0 : CFG} (ha : AliasOK G0) {acc : TermAcc}
    (hok : AccOK G0 acc) {q : CRule} (hq : Seen G0 false acc.repl q) :
    AccOK G0 (replaceSymbols acc q.rhs).1 ∧ Ext acc (replaceSymbols acc q.rhs).1 ∧
      Repls (replaceSymbols acc q.rhs).1.repl (origRhs G0 q.aid) (replaceSymbols acc q.rhs).2 := by
  rcases hq.2 with ⟨h, _⟩ | ⟨_, h⟩
  · rw [h]
    obtain ⟨r0, hr0, he, _⟩ := hq.1
    refine replaceSymbols_rel _ acc hok fun a ha' => ⟨r0, hr0, ?_⟩
    rwa [← he, origRhs_eq ha hr0] at ha'
  · obtain ⟨k1, k2, k3⟩ := replaceSymbols_rel q.rhs acc hok fun a ha => by
      obtain ⟨A, hA⟩ := h.isVar _ ha; cases hA
    refine ⟨k1, k2, ?_⟩
    rw [h.trans k3]; exact h.mono k2.sub

def key (r : CRule) : String × Nat := (r.lhs, r.aid)

theorem isolateLoop_spec {G0 : CFG} (ha : AliasOK G0) :
    ∀ (rest : List CRule) (acc : TermAcc) (done : List CRule), AccOK G0 acc →
      (∀ r, r ∈ done → Seen G0 true acc.repl r) → (∀ r, r ∈ rest → Seen G0 false acc.repl r) →
      AccOK G0 (isolateLoop acc done rest).1 ∧ Ext acc (isolateLoop acc done rest).1 ∧
      (isolateLoop acc done rest).2.map key = (done ++ rest).map key ∧
      ∀ r, r ∈ (isolateLoop acc done rest).2 → Seen G0 true (isolateLoop acc done rest).1.repl r := by
  intro rest
  generalize hn : rest.length = n
  induction n generalizing rest with
  | zero =>
    intro acc done hok hd _
    obtain rfl : rest = [] := List.length_eq_zero_iff.mp hn
    rw [isolateLoop, List.append_nil]
    exact ⟨hok, Ext.refl _, rfl, hd⟩
  | succ n ih =>
    intro acc done hok hd hr
    obtain ⟨q, rest, rfl⟩ := List.exists_cons_of_length_eq_add_one hn
    simp only [List.length_cons, Nat.add_right_cancel_iff] at hn
    have hq : Seen G0 false acc.repl q := hr q (by simp)
    have hr' : ∀ r, r ∈ rest → Seen G0 false acc.repl r := fun r h => hr r (List.mem_cons_of_mem _ h)
    rw [isolateLoop]
    by_cases hlen : q.rhs.length ≥ 2
    · simp only [hlen, if_true]
      obtain ⟨k1, k2, k3⟩ := replaceSymbols_seen ha hok hq
      generalize replaceSymbols acc q.rhs = res at k1 k2 k3 ⊢
      obtain ⟨acc', rhs'⟩ := res
      simp only at k1 k2 k3 ⊢
      have hlen0 : 2 ≤ (origRhs G0 q.aid).length := by rw [← hq.length_eq]; exact hlen
      have hkey : ∀ l : List CRule, (l.map (setAlt q.aid rhs')).map key = l.map key := fun l => by
        rw [List.map_map]; exact List.map_congr_left fun r _ => by simp [key, setAlt_lhs, setAlt_aid]
      obtain ⟨j1, j2, j3, j4⟩ := ih (rest.map (setAlt q.aid rhs')) (by simpa using hn) acc'
        (done.map (setAlt q.aid rhs') ++ [{ q with rhs := rhs' }]) k1
        (fun r hr => by
          rcases List.mem_append.mp hr with hr | hr
          · obtain ⟨r', hr', rfl⟩ := List.mem_map.mp hr
            exact (hd r' hr').setAlt k2 hlen0 k3
          · rw [List.mem_singleton.mp hr]
            exact ⟨hq.1, Or.inr ⟨hlen0, k3⟩⟩)
        (fun r hr => by
          obtain ⟨r', hm, rfl⟩ := List.mem_map.mp hr
          exact (hr' r' hm).setAlt k2 hlen0 k3)
      refine ⟨j1, k2.trans j2, ?_, j4⟩
      rw [show (fun x : CRule => if x.aid = q.aid then { x with rhs := rhs' } else x) = setAlt q.aid rhs' from rfl, j3]
      simp only [List.map_append, hkey, List.map_cons, List.append_assoc, List.singleton_append]
      rfl
    · simp only [hlen, if_false]
      obtain ⟨j1, j2, j3, j4⟩ := ih rest hn acc (done ++ [q]) hok
        (fun r hr => by
          rcases List.mem_append.mp hr with hr | hr
          · exact hd r hr
          · rw [List.mem_singleton.mp hr]
            refine ⟨hq.1, ?_⟩
            rcases hq.2 with h | ⟨h, _⟩
            · exact Or.inl ⟨h.1, fun _ => by rw [← hq.length_eq]; exact Nat.lt_of_not_le hlen⟩
            · exact absurd (hq.length_eq ▸ h) hlen)
        hr'
      exact ⟨j1, j2, by rw [j3]; simp, j4⟩

def extraRules (start : Nat) (m : List (String × String)) : List CRule :=
  m.zipIdx.map fun ((a, A), i) => ({ lhs := A, aid := start + i, rhs := [.t a] } : CRule)

theorem mem_extraRules {start : Nat} {m : List (String × String)} {r : CRule} (h : r ∈ extraRules start m) :
    ∃ p, p ∈ m ∧ r.lhs = p.2 ∧ r.rhs = [Sym.t p.1] := by
  obtain ⟨⟨⟨a, A⟩, i⟩, hmem, rfl⟩ := List.mem_map.mp h
  exact ⟨(a, A), List.mem_of_getElem? (List.mem_zipIdx_iff_getElem?.mp hmem), rfl, rfl⟩

theorem extraRules_of_mem {start : Nat} {m : List (String × String)} {p : String × String} (h : p ∈ m) :
    ∃ r, r ∈ extraRules start m ∧ r.lhs = p.2 ∧ r.rhs = [Sym.t p.1] := by
  obtain ⟨a, A⟩ := p
  obtain ⟨i, hi⟩ := List.mem_iff_getElem?.mp h
  exact ⟨_, List.mem_map.mpr ⟨((a, A), i), List.mem_zipIdx_iff_getElem?.mpr hi, rfl⟩, rfl, rfl⟩

/-- the shape of `G.isolateTerminals`: `R'` is `G.R` with the same left-hand sides and alternatives, in the same order -/
structure IsoRes (G G' : CFG) (acc : TermAcc) (R' : List CRule) : Prop where
  hok : AccOK G acc
  hS : G'.S = G.S
  hSigma : G'.Sigma = G.Sigma
  hV : G'.V = acc.V
  hR : G'.R = R' ++ extraRules G.nextAid acc.repl
  hkey : R'.map key = G.R.map key
  hseen : ∀ r, r ∈ R' → Seen G true acc.repl r

theorem isolateTerminals_char (ha : AliasOK G) :
    ∃ acc R', IsoRes G G.isolateTerminals acc R' := by
  have hspec := isolateLoop_spec ha G.R ⟨G.V, []⟩ []
    ⟨by intro A; simp, by simp, by intro A hA; simp at hA, by intro p hp; cases hp⟩
    (fun r hr => nomatch hr)
    (fun r hr => ⟨⟨r, hr, rfl, rfl⟩, Or.inl ⟨(origRhs_eq ha hr).symm, fun h => nomatch h⟩⟩)
  unfold isolateTerminals
  generalize isolateLoop ⟨G.V, []⟩ [] G.R = res at hspec ⊢
  obtain ⟨acc, R'⟩ := res
  obtain ⟨h1, _, h3, h4⟩ := hspec
  exact ⟨acc, R', h1, rfl, rfl, rfl, rfl, h3, h4⟩

namespace IsoRes
variable {G G' : CFG} {acc : TermAcc} {R' : List CRule}

theorem mem_R (h : IsoRes G G' acc R') {r' : CRule} :
    r' ∈ G'.R ↔ r' ∈ R' ∨ r' ∈ extraRules G.nextAid acc.repl := by
  rw [h.hR, List.mem_append]

theorem cnfShaped (h : IsoRes G G' acc R') (ha : AliasOK G) (h2 : RhsLe2 G) (hn : NoUnit G) : AllCnfShaped G' := by
  intro r' hr'
  rcases h.mem_R.mp hr' with hr' | he
  · obtain ⟨⟨r0, hr0, he0, _⟩, hs⟩ := h.hseen r' hr'
    rw [← he0, origRhs_eq ha hr0] at hs
    rcases hs with ⟨he, hl⟩ | ⟨hl, hrep⟩
    · rw [he]
      have hu := hn _ hr0
      have hl := hl rfl
      unfold isUnit at hu
      generalize r0.rhs = rhs at hl hu
      match rhs, hl with
      | [], _ => rfl
      | [.t a], _ => rfl
      | [.v A], _ => simp at hu
    · have hlen := h2 _ hr0
      have hvars := hrep.isVar
      rw [← hrep.length] at hl hlen
      generalize r'.rhs = ys at hvars hl hlen
      match ys, hl, hlen with
      | [x, y], _, _ =>
        obtain ⟨A, rfl⟩ := hvars x (by simp)
        obtain ⟨B, rfl⟩ := hvars y (by simp)
        rfl
  · obtain ⟨p, _, _, h2⟩ := mem_extraRules he
    rw [h2]; rfl

/-- the expansion table: `A_a ↦ a` -/
def tab (m : List (String × String)) : List (String × List Sym) := m.map (fun p => (p.2, [Sym.t p.1]))

theorem tab_no_var (m : List (String × String)) : ∀ q, q ∈ tab m → ∀ A, Sym.v A ∉ q.2 := by
  intro q hq A hm
  obtain ⟨p, _, rfl⟩ := List.mem_map.mp hq
  cases List.mem_singleton.mp hm

/-- `isolateTerminals` introduces one variable `A_a` per replaced terminal `a`, standing for `a` -/
theorem intro (h : IsoRes G G' acc R') (ha : AliasOK G) (hv : G.valid = true) :
    Intro G G' (tab acc.repl) := by
  rw [valid_iff] at hv
  have hkeys : (tab acc.repl).map (·.1) = acc.repl.map (·.2) := by
    unfold tab; rw [List.map_map]; rfl
  have hnd : ((tab acc.repl).map (·.1)).Nodup := by rw [hkeys]; exact h.hok.hnodup
  have hold : ∀ x, G.SymOK x → OldSym (look (tab acc.repl)) x :=
    fun x => oldSym_of_fresh (by rw [hkeys]; exact h.hok.hnew)
  have hexpand : ∀ {xs ys}, Repls acc.repl xs ys → (∀ x, x ∈ xs → G.SymOK x) →
      subst (look (tab acc.repl)) ys = xs := by
    intro xs ys hr
    induction hr with
    | nil => intro _; rfl
    | @cons x y xs ys h1 _ ih =>
      intro hok
      rw [subst_cons, ih fun z hz => hok z (List.mem_cons_of_mem _ hz)]
      cases x with
      | v A => rw [h1, sigma_old (hold _ (hok _ (by simp)))]; rfl
      | t a =>
        obtain ⟨A, hm, rfl⟩ := h1
        simp only [sigma, (look_some_iff hnd).mpr (List.mem_map.mpr ⟨(a, A), hm, rfl⟩), Option.getD_some]
        rfl
  -- expanded, a rule of `R'` is the rule of `G` it comes from
  have hiso : ∀ r', r' ∈ R' → ∀ r0, r0 ∈ G.R → r0.aid = r'.aid →
      subst (look (tab acc.repl)) r'.rhs = r0.rhs := by
    intro r' hr' r0 hr0 he0
    have hs := (h.hseen r' hr').2
    rw [← he0, origRhs_eq ha hr0] at hs
    rcases hs with ⟨he, _⟩ | ⟨_, hrep⟩
    · rw [he]; exact subst_old fun x hx => hold x ((hv _ hr0).2 x hx)
    · exact hexpand hrep (hv _ hr0).2
  exact {
    hSigma := h.hSigma
    hV := fun A => by rw [h.hV, hkeys]; exact h.hok.hV A
    nodup := hnd
    fresh := by rw [hkeys]; exact h.hok.hnew
    hexp := fun q hq => by
      obtain ⟨p, hp, rfl⟩ := List.mem_map.mp hq
      refine ⟨by simp, fun x hx => ?_⟩
      obtain ⟨r, hr, hm⟩ := h.hok.hterm p hp
      rw [List.mem_singleton.mp hx]; exact (hv r hr).2 _ hm
    rules := fun r' hr' => by
      rcases h.mem_R.mp hr' with hr' | he
      · obtain ⟨r0, hr0, he0, hl0⟩ := (h.hseen r' hr').1
        exact Or.inl ⟨r0, hr0, hl0, (hiso r' hr' r0 hr0 he0).symm⟩
      · obtain ⟨p, hp, h1, h2⟩ := mem_extraRules he
        rw [h1, h2]
        exact Or.inr (List.mem_map.mpr ⟨p, hp, rfl⟩)
    back := fun r hr => by
      have : key r ∈ R'.map key := h.hkey ▸ List.mem_map_of_mem hr
      obtain ⟨r', hr', hk⟩ := List.mem_map.mp this
      injection hk with hl he
      exact ⟨r', h.mem_R.mpr (Or.inl hr'), hl, hiso r' hr' r hr he.symm⟩
    defs := fun q hq => by
      obtain ⟨p, hp, rfl⟩ := List.mem_map.mp hq
      obtain ⟨r, hr, h1, h2⟩ := extraRules_of_mem (start := G.nextAid) hp
      exact ⟨r, h.mem_R.mpr (Or.inr hr), h1, h2⟩ }

end IsoRes

/-- evaluate `upperAscii` on a literal (`String.map` does not reduce in the kernel) -/
theorem upperAscii_eq {s t : String} (h : s.toList.map Char.toUpper = t.toList) : upperAscii s = t := by
  apply String.ext_iff.mpr
  rw [upperAscii, String.toList_map]; exact h

end C08c
end CFG
end Gamba
