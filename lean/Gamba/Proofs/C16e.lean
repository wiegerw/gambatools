/-
  Gamba.Proofs.C16e — the simple grammar text format (Model/CfgText.lean): what the line scanner reads from the
  printed lines; the grammar `mkCfg` that `parseSimpleCfg` builds from the scanned rules, the parser unfolded to it
  (`parseSimpleCfg_eq / _unpack`) and what every parser result satisfies (`ParsedCfg`, `parsedCfg_of`: the C12 / C13
  files rest on these); the grammars the format can represent (`Printable`) and their round trip as an
  equation (`Printable.parse_print`).  The property theorem `parse_print_cfg` is in Props/C16e.
-/
import Gamba.Model.CfgText
import Gamba.Proofs.TextBasic
import Gamba.Proofs.CFGPairs
import Gamba.Proofs.ExceptBasic
namespace Gamba
namespace CfgText
open Text

theorem isWordChar_ne_at {c : Char} (h : isWordChar c = true) : c ≠ '@' := ne_of_test h (by decide)
theorem isUpper_ne_e {c : Char} (h : c.isUpper = true) : c ≠ 'e' := ne_of_test h (by decide)

/- a printed alternative is a `\w+` word (`Parse.isWord`) -/

theorem isWord_bar_not_mem {a : List Char} (h : Parse.isWord a = true) : '|' ∉ a :=
  fun hm => ne_of_test ((Parse.isWord_iff.mp h).2 _ hm) (by decide) rfl

theorem isAltText_of_isWord {a : List Char} (h : Parse.isWord a = true) : isAltText a = true := by
  obtain ⟨h1, h2⟩ := Parse.isWord_iff.mp h
  cases a with
  | nil => exact absurd rfl h1
  | cons c cs =>
    simp only [CfgText.isAltText, List.isEmpty_cons, Bool.not_false, Bool.true_and, List.all_eq_true,
      Bool.or_eq_true]
    exact fun x hx => Or.inl (h2 x hx)

theorem strip_pad {a : List Char} (h : Parse.isWord a = true) {sp : List Char} (hsp : ∀ c, c ∈ sp → isSpace c = true) :
    strip (' ' :: (a ++ sp)) = a :=
  strip_padded (Parse.isWord_token h).2 (sp1 := [' ']) (by simp [isSpace_space]) hsp

theorem map_strip_splitOn_bar {alts : List (List Char)} (hne : alts ≠ []) (h : ∀ a, a ∈ alts → Parse.isWord a = true) :
    (splitOn '|' (' ' :: [' ', '|', ' '].intercalate alts)).map strip = alts := by
  induction alts with
  | nil => exact absurd rfl hne
  | cons a as ih =>
    have ha := h a (by simp)
    cases as with
    | nil =>
      have : '|' ∉ ' ' :: a := by
        simp only [List.mem_cons, not_or]; exact ⟨by decide, isWord_bar_not_mem ha⟩
      simp only [List.intercalate_singleton, splitOn_of_not_mem this, List.map_cons, List.map_nil]
      have := strip_pad ha (sp := []) (by simp)
      simpa using this
    | cons b bs =>
      have e : ' ' :: [' ', '|', ' '].intercalate (a :: b :: bs) =
          (' ' :: (a ++ [' '])) ++ '|' :: (' ' :: [' ', '|', ' '].intercalate (b :: bs)) := by
        rw [List.intercalate_cons_cons]; simp
      have hn : '|' ∉ ' ' :: (a ++ [' ']) := by
        simp only [List.mem_cons, List.mem_append, List.not_mem_nil, or_false, not_or]
        exact ⟨by decide, isWord_bar_not_mem ha, by decide⟩
      rw [e, splitOn_append_sep hn, List.map_cons, ih (by simp) (fun x hx => h x (List.mem_cons_of_mem _ hx)),
        strip_pad ha (by simp [isSpace_space])]

/-- a line of alternatives ends with the last character of the last one -/
theorem lastOk_alts {pre : List Char} {alts : List (List Char)} (hne : alts ≠ []) (h : ∀ a, a ∈ alts → Parse.isWord a = true) :
    ∀ c, (pre ++ [' ', '|', ' '].intercalate alts).getLast? = some c → isSpace c = false := by
  obtain ⟨last, hl⟩ := Option.isSome_iff_exists.mp (List.getLast?_isSome.mpr hne)
  have hlast := h last (List.mem_of_getLast? hl)
  intro c hc
  rw [List.getLast?_append, getLast?_intercalate hl (Parse.isWord_ne_nil hlast)] at hc
  cases he : last.getLast? with
  | none => exact absurd (List.getLast?_eq_none_iff.mp he) (Parse.isWord_ne_nil hlast)
  | some d =>
    rw [he] at hc
    exact (Parse.isWord_token hlast).not_space (List.mem_of_getLast? (he.trans hc))

theorem scanLine_rule (acc : Lines) {c : Char} (hc : c.isUpper = true) {alts : List (List Char)} (hne : alts ≠ [])
    (h : ∀ a, a ∈ alts → Parse.isWord a = true) :
    scanLine acc (c :: ' ' :: '-' :: '>' :: ' ' :: [' ', '|', ' '].intercalate alts) =
      .ok { acc with rules := acc.rules ++ [([c], alts)] } := by
  have hw := isWordChar_of_isUpper hc
  have hs : isSpace c = false := not_isSpace_of_isWordChar hw
  have hstrip : strip (c :: ' ' :: '-' :: '>' :: ' ' :: [' ', '|', ' '].intercalate alts) =
      c :: ' ' :: '-' :: '>' :: ' ' :: [' ', '|', ' '].intercalate alts := by
    apply strip_eq_self
    · intro d hd; simp at hd; subst hd; exact hs
    · exact lastOk_alts (pre := [c, ' ', '-', '>', ' ']) hne h
  have hpc : c ≠ '%' := isWordChar_ne_percent hw
  have hd : c ≠ '-' := ne_of_test hw (by decide)
  have harrow : splitArrowOnce (c :: ' ' :: '-' :: '>' :: ' ' :: [' ', '|', ' '].intercalate alts) =
      some ([c, ' '], ' ' :: [' ', '|', ' '].intercalate alts) := by
    rw [splitArrowOnce.eq_3]
    · rw [splitArrowOnce.eq_3]
      · rw [splitArrowOnce.eq_2]; rfl
      · intro r; simp
    · intro r; simp [hd]
  have hl : strip [c, ' '] = [c] := by
    simp [strip, dropWhileSpace, hs, isSpace_space]
  have halts : List.map strip (splitOn '|' (' ' :: [' ', '|', ' '].intercalate alts)) = alts :=
    map_strip_splitOn_bar hne h
  have hall : alts.all isAltText = true := List.all_eq_true.mpr fun a ha => isAltText_of_isWord (h a ha)
  unfold scanLine
  simp only [hstrip]
  simp [startsWith, hpc, parseRuleLine, harrow, hl, halts, hw, hall]

/-- the printed line of the variable character `p.1` with the alternatives `p.2` -/
def ruleLine (p : Char × List (List Char)) : List Char :=
  p.1 :: ' ' :: '-' :: '>' :: ' ' :: [' ', '|', ' '].intercalate p.2

theorem foldlM_scanLine_rules (acc : Lines) (ps : List (Char × List (List Char)))
    (h : ∀ p, p ∈ ps → p.1.isUpper = true ∧ p.2 ≠ [] ∧ ∀ a, a ∈ p.2 → Parse.isWord a = true) :
    (ps.map ruleLine).foldlM scanLine acc =
      .ok { acc with rules := acc.rules ++ ps.map fun p => ([p.1], p.2) } := by
  induction ps generalizing acc with
  | nil => simp; rfl
  | cons p ps ih =>
    obtain ⟨h1, h2, h3⟩ := h p (by simp)
    rw [List.map_cons, List.foldlM_cons, ruleLine, scanLine_rule acc h1 h2 h3]
    show List.foldlM scanLine _ _ = _
    rw [ih _ (fun q hq => h q (List.mem_cons_of_mem _ hq))]
    simp

/-- the grammar `parseSimpleCfg` builds from the list of (lhs, rhs) pairs -/
def mkCfg (rules : List (String × List Sym)) (s0 : String) : CFG :=
  { V := dedup (rules.map (·.1)),
    Sigma := dedup (rules.flatMap fun r => r.2.filterMap fun x => match x with | .t a => some a | .v _ => none),
    R := rules.zipIdx.map fun (r, i) => ({ lhs := r.1, aid := i, rhs := r.2 } : CRule),
    S := s0 }

theorem map_pair_mkCfg (pairs : List (String × List Sym)) (s0 : String) : (mkCfg pairs s0).R.map CFG.pair = pairs :=
  (CFG.map_pair_zipIdx pairs _ id fun _ => rfl).trans (List.map_id _)

theorem mkCfg_hasRule {pairs : List (String × List Sym)} {s0 A : String} {rhs : List Sym} :
    (mkCfg pairs s0).HasRule A rhs ↔ (A, rhs) ∈ pairs := by
  rw [CFG.hasRule_iff_pair, map_pair_mkCfg]

theorem mem_mkCfg_V {pairs : List (String × List Sym)} {s0 A : String} :
    A ∈ (mkCfg pairs s0).V ↔ ∃ rhs, (A, rhs) ∈ pairs := by
  simp [mkCfg, mem_dedup]

theorem mem_mkCfg_Sigma {pairs : List (String × List Sym)} {s0 a : String} :
    a ∈ (mkCfg pairs s0).Sigma ↔ ∃ A rhs, (A, rhs) ∈ pairs ∧ Sym.t a ∈ rhs := by
  simp only [mkCfg, mem_dedup, List.mem_flatMap, List.mem_filterMap]
  constructor
  · rintro ⟨⟨A, rhs⟩, hp, x, hx, he⟩
    cases x with
    | t b => cases he; exact ⟨A, rhs, hp, hx⟩
    | v B => cases he
  · rintro ⟨A, rhs, hp, hx⟩
    exact ⟨(A, rhs), hp, .t a, hx, rfl⟩

/-- the rules are numbered by their position -/
theorem mkCfg_aliasOK (pairs : List (String × List Sym)) (s0 : String) : CFG.AliasOK (mkCfg pairs s0) := by
  intro r s hr hs he
  obtain ⟨⟨a, i⟩, ha, rfl⟩ := List.mem_map.mp hr
  obtain ⟨⟨b, j⟩, hb, rfl⟩ := List.mem_map.mp hs
  have ha' := List.mem_zipIdx_iff_getElem?.mp ha
  have hb' := List.mem_zipIdx_iff_getElem?.mp hb
  simp only at he ha' hb'
  subst he
  rw [ha'] at hb'
  cases hb'
  rfl

def cfgRules (rs : List (List Char × List (List Char))) (eps : Char) : List (String × List Sym) :=
  rs.flatMap fun r =>
    (r.2.filter (· ≠ ['@'])).map fun alt => (str r.1, if alt = [eps] then [] else alt.map parseSym)

/-- the ε symbol chosen by `parse_simple_cfg` -/
def cfgEps (acc : Lines) : Char :=
  match acc.eps with
  | some c => c
  | none => if acc.rules.any (fun r => r.1.contains 'ε' || r.2.any (·.contains 'ε')) then 'ε' else '_'

theorem parseSimpleCfg_eq (text : List Char) :
    parseSimpleCfg text =
      ((splitOn '\n' text).foldlM scanLine {}).bind fun acc =>
        match cfgRules acc.rules (cfgEps acc) with
        | [] => .error .runtimeError
        | (s0, _) :: _ =>
          if (mkCfg (cfgRules acc.rules (cfgEps acc)) s0).valid then
            .ok (mkCfg (cfgRules acc.rules (cfgEps acc)) s0, String.singleton (cfgEps acc))
          else .error .runtimeError := by
  rfl

theorem parseSimpleCfg_unpack {text : List Char} {G : CFG} {e : String}
    (h : parseSimpleCfg text = .ok (G, e)) :
    ∃ acc s0 r0 rest, (splitOn '\n' text).foldlM scanLine {} = .ok acc ∧
      cfgRules acc.rules (cfgEps acc) = (s0, r0) :: rest ∧
      G = mkCfg (cfgRules acc.rules (cfgEps acc)) s0 ∧ G.valid = true := by
  rw [parseSimpleCfg_eq, Except.bind_eq_ok] at h
  obtain ⟨acc, hacc, h⟩ := h
  split at h
  · cases h
  · rename_i s0 r0 rest hrules
    simp only [Except.ite_eq_ok_error, Except.ok.injEq, Prod.mk.injEq] at h
    obtain ⟨hv, rfl, _⟩ := h
    exact ⟨acc, s0, r0, rest, hacc, hrules, rfl, hv⟩

theorem parseSimpleCfg_ok {text : List Char} {acc : Lines} {s0 : String} {rhs0 : List Sym}
    {rest : List (String × List Sym)} (h : (splitOn '\n' text).foldlM scanLine {} = .ok acc)
    (hrules : cfgRules acc.rules (cfgEps acc) = (s0, rhs0) :: rest)
    (hvalid : (mkCfg ((s0, rhs0) :: rest) s0).valid = true) :
    parseSimpleCfg text = .ok (mkCfg ((s0, rhs0) :: rest) s0, String.singleton (cfgEps acc)) := by
  rw [parseSimpleCfg_eq, h]
  show (match cfgRules acc.rules (cfgEps acc) with | [] => _ | (s0, _) :: _ => _) = _
  rw [hrules]
  exact if_pos hvalid

theorem parseRuleLine_ok {line : List Char} {r : List Char × List (List Char)}
    (h : parseRuleLine line = some r) : Parse.isWord r.1 = true := by
  unfold parseRuleLine at h
  split at h
  · cases h
  · simp only at h
    split at h
    · rename_i hc
      cases h
      exact (Bool.and_eq_true _ _ ▸ hc).1
    · cases h

theorem scanLine_rules {acc acc' : Lines} {raw : List Char} (h : scanLine acc raw = .ok acc')
    (hacc : ∀ r, r ∈ acc.rules → Parse.isWord r.1 = true) : ∀ r, r ∈ acc'.rules → Parse.isWord r.1 = true := by
  unfold scanLine at h
  simp only at h
  split at h
  · cases h; exact hacc
  · split at h
    · split at h
      · cases h; exact hacc
      · cases h
    · split at h
      · rename_i r0 hr0
        cases h
        exact List.forall_mem_append.mpr ⟨hacc, List.forall_mem_singleton.mpr (parseRuleLine_ok hr0)⟩
      · cases h

theorem mem_cfgRules {rs : List (List Char × List (List Char))} {eps : Char} {p : String × List Sym}
    (h : p ∈ cfgRules rs eps) :
    ∃ r alt, r ∈ rs ∧ alt ∈ r.2 ∧ p.1 = str r.1 ∧ (p.2 = [] ∨ p.2 = alt.map parseSym) := by
  simp only [cfgRules, List.mem_flatMap, List.mem_map, List.mem_filter] at h
  obtain ⟨r, hr, alt, ⟨halt, _⟩, rfl⟩ := h
  refine ⟨r, alt, hr, halt, rfl, ?_⟩
  simp only
  split
  · exact Or.inl rfl
  · exact Or.inr rfl

/-- what every grammar that comes out of `parse_simple_cfg` satisfies: the class invariant, a declared start variable,
    pairwise distinct alternative identities; every variable is a `\w+` word, every terminal a single lower-case letter or `ε` -/
structure ParsedCfg (G : CFG) : Prop where
  valid : G.valid = true
  start : G.S ∈ G.V
  alias : CFG.AliasOK G
  vars : ∀ A, A ∈ G.V → Parse.isWord A.toList = true
  terms : ∀ a, a ∈ G.Sigma → ∃ c, a = String.singleton c ∧ (c.isLower = true ∨ c = 'ε')

theorem parsedCfg_of {text : List Char} {G : CFG} {e : String} (h : parseSimpleCfg text = .ok (G, e)) : ParsedCfg G := by
  obtain ⟨acc, s0, r0, rest, hacc, hrules, rfl, hv⟩ := parseSimpleCfg_unpack h
  have hok := foldlM_ok_inv (fun acc => ∀ r, r ∈ acc.rules → Parse.isWord r.1 = true) (fun _ _ _ => scanLine_rules) _ hacc
    fun _ hr => nomatch hr
  refine ⟨hv, mem_mkCfg_V.mpr ⟨r0, hrules ▸ List.mem_cons_self⟩, mkCfg_aliasOK _ _, fun A hA => ?_, fun a ha => ?_⟩
  · obtain ⟨rhs, hp⟩ := mem_mkCfg_V.mp hA
    obtain ⟨r, alt, hr, _, he, _⟩ := mem_cfgRules hp
    rw [show A = str r.1 from he, toList_str]
    exact hok r hr
  · obtain ⟨A, rhs, hp, hx⟩ := mem_mkCfg_Sigma.mp ha
    obtain ⟨r, alt, hr, _, _, he⟩ := mem_cfgRules hp
    rcases he with he | he
    · rw [show rhs = [] from he] at hx; cases hx
    · rw [show rhs = _ from he, List.mem_map] at hx
      obtain ⟨c, _, hxa⟩ := hx
      by_cases hc : (c.isLower || c == 'ε') = true
      · simp only [parseSym, hc, if_true, Sym.t.injEq] at hxa
        exact ⟨c, hxa.symm, by simpa using hc⟩
      · simp [parseSym, hc] at hxa

def SymOk : Sym → Prop
  | .t a => ∃ c, a.toList = [c] ∧ c.isLower = true
  | .v A => ∃ c, A.toList = [c] ∧ c.isUpper = true

/-- the character a symbol is printed as -/
def symChar (x : Sym) : Char := x.name.toList.headD ' '

theorem SymOk.spec {x : Sym} (h : SymOk x) :
    x.name.toList = [symChar x] ∧ isWordChar (symChar x) = true ∧ symChar x ≠ 'ε' ∧ symChar x ≠ '_' ∧
      parseSym (symChar x) = x := by
  cases x with
  | t a =>
    obtain ⟨c, h1, h2⟩ := h
    have e : symChar (.t a) = c := by simp [symChar, Sym.name, h1]
    rw [e]
    refine ⟨h1, isWordChar_of_isLower h2, ne_of_test h2 (by decide), ne_of_test h2 (by decide), ?_⟩
    simp [parseSym, h2, (toList_eq_singleton_iff.mp h1).symm]
  | v A =>
    obtain ⟨c, h1, h2⟩ := h
    have e : symChar (.v A) = c := by simp [symChar, Sym.name, h1]
    rw [e]
    have hε : c ≠ 'ε' := ne_of_test h2 (by decide)
    refine ⟨h1, isWordChar_of_isUpper h2, hε, ne_of_test h2 (by decide), ?_⟩
    simp [parseSym, isLower_of_isUpper h2, hε, (toList_eq_singleton_iff.mp h1).symm]

/-- the characters a right-hand side is printed as -/
def altChars (rhs : List Sym) : List Char := if rhs.isEmpty then ['ε'] else rhs.map symChar

theorem flatMap_name_toList {rhs : List Sym} (h : ∀ x, x ∈ rhs → SymOk x) :
    rhs.flatMap (fun x => x.name.toList) = rhs.map symChar := by
  induction rhs with
  | nil => rfl
  | cons x xs ih =>
    rw [List.flatMap_cons, (h x (by simp)).spec.1, ih (fun y hy => h y (List.mem_cons_of_mem _ hy))]
    rfl

theorem toList_altStr {rhs : List Sym} (h : ∀ x, x ∈ rhs → SymOk x) :
    (if rhs.isEmpty then "ε" else String.join (rhs.map Sym.name)).toList = altChars rhs := by
  unfold altChars
  split
  · rfl
  · rw [String.toList_join, List.flatMap_map]
    exact flatMap_name_toList h

theorem altChars_ok {rhs : List Sym} (h : ∀ x, x ∈ rhs → SymOk x) : Parse.isWord (altChars rhs) = true := by
  unfold altChars
  split
  · decide
  · rename_i hne
    refine Parse.isWord_iff.mpr ⟨by simpa using hne, ?_⟩
    intro c hc
    obtain ⟨x, hx, rfl⟩ := List.mem_map.mp hc
    exact (h x hx).spec.2.1

theorem altChars_ne_at {rhs : List Sym} (h : ∀ x, x ∈ rhs → SymOk x) : altChars rhs ≠ ['@'] := by
  intro e
  have := altChars_ok h
  rw [e] at this
  revert this; decide

theorem eps_mem_altChars {rhs : List Sym} (h : ∀ x, x ∈ rhs → SymOk x) : 'ε' ∈ altChars rhs ↔ rhs = [] := by
  unfold altChars
  split
  · rename_i he; simpa using he
  · rename_i hne
    constructor
    · intro hc
      obtain ⟨x, hx, e⟩ := List.mem_map.mp hc
      exact absurd e (h x hx).spec.2.2.1
    · intro e; subst e; simp at hne

/-- reading a printed alternative back, with `eps` the ε character the parser settled on -/
theorem decode_altChars {rhs : List Sym} (h : ∀ x, x ∈ rhs → SymOk x) {eps : Char} (h1 : eps = 'ε' ∨ eps = '_')
    (h2 : rhs = [] → eps = 'ε') :
    (if altChars rhs = [eps] then [] else (altChars rhs).map parseSym) = rhs := by
  cases rhs with
  | nil => simp [altChars, h2 rfl]
  | cons x xs =>
    have hx := (h x (by simp)).spec
    have hne : altChars (x :: xs) ≠ [eps] := by
      intro e
      simp only [altChars, List.isEmpty_cons, Bool.false_eq_true, ↓reduceIte, List.map_cons, List.cons.injEq] at e
      rcases h1 with h1 | h1
      · exact hx.2.2.1 (e.1.trans h1)
      · exact hx.2.2.2.1 (e.1.trans h1)
    rw [if_neg hne]
    simp only [altChars, List.isEmpty_cons, Bool.false_eq_true, ↓reduceIte, List.map_map]
    clear hne hx h2
    generalize x :: xs = l at h
    induction l with
    | nil => rfl
    | cons y ys ih =>
      rw [List.map_cons, ih (fun z hz => h z (List.mem_cons_of_mem _ hz))]
      simp [(h y (by simp)).spec.2.2.2.2]

theorem mem_dedup' {l : List String} {x : String} : x ∈ orderedVariables.dedup' l ↔ x ∈ l := by
  induction l with
  | nil => simp [orderedVariables.dedup']
  | cons y ys ih =>
    simp only [orderedVariables.dedup', List.mem_cons, List.mem_filter, ih, decide_eq_true_eq]
    constructor
    · rintro (h | ⟨h, _⟩)
      · exact Or.inl h
      · exact Or.inr h
    · rintro (h | h)
      · exact Or.inl h
      · by_cases e : x = y
        · exact Or.inl e
        · exact Or.inr ⟨h, e⟩

theorem nodup_dedup' (l : List String) : (orderedVariables.dedup' l).Nodup := by
  induction l with
  | nil => simp [orderedVariables.dedup']
  | cons y ys ih =>
    simp only [orderedVariables.dedup']
    refine List.nodup_cons.mpr ⟨by simp, ih.sublist List.filter_sublist⟩

theorem mem_orderedVariables {G : CFG} {X : String} : X ∈ orderedVariables G ↔ ∃ r, r ∈ G.R ∧ r.lhs = X := by
  simp [orderedVariables, mem_dedup']

/-- the rules grouped by variable, as the printer lists them -/
def grouped (G : CFG) : List CRule := (orderedVariables G).flatMap fun X => G.R.filter fun r => decide (r.lhs = X)

theorem grouped_perm (G : CFG) : (grouped G).Perm G.R :=
  flatMap_filter_perm (fun r : CRule => r.lhs) (orderedVariables G) G.R (nodup_dedup' _)
    (fun r hr => mem_orderedVariables.mpr ⟨r, hr, rfl⟩)

theorem grouped_head {G : CFG} {r0 : CRule} {rs : List CRule} (h : G.R = r0 :: rs) :
    ∃ rest, grouped G = r0 :: rest := by
  simp [grouped, orderedVariables, h, orderedVariables.dedup', List.filter_cons]

theorem isUpper1_iff {s : String} : isUpper1 s = true ↔ ∃ c, s.toList = [c] ∧ c.isUpper = true := by
  unfold isUpper1
  split
  · rename_i c hc; simp [hc]
  · rename_i h; simpa using fun c hc => absurd hc (h c)

theorem isLower1_iff {s : String} : isLower1 s = true ↔ ∃ c, s.toList = [c] ∧ c.isLower = true := by
  unfold isLower1
  split
  · rename_i c hc; simp [hc]
  · rename_i h; simpa using fun c hc => absurd hc (h c)

/-- simple-format grammars that the text format can represent faithfully: single upper-case variables, single
    lower-case ASCII terminals, every variable has a rule, the start variable heads the first rule, Σ is exactly the
    set of terminals that occur -/
structure Printable (G : CFG) : Prop where
  simple : isSimple G = true
  valid : G.valid = true
  hasRules : ∀ A, A ∈ G.V → ∃ r, r ∈ G.R ∧ r.lhs = A
  startFirst : ∃ r rs, G.R = r :: rs ∧ r.lhs = G.S
  sigmaUsed : ∀ a, a ∈ G.Sigma → ∃ r, r ∈ G.R ∧ Sym.t a ∈ r.rhs

theorem Printable.rule_ok {G : CFG} (h : Printable G) {r : CRule} (hr : r ∈ G.R) :
    (∃ c, r.lhs.toList = [c] ∧ c.isUpper = true) ∧ ∀ x, x ∈ r.rhs → SymOk x := by
  have hs := h.simple
  simp only [isSimple, Bool.and_eq_true, List.all_eq_true, isUpper1_iff, isLower1_iff] at hs
  have hv := (CFG.valid_iff G).mp h.valid r hr
  refine ⟨hs.1 _ hv.1, fun x hx => ?_⟩
  cases x with
  | t a => exact hs.2 a (hv.2 _ hx)
  | v A => exact hs.1 A (hv.2 _ hx)

/-- what `mkCfg` builds from a rearrangement of the rules of a printable grammar -/
theorem Printable.mkCfg_spec {G : CFG} (h : Printable G) {pairs : List (String × List Sym)} (s0 : String)
    (hp : ∀ p, p ∈ pairs ↔ p ∈ G.R.map CFG.pair) :
    (∀ A, A ∈ (mkCfg pairs s0).V ↔ A ∈ G.V) ∧ (∀ a, a ∈ (mkCfg pairs s0).Sigma ↔ a ∈ G.Sigma) ∧
      (∀ A rhs, (mkCfg pairs s0).HasRule A rhs ↔ G.HasRule A rhs) ∧ (mkCfg pairs s0).valid = true := by
  have hvalid := (CFG.valid_iff_hasRule G).mp h.valid
  have hR : ∀ A rhs, (mkCfg pairs s0).HasRule A rhs ↔ G.HasRule A rhs :=
    fun A rhs => mkCfg_hasRule.trans ((hp _).trans CFG.hasRule_iff_pair.symm)
  have hV : ∀ A, A ∈ (mkCfg pairs s0).V ↔ A ∈ G.V := by
    intro A
    rw [mem_mkCfg_V]
    constructor
    · rintro ⟨rhs, hm⟩
      exact (hvalid A rhs ((hR A rhs).mp (mkCfg_hasRule.mpr hm))).1
    · intro hA
      obtain ⟨r, hr, rfl⟩ := h.hasRules A hA
      exact ⟨r.rhs, mkCfg_hasRule.mp ((hR _ _).mpr ⟨r, hr, rfl, rfl⟩)⟩
  have hS : ∀ a, a ∈ (mkCfg pairs s0).Sigma ↔ ∃ A rhs, G.HasRule A rhs ∧ Sym.t a ∈ rhs := fun a =>
    mem_mkCfg_Sigma.trans (exists_congr fun A => exists_congr fun rhs => and_congr_left' (mkCfg_hasRule.symm.trans (hR A rhs)))
  refine ⟨hV, fun a => (hS a).trans ⟨?_, ?_⟩, hR, ?_⟩
  · rintro ⟨A, rhs, hr, hx⟩
    exact (hvalid A rhs hr).2 _ hx
  · intro ha
    obtain ⟨r, hr, hx⟩ := h.sigmaUsed a ha
    exact ⟨_, _, ⟨r, hr, rfl, rfl⟩, hx⟩
  · rw [CFG.valid_iff_hasRule]
    intro A rhs hr
    have hG := (hR A rhs).mp hr
    refine ⟨(hV A).mpr (hvalid A rhs hG).1, fun x hx => ?_⟩
    cases x with
    | v B => exact (hV B).mpr ((hvalid A rhs hG).2 _ hx)
    | t b => exact (hS b).mpr ⟨A, rhs, hG, hx⟩

/-- the variable character and the printed alternatives of each printed line -/
def linePairs (G : CFG) : List (Char × List (List Char)) :=
  (orderedVariables G).map fun X =>
    (X.toList.headD ' ', (G.R.filter fun r => decide (r.lhs = X)).map fun r => altChars r.rhs)

theorem Printable.linePairs_ok {G : CFG} (h : Printable G) :
    ∀ p, p ∈ linePairs G → p.1.isUpper = true ∧ p.2 ≠ [] ∧ ∀ a, a ∈ p.2 → Parse.isWord a = true := by
  intro p hp
  obtain ⟨X, hX, rfl⟩ := List.mem_map.mp hp
  obtain ⟨r, hr, rfl⟩ := mem_orderedVariables.mp hX
  obtain ⟨⟨c, hc1, hc2⟩, _⟩ := h.rule_ok hr
  refine ⟨by simpa [hc1] using hc2, ?_, ?_⟩
  · have : r ∈ G.R.filter fun r' => decide (r'.lhs = r.lhs) := List.mem_filter.mpr ⟨hr, by simp⟩
    intro e
    simp only [List.map_eq_nil_iff] at e
    rw [e] at this
    cases this
  · intro a ha
    obtain ⟨r', hr', rfl⟩ := List.mem_map.mp ha
    exact altChars_ok (h.rule_ok (List.mem_filter.mp hr').1).2

theorem Printable.print_lines {G : CFG} (h : Printable G) :
    ((orderedVariables G).map fun X =>
      X ++ " -> " ++ " | ".intercalate ((G.R.filter (·.lhs = X)).map fun r =>
        if r.rhs.isEmpty then "ε" else String.join (r.rhs.map Sym.name))).map String.toList =
      (linePairs G).map ruleLine := by
  rw [linePairs, List.map_map, List.map_map]
  apply List.map_congr_left
  intro X hX
  obtain ⟨r, hr, rfl⟩ := mem_orderedVariables.mp hX
  obtain ⟨⟨c, hc1, hc2⟩, _⟩ := h.rule_ok hr
  simp only [Function.comp, ruleLine, String.toList_append, toList_intercalate, hc1, List.map_map, List.headD_cons]
  have e1 : " -> ".toList = [' ', '-', '>', ' '] := rfl
  have e2 : " | ".toList = [' ', '|', ' '] := rfl
  rw [e1, e2]
  simp only [List.cons_append, List.nil_append, List.cons.injEq, true_and]
  congr 1
  apply List.map_congr_left
  intro r' hr'
  exact toList_altStr (h.rule_ok (List.mem_filter.mp hr').1).2

theorem newline_not_mem_ruleLine {p : Char × List (List Char)} (h1 : p.1.isUpper = true)
    (h3 : ∀ a, a ∈ p.2 → Parse.isWord a = true) : '\n' ∉ ruleLine p := by
  intro hm
  simp only [ruleLine, List.mem_cons] at hm
  rcases hm with hm | hm | hm | hm | hm | hm
  · rw [← hm] at h1; revert h1; decide
  · revert hm; decide
  · revert hm; decide
  · revert hm; decide
  · revert hm; decide
  · rcases mem_intercalate hm with hm | ⟨a, ha, hc⟩
    · revert hm; decide
    · exact Parse.isWord_newline_not_mem (h3 a ha) hc

theorem Printable.rules_eq {G : CFG} (h : Printable G) {eps : Char} (h1 : eps = 'ε' ∨ eps = '_')
    (h2 : ∀ r, r ∈ G.R → r.rhs = [] → eps = 'ε') :
    cfgRules ((linePairs G).map fun p => ([p.1], p.2)) eps = (grouped G).map CFG.pair := by
  rw [cfgRules, linePairs, List.map_map, List.flatMap_map, grouped, List.map_flatMap]
  apply flatMap_congr
  intro X hX
  obtain ⟨r, hr, rfl⟩ := mem_orderedVariables.mp hX
  obtain ⟨⟨c, hc1, hc2⟩, _⟩ := h.rule_ok hr
  simp only [Function.comp]
  rw [List.filter_eq_self.mpr, List.map_map]
  · apply List.map_congr_left
    intro r' hr'
    obtain ⟨hr'1, hr'2⟩ := List.mem_filter.mp hr'
    simp only [decide_eq_true_eq] at hr'2
    simp only [Function.comp, hc1, List.headD_cons]
    rw [decode_altChars (h.rule_ok hr'1).2 h1 (h2 r' hr'1), CFG.pair, hr'2, ← hc1, str_toList]
  · intro a ha
    obtain ⟨r', hr', rfl⟩ := List.mem_map.mp ha
    simpa using altChars_ne_at (h.rule_ok (List.mem_filter.mp hr').1).2

/-- the round trip as an equation: the printed text parses to the rules grouped by variable, numbered in that order,
    with `ε` or the default `_` as the ε symbol -/
theorem Printable.parse_print {G : CFG} (h : Printable G) :
    ∃ text eps, printSimpleCfg G = .ok text ∧ (eps = 'ε' ∨ eps = '_') ∧
      parseSimpleCfg text.toList = .ok (mkCfg ((grouped G).map CFG.pair) G.S, String.singleton eps) := by
  obtain ⟨r0, rs0, hR, hS⟩ := h.startFirst
  obtain ⟨rest0, hg⟩ := grouped_head hR
  have hprint : printSimpleCfg G = .ok ("\n".intercalate ((orderedVariables G).map fun X =>
      X ++ " -> " ++ " | ".intercalate ((G.R.filter (·.lhs = X)).map fun r =>
        if r.rhs.isEmpty then "ε" else String.join (r.rhs.map Sym.name)))) := by
    simp [printSimpleCfg, h.simple]
  have hlines := h.print_lines
  have hne : (orderedVariables G) ≠ [] := by
    intro e
    have : r0.lhs ∈ orderedVariables G := mem_orderedVariables.mpr ⟨r0, by rw [hR]; simp, rfl⟩
    rw [e] at this; cases this
  have hsplit := splitOn_intercalate_newline (lines := (orderedVariables G).map fun X =>
      X ++ " -> " ++ " | ".intercalate ((G.R.filter (·.lhs = X)).map fun r =>
        if r.rhs.isEmpty then "ε" else String.join (r.rhs.map Sym.name))) (by simpa using hne) (by
    intro l hl
    have : l.toList ∈ (linePairs G).map ruleLine := by rw [← hlines]; exact List.mem_map_of_mem hl
    obtain ⟨p, hp, e⟩ := List.mem_map.mp this
    rw [← e]
    obtain ⟨p1, _, p3⟩ := h.linePairs_ok p hp
    exact newline_not_mem_ruleLine p1 p3)
  rw [hlines] at hsplit
  have hfold := foldlM_scanLine_rules {} (linePairs G) h.linePairs_ok
  rw [← hsplit] at hfold
  let acc : Lines := { rules := (linePairs G).map fun p => ([p.1], p.2) }
  have heps1 : cfgEps acc = 'ε' ∨ cfgEps acc = '_' := by
    show (if _ then _ else _) = _ ∨ (if _ then _ else _) = _
    split <;> simp
  have heps2 : ∀ r, r ∈ G.R → r.rhs = [] → cfgEps acc = 'ε' := by
    intro r hr he
    have : acc.rules.any (fun r => r.1.contains 'ε' || r.2.any (·.contains 'ε')) = true := by
      rw [List.any_eq_true]
      refine ⟨([r.lhs.toList.headD ' '], (G.R.filter fun r' => decide (r'.lhs = r.lhs)).map fun r => altChars r.rhs), ?_, ?_⟩
      · exact List.mem_map.mpr ⟨_, List.mem_map.mpr ⟨r.lhs, mem_orderedVariables.mpr ⟨r, hr, rfl⟩, rfl⟩, rfl⟩
      · simp only [Bool.or_eq_true, List.any_eq_true]
        refine Or.inr ⟨altChars r.rhs, List.mem_map.mpr ⟨r, List.mem_filter.mpr ⟨hr, by simp⟩, rfl⟩, ?_⟩
        rw [he]; rfl
    show (if _ then _ else _) = _
    rw [if_pos this]
  have hrules := h.rules_eq heps1 heps2
  have hv := (h.mkCfg_spec G.S fun p => ((grouped_perm G).map CFG.pair).mem_iff).2.2.2
  have hhead : (grouped G).map CFG.pair = (G.S, r0.rhs) :: rest0.map CFG.pair := by rw [hg, List.map_cons, ← hS]; rfl
  rw [hhead] at hrules hv ⊢
  exact ⟨_, _, hprint, heps1, parseSimpleCfg_ok (acc := acc) hfold hrules hv⟩

end CfgText
end Gamba
