/-
  Gamba.Proofs.C13c — the library's own CYK answer key (`Keys.printCyk`) is accepted by the
  library's CYK checker (`Check.cykCheck`): character-level facts about the printed table
  (cells, padded lines, the final `strip`), and the triangular shape `tri` in which the printer lays the
  cells out and the checker, through `zipIdx`, reads them back.
-/
import Gamba.Model.Keys
import Gamba.Proofs.TextBasic
import Gamba.Proofs.C12b
namespace Gamba

/-- single-character word-character variable names (the "simple" grammar format of the notebooks) -/
def CFG.SimpleVars (G : CFG) : Prop :=
  ∀ A, A ∈ G.V → ∃ c, A = String.singleton c ∧ Text.isWordChar c = true

namespace C13c
open Text Keys

theorem joinWith_eq_intercalate (sep : List Char) (xs : List (List Char)) :
    joinWith sep xs = sep.intercalate xs := by
  induction xs with
  | nil => rfl
  | cons x xs ih =>
    cases xs with
    | nil => simp [joinWith]
    | cons y ys => rw [List.intercalate_cons_cons, ← ih]; rfl

theorem mem_intercalate_of_mem {sep : List Char} {xs : List (List Char)} {x : List Char} {c : Char}
    (hx : x ∈ xs) (hc : c ∈ x) : c ∈ sep.intercalate xs := by
  induction xs with
  | nil => cases hx
  | cons y ys ih =>
    cases ys with
    | nil =>
      simp only [List.mem_singleton] at hx
      subst hx
      simpa using hc
    | cons z zs =>
      rw [List.intercalate_cons_cons]
      rcases List.mem_cons.mp hx with rfl | hx
      · simp [hc]
      · exact List.mem_append_right _ (ih hx)

/-- `strip` + `split('\n')` + `split()` of newline-joined lines that all start with `{` -/
theorem lines_strip {L : List (List Char)} (hne : L ≠ []) (hnl : ∀ l, l ∈ L → '\n' ∉ l)
    (hhd : ∀ l, l ∈ L → ∃ t, l = '{' :: t) :
    (splitOn '\n' (strip (joinWith ['\n'] L))).map splitWs = L.map splitWs := by
  rw [joinWith_eq_intercalate]
  have hstrip : strip (['\n'].intercalate L) = rstrip (['\n'].intercalate L) := by
    apply strip_eq_rstrip
    obtain ⟨t, ht⟩ := head_intercalate (sep := ['\n']) hne hhd
    rw [ht]
    intro c hc
    simp only [List.head?_cons, Option.some.injEq] at hc
    subst hc; decide
  rw [hstrip]
  rcases List.eq_nil_or_concat L with h | ⟨L', last, h⟩
  · exact absurd h hne
  · rw [List.concat_eq_append] at h
    subst h
    obtain ⟨t, ht⟩ := hhd last (by simp)
    have hlast : ∃ c, c ∈ last ∧ isSpace c = false := ⟨'{', by rw [ht]; simp, by decide⟩
    rw [intercalate_concat, rstrip_append _ hlast, ← intercalate_concat, splitOn_intercalate (by simp)]
    · simp [splitWs_rstrip]
    · intro p hp
      rcases List.mem_append.mp hp with hp | hp
      · exact hnl p (List.mem_append_left _ hp)
      · simp only [List.mem_singleton] at hp
        subst hp
        exact fun hm => hnl last (by simp) (mem_rstrip hm)

/-- the elements of a cell are single word characters (`CFG.SimpleVars G` is `SingleWordChars G.V`) -/
def SingleWordChars (S : List String) : Prop := ∀ A, A ∈ S → ∃ c, A = String.singleton c ∧ isWordChar c = true

theorem singleWordChars_chars {T : List String} (h : SingleWordChars T) :
    ∃ cs : List Char, T = cs.map String.singleton ∧ ∀ c, c ∈ cs → isWordChar c = true := by
  induction T with
  | nil => exact ⟨[], rfl, by simp⟩
  | cons A T ih =>
    obtain ⟨c, rfl, hc⟩ := h A (by simp)
    obtain ⟨cs, rfl, hcs⟩ := ih (fun B hB => h B (List.mem_cons_of_mem _ hB))
    refine ⟨c :: cs, rfl, ?_⟩
    intro d hd
    rcases List.mem_cons.mp hd with rfl | hd
    · exact hc
    · exact hcs d hd

theorem singleWordChars_sort_dedup {S : List String} (h : SingleWordChars S) : SingleWordChars (sortStrings (dedup S)) :=
  fun A hA => h A (by simpa using hA)

/-- the characters between the braces -/
def cellBody (cs : List Char) : List Char := [','].intercalate (cs.map fun c => [c])

theorem printSet_eq {S : List String} {cs : List Char} (h : sortStrings (dedup S) = cs.map String.singleton) :
    printSet S = '{' :: cellBody cs ++ ['}'] := by
  unfold printSet cellBody
  rw [joinWith_eq_intercalate, h, List.map_map]
  have : (String.toList ∘ String.singleton) = fun c => [c] := by
    funext c; simp
  rw [this]

theorem cellBody_cons_cons (c d : Char) (cs : List Char) :
    cellBody (c :: d :: cs) = c :: ',' :: cellBody (d :: cs) := by
  simp [cellBody, List.intercalate_cons_cons]

theorem mem_cellBody {cs : List Char} {c : Char} (h : c ∈ cellBody cs) : c = ',' ∨ c ∈ cs := by
  rcases mem_intercalate h with h | ⟨x, hx, hc⟩
  · left; simpa using h
  · right
    obtain ⟨d, hd, rfl⟩ := List.mem_map.mp hx
    simp only [List.mem_singleton] at hc
    subst hc; exact hd

theorem parseCellInner_body {cs : List Char} (hne : cs ≠ []) (h : ∀ c, c ∈ cs → isWordChar c = true) :
    Check.parseCellInner (cellBody cs) = some (cs.map String.singleton) := by
  induction cs with
  | nil => exact absurd rfl hne
  | cons c cs ih =>
    have hc : Check.isWordChar c = true := h c (by simp)
    cases cs with
    | nil => simp [cellBody, Check.parseCellInner, hc]
    | cons d ds =>
      rw [cellBody_cons_cons, Check.parseCellInner, if_pos hc, ih (by simp) (fun x hx => h x (List.mem_cons_of_mem _ hx))]
      rfl

theorem cellBody_ne_nil {cs : List Char} (hne : cs ≠ []) : cellBody cs ≠ [] := by
  cases cs with
  | nil => exact absurd rfl hne
  | cons c cs =>
    cases cs with
    | nil => simp [cellBody]
    | cons d ds => rw [cellBody_cons_cons]; simp

theorem parseCell_printSet {S : List String} (h : SingleWordChars S) :
    Check.parseCell (printSet S) = some (sortStrings (dedup S)) := by
  obtain ⟨cs, hcs, hw⟩ := singleWordChars_chars (singleWordChars_sort_dedup h)
  rw [printSet_eq hcs, hcs]
  by_cases hne : cs = []
  · subst hne; rfl
  · have hb := cellBody_ne_nil hne
    have h1 : ¬ ('{' :: cellBody cs ++ ['}'] = ['{', '}']) := by
      cases hcb : cellBody cs with
      | nil => exact absurd hcb hb
      | cons x xs => cases xs <;> simp
    have h2 : Check.braced ('{' :: cellBody cs ++ ['}']) = true := by
      unfold Check.braced
      rw [List.getLast?_concat]
      simp
    have h3 : inner ('{' :: cellBody cs ++ ['}']) = cellBody cs := by
      simp [inner]
    rw [Check.parseCell, if_neg h1, if_pos h2, h3, parseCellInner_body hne hw]

theorem printSet_token {S : List String} (h : SingleWordChars S) : Token (printSet S) := by
  obtain ⟨cs, hcs, hw⟩ := singleWordChars_chars (singleWordChars_sort_dedup h)
  rw [printSet_eq hcs]
  refine ⟨by simp, ?_⟩
  intro c hc
  simp only [List.cons_append, List.mem_cons, List.mem_append, List.not_mem_nil, or_false] at hc
  rcases hc with rfl | hc | rfl
  · decide
  · rcases mem_cellBody hc with rfl | hc
    · decide
    · exact not_isSpace_of_isWordChar (hw c hc)
  · decide

theorem printSet_head (S : List String) : ∃ t, printSet S = '{' :: t := ⟨_, rfl⟩

/-- one printed line: the padded cells joined by two spaces -/
def line (W : Nat) (row : List (List String)) : List Char :=
  [' ', ' '].intercalate (row.map fun S => pad W (printSet S))

theorem splitWs_line (W : Nat) {row : List (List String)} (h : ∀ S, S ∈ row → SingleWordChars S) :
    Text.splitWs (line W row) = row.map printSet := by
  induction row with
  | nil => rfl
  | cons S row ih =>
    have hS := printSet_token (h S (by simp))
    cases row with
    | nil =>
      simp only [line, List.map_cons, List.map_nil, List.intercalate_singleton, pad]
      rw [splitWs_append_spaces _ (all_space_replicate _), splitWs_token hS]
    | cons S' row' =>
      have ih' := ih (fun T hT => h T (List.mem_cons_of_mem _ hT))
      unfold line at ih' ⊢
      rw [List.map_cons, intercalate_cons_of_ne_nil _ _ (by simp), pad,
        List.append_assoc, List.append_assoc, splitWs_token_append hS, ← List.append_assoc,
        splitWs_spaces_append, ih']
      · rfl
      · intro c hc
        rcases List.mem_append.mp hc with hc | hc
        · exact all_space_replicate _ c hc
        · simp only [List.mem_cons, List.not_mem_nil, or_false, or_self] at hc
          subst hc; decide
      · intro d hd
        cases hk : W - (printSet S).length with
        | zero => rw [hk] at hd; simp at hd; subst hd; decide
        | succ k => rw [hk] at hd; simp [List.replicate_succ] at hd; subst hd; decide

theorem mem_line {W : Nat} {row : List (List String)} {c : Char} (h : c ∈ line W row) :
    c = ' ' ∨ ∃ S, S ∈ row ∧ c ∈ printSet S := by
  rcases mem_intercalate h with h | ⟨x, hx, hc⟩
  · left; simpa using h
  · obtain ⟨S, hS, rfl⟩ := List.mem_map.mp hx
    rcases List.mem_append.mp hc with hc | hc
    · exact Or.inr ⟨S, hS, hc⟩
    · exact Or.inl (List.mem_replicate.mp hc).2

theorem newline_not_mem_line (W : Nat) {row : List (List String)} (h : ∀ S, S ∈ row → SingleWordChars S) :
    '\n' ∉ line W row := by
  intro hm
  rcases mem_line hm with hm | ⟨S, hS, hc⟩
  · revert hm; decide
  · exact (printSet_token (h S hS)).newline_not_mem hc

theorem line_head (W : Nat) {row : List (List String)} (hne : row ≠ []) : ∃ t, line W row = '{' :: t := by
  apply head_intercalate (by simpa using hne)
  intro x hx
  obtain ⟨S, _, rfl⟩ := List.mem_map.mp hx
  exact ⟨_, rfl⟩

section Tri
variable {α β : Type} {n : Nat} {f : Nat → Nat → α}

/-- the triangular table with `n` rows whose row `i` is `f i 0, …, f i (n-i-1)` -/
def tri (n : Nat) (f : Nat → Nat → α) : List (List α) :=
  (List.range n).map fun i => (List.range (n - i)).map (f i)

theorem length_tri : (tri n f).length = n := by simp [tri]

theorem map_tri (h : α → β) : (tri n f).map (List.map h) = tri n fun i j => h (f i j) := by
  simp [tri, List.map_map, Function.comp_def]

theorem mem_tri {row : List α} {c : α} (hr : row ∈ tri n f) (hc : c ∈ row) : ∃ i j, i + j < n ∧ c = f i j := by
  obtain ⟨i, hi, rfl⟩ := List.mem_map.mp hr
  obtain ⟨j, hj, rfl⟩ := List.mem_map.mp hc
  have := List.mem_range.mp hi
  have := List.mem_range.mp hj
  exact ⟨i, j, by omega, rfl⟩

theorem ne_nil_of_mem_tri {row : List α} (hr : row ∈ tri n f) : row ≠ [] := by
  obtain ⟨i, hi, rfl⟩ := List.mem_map.mp hr
  have := List.mem_range.mp hi
  simp
  omega

/-- the indices that `zipIdx` attaches, first to the rows and then to the cells of a row, are those of the table -/
theorem mem_zipIdx_tri {x : List α × Nat} {y : α × Nat} (hx : x ∈ (tri n f).zipIdx) (hy : y ∈ x.1.zipIdx) :
    x.2 + y.2 < n ∧ y.1 = f x.2 y.2 := by
  unfold tri at hx
  rw [zipIdx_map_range] at hx
  obtain ⟨i, hi, rfl⟩ := List.mem_map.mp hx
  rw [zipIdx_map_range] at hy
  obtain ⟨j, hj, rfl⟩ := List.mem_map.mp hy
  have := List.mem_range.mp hi
  have := List.mem_range.mp hj
  exact ⟨by simp; omega, rfl⟩

/-- read from the last row upwards, row `k` has `k + 1` cells -/
theorem length_of_mem_zipIdx_reverse_tri {x : List α × Nat} (hx : x ∈ (tri n f).reverse.zipIdx) :
    x.1.length = x.2 + 1 := by
  unfold tri at hx
  rw [reverse_map_range, zipIdx_map_range] at hx
  obtain ⟨k, hk, rfl⟩ := List.mem_map.mp hx
  have := List.mem_range.mp hk
  simp
  omega

end Tri

/-- every cell of the table that is printed holds declared single-character variables -/
def CellsOk (G : CFG) (Y : CFG.CykTable) (n : Nat) : Prop :=
  ∀ i d, i + d < n → SingleWordChars (CFG.cykGet Y d (d + i)) ∧ ∀ A, A ∈ CFG.cykGet Y d (d + i) → A ∈ G.V

/-- row `i` of the printed table (before the reversal) holds the cells `X[d, d+i]`, `d = 0 … n-i-1` -/
def keyCells (X : CFG.CykTable) (n : Nat) : List (List (List String)) := tri n fun i d => CFG.cykGet X d (d + i)

/-- the words of the lines of the printed table -/
def keyLines (Y : CFG.CykTable) (n : Nat) : List (List (List Char)) := ((keyCells Y n).map (List.map printSet)).reverse

theorem checkLines_keyLines {G : CFG} {Y : CFG.CykTable} {n : Nat} (h : CellsOk G Y n) :
    checkLines G Y n (keyLines Y n) = true := by
  have hcells : (keyLines Y n).map (fun ws => ws.map Check.parseCell) =
      (tri n fun i d => some (sortStrings (dedup (CFG.cykGet Y d (d + i))))).reverse := by
    unfold keyLines
    rw [List.map_reverse, List.map_map, ← map_tri fun S => some (sortStrings (dedup S))]
    refine congrArg _ (List.map_congr_left fun row hr => ?_)
    rw [Function.comp, List.map_map]
    refine List.map_congr_left fun S hS => ?_
    obtain ⟨i, d, hd, rfl⟩ := mem_tri hr hS
    exact parseCell_printSet (h i d hd).1
  unfold checkLines
  simp only [hcells, List.reverse_reverse]
  rw [if_neg]
  · simp only [List.all_eq_true]
    intro x hx y hy
    rw [(mem_zipIdx_tri hx hy).2, Nat.add_comm]
    simp [seq_iff]
  · simp only [Bool.not_eq_true, Bool.not_eq_false', Bool.and_eq_true, decide_eq_true_eq, List.all_eq_true, beq_iff_eq,
      List.mem_reverse]
    refine ⟨⟨?_, ?_⟩, ?_⟩
    · intro row hr c hc
      obtain ⟨i, d, hd, rfl⟩ := mem_tri hr hc
      simp only [ssubset_iff, mem_sortStrings, mem_dedup]
      exact (h i d hd).2
    · simp [keyLines, keyCells, length_tri]
    · intro x hx
      unfold keyLines keyCells at hx
      rw [map_tri] at hx
      exact length_of_mem_zipIdx_reverse_tri hx

def keyText (X : CFG.CykTable) (n : Nat) : List Char :=
  joinWith ['\n'] ((keyCells X n).map (line (cykWidth X))).reverse

theorem printCyk_eq {X : CFG.CykTable} (hX : X ≠ []) (n : Nat) :
    printCyk X n = .ok (String.ofList (keyText X n)) := by
  have : X.isEmpty = false := by cases X <;> simp_all
  have e : cykLine X n = line (cykWidth X) ∘ fun i => (List.range (n - i)).map fun d => CFG.cykGet X d (d + i) := by
    funext i
    unfold cykLine line
    rw [joinWith_eq_intercalate, Function.comp, List.map_map]
    rfl
  unfold printCyk keyText keyCells tri
  rw [this, List.map_map, e]
  rfl

/-- what the checker reads from the key: exactly the printed cells -/
theorem lines_keyText {G : CFG} {Y : CFG.CykTable} {n : Nat} (hn : 0 < n) (h : CellsOk G Y n) :
    (splitOn '\n' (strip (keyText Y n))).map Text.splitWs = keyLines Y n := by
  have hrow : ∀ row, row ∈ keyCells Y n → ∀ S, S ∈ row → SingleWordChars S := by
    intro row hr S hS
    obtain ⟨i, d, hd, rfl⟩ := mem_tri hr hS
    exact (h i d hd).1
  unfold keyText
  rw [lines_strip]
  · unfold keyLines
    rw [List.map_reverse, List.map_map]
    congr 1
    apply List.map_congr_left
    intro row hr
    exact splitWs_line _ (hrow row hr)
  · intro he
    have := congrArg List.length he
    simp only [List.length_reverse, List.length_map, keyCells, length_tri, List.length_nil] at this
    omega
  · intro l hl
    obtain ⟨row, hr, rfl⟩ := List.mem_map.mp (List.mem_reverse.mp hl)
    exact newline_not_mem_line _ (hrow row hr)
  · intro l hl
    obtain ⟨row, hr, rfl⟩ := List.mem_map.mp (List.mem_reverse.mp hl)
    exact line_head _ (ne_nil_of_mem_tri hr)

theorem cellsOk_of_simple {G : CFG} (hc : G.isChomsky = true) (h1 : G.SimpleVars) {w : List String}
    {X : CFG.CykTable} (hX : G.cykMatrix w = .ok X) : CellsOk G X w.length := by
  intro i d hd
  have hV : ∀ A, A ∈ CFG.cykGet X d (d + i) → A ∈ G.V :=
    fun A hA => (CFG.cykMatrix_sound hc hX (Nat.le_add_right d i) (Nat.add_comm i d ▸ hd) hA).1
  exact ⟨fun A hA => h1 A (hV A hA), hV⟩

theorem printCyk_keyText_and_check {G : CFG} {w : List String} (hw : w ≠ []) (hc : G.isChomsky = true)
    (h1 : G.SimpleVars) {X : CFG.CykTable} (hX : G.cykMatrix w = .ok X) :
    printCyk X w.length = .ok (String.ofList (keyText X w.length)) ∧
      Check.cykCheck G w (String.ofList (keyText X w.length)) = .ok true := by
  have hcells := cellsOk_of_simple hc h1 hX
  refine ⟨printCyk_eq (CFG.cykMatrix_ne_nil hw hX) _, ?_⟩
  rw [cykCheck_eq hX, String.toList_ofList, lines_keyText (List.length_pos_iff.mpr hw) hcells,
    checkLines_keyLines hcells]

end C13c
end Gamba
