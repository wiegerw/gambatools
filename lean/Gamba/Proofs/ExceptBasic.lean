/-
  Gamba.Proofs.ExceptBasic — inversion of `Except` programs: when a `do` block returns `.ok`, each step did.
  `simp only [f, Except.bind_eq_ok', Except.ite_error_eq_ok, …] at h` turns `f x = .ok y` into the chain of intermediate results.
  A `do` block unfolds to `>>=` (`bind_eq_ok'`); `bind_eq_ok` is the same for a goal already reduced to
  `Except.bind`.
  For lists: what a successful or failing `mapM` / `allM` says of the individual calls (`mapM_ok`, `mapM_error_iff`, …), an
  invariant along a successful `foldlM` (`foldlM_ok_inv`), and conversely a `mapM` / `filterM` / `foldlM` all of whose calls
  succeed is the pure traversal (`mapM_ok_map`, `filterM_ok`, `foldlM_ok`).  No imports.
-/
namespace Except
variable {ε α β : Type}

theorem bind_eq_ok {x : Except ε α} {f : α → Except ε β} {b : β} :
    x.bind f = .ok b ↔ ∃ a, x = .ok a ∧ f a = .ok b := by
  cases x with
  | error e => exact ⟨(nomatch ·), fun ⟨_, h, _⟩ => nomatch h⟩
  | ok a => exact ⟨fun h => ⟨a, rfl, h⟩, fun ⟨_, h, hf⟩ => by cases h; exact hf⟩

theorem bind_eq_ok' {x : Except ε α} {f : α → Except ε β} {b : β} :
    (x >>= f) = .ok b ↔ ∃ a, x = .ok a ∧ f a = .ok b := bind_eq_ok

theorem pure_eq_ok {a b : α} : (pure a : Except ε α) = .ok b ↔ a = b :=
  ⟨Except.ok.inj, congrArg _⟩

/-- `if c then raise … else rest` -/
theorem ite_error_eq_ok {c : Prop} [Decidable c] {e : ε} {x : Except ε α} {b : α} :
    (if c then .error e else x) = .ok b ↔ ¬c ∧ x = .ok b := by
  by_cases h : c
  · rw [if_pos h]; exact ⟨(nomatch ·), fun h' => absurd h h'.1⟩
  · rw [if_neg h]; exact ⟨fun h' => ⟨h, h'⟩, And.right⟩

/-- `if c then rest else raise …` -/
theorem ite_eq_ok_error {c : Prop} [Decidable c] {e : ε} {x : Except ε α} {b : α} :
    (if c then x else .error e) = .ok b ↔ c ∧ x = .ok b := by
  by_cases h : c
  · rw [if_pos h]; exact ⟨fun h' => ⟨h, h'⟩, And.right⟩
  · rw [if_neg h]; exact ⟨(nomatch ·), fun h' => absurd h'.1 h⟩

end Except

namespace Gamba
variable {ε α β : Type}

theorem mapM_ok_map {f : α → Except ε β} {g : α → β} (l : List α)
    (h : ∀ x, x ∈ l → f x = .ok (g x)) : l.mapM f = .ok (l.map g) := by
  induction l with
  | nil => rfl
  | cons x l ih =>
    rw [List.mapM_cons, h x (List.mem_cons_self ..), ih (fun y hy => h y (List.mem_cons_of_mem _ hy))]
    rfl

theorem filterAuxM_ok {f : α → Except ε Bool} {g : α → Bool} (l acc : List α)
    (h : ∀ x, x ∈ l → f x = .ok (g x)) :
    List.filterAuxM f l acc = .ok ((l.filter g).reverse ++ acc) := by
  induction l generalizing acc with
  | nil => rfl
  | cons x l ih =>
    have ih' := fun acc => ih acc (fun y hy => h y (List.mem_cons_of_mem _ hy))
    simp only [List.filterAuxM, h x (List.mem_cons_self ..)]
    show List.filterAuxM f l (cond (g x) (x :: acc) acc) = _
    rw [ih']
    cases hg : g x <;> simp [hg]

theorem filterM_ok {f : α → Except ε Bool} {g : α → Bool} (l : List α)
    (h : ∀ x, x ∈ l → f x = .ok (g x)) : l.filterM f = .ok (l.filter g) := by
  unfold List.filterM
  rw [filterAuxM_ok l [] h]
  show Except.ok ((l.filter g).reverse ++ []).reverse = _
  rw [List.append_nil, List.reverse_reverse]

theorem foldlM_ok {f : β → α → Except ε β} {g : β → α → β} (l : List α) (b : β)
    (h : ∀ b a, f b a = .ok (g b a)) : l.foldlM f b = .ok (l.foldl g b) := by
  induction l generalizing b with
  | nil => rfl
  | cons a l ih =>
    rw [List.foldlM_cons, h]
    exact ih _

theorem mapM_cons_eq_ok {f : α → Except ε β} {x : α} {l : List α} {bs : List β} :
    (x :: l).mapM f = .ok bs ↔ ∃ b bs', f x = .ok b ∧ l.mapM f = .ok bs' ∧ b :: bs' = bs := by
  simp only [List.mapM_cons, Except.bind_eq_ok', Except.pure_eq_ok, exists_and_left]

/-- position by position: the `i`-th result of a successful `mapM` is the result on the `i`-th argument, and every
    argument and every result has a position -/
theorem mapM_ok {f : α → Except ε β} {l : List α} {bs : List β} (h : l.mapM f = .ok bs) :
    (∀ p, p ∈ l.zip bs → f p.1 = .ok p.2) ∧ (∀ x, x ∈ l → ∃ b, (x, b) ∈ l.zip bs) ∧
      ∀ b, b ∈ bs → ∃ x, (x, b) ∈ l.zip bs := by
  induction l generalizing bs with
  | nil =>
    cases h
    exact ⟨fun _ hp => (nomatch hp), fun _ hx => (nomatch hx), fun _ hb => (nomatch hb)⟩
  | cons x l ih =>
    obtain ⟨b, bs', hx, hl, rfl⟩ := mapM_cons_eq_ok.mp h
    obtain ⟨i1, i2, i3⟩ := ih hl
    simp only [List.zip_cons_cons, List.mem_cons]
    refine ⟨?_, ?_, ?_⟩
    · rintro p (rfl | hp)
      · exact hx
      · exact i1 p hp
    · rintro y (rfl | hy)
      · exact ⟨b, Or.inl rfl⟩
      · exact (i2 y hy).imp fun _ => Or.inr
    · rintro c (rfl | hc)
      · exact ⟨x, Or.inl rfl⟩
      · exact (i3 c hc).imp fun _ => Or.inr

theorem mapM_ok_forall {f : α → Except ε β} {l : List α} {bs : List β} (h : l.mapM f = .ok bs) :
    (∀ x, x ∈ l → ∃ b, b ∈ bs ∧ f x = .ok b) ∧ (∀ b, b ∈ bs → ∃ x, x ∈ l ∧ f x = .ok b) := by
  obtain ⟨h1, h2, h3⟩ := mapM_ok h
  constructor
  · intro x hx
    obtain ⟨b, hb⟩ := h2 x hx
    exact ⟨b, (List.of_mem_zip hb).2, h1 _ hb⟩
  · intro b hb
    obtain ⟨x, hx⟩ := h3 b hb
    exact ⟨x, (List.of_mem_zip hx).1, h1 _ hx⟩

theorem mapM_ok_of_forall {f : α → Except ε β} {l : List α} (h : ∀ x, x ∈ l → ∃ b, f x = .ok b) :
    ∃ bs, l.mapM f = .ok bs := by
  induction l with
  | nil => exact ⟨[], by rw [List.mapM_nil]; rfl⟩
  | cons x l ih =>
    obtain ⟨b, hb⟩ := h x List.mem_cons_self
    obtain ⟨bs, hbs⟩ := ih (fun y hy => h y (List.mem_cons_of_mem _ hy))
    exact ⟨b :: bs, mapM_cons_eq_ok.mpr ⟨b, bs, hb, hbs, rfl⟩⟩

theorem mapM_error_iff {f : α → Except ε β} {l : List α} :
    (∃ e, l.mapM f = .error e) ↔ ∃ x, x ∈ l ∧ ∃ e, f x = .error e := by
  constructor
  · rintro ⟨e, he⟩
    refine Classical.byContradiction fun hn => ?_
    have : ∀ x, x ∈ l → ∃ b, f x = .ok b := by
      intro x hx
      cases hfx : f x with
      | ok b => exact ⟨b, rfl⟩
      | error e' => exact absurd ⟨x, hx, e', hfx⟩ hn
    obtain ⟨bs, hbs⟩ := mapM_ok_of_forall this
    rw [hbs] at he
    cases he
  · rintro ⟨x, hx, e, he⟩
    cases hl : l.mapM f with
    | error e' => exact ⟨e', rfl⟩
    | ok bs =>
      obtain ⟨b, _, hb⟩ := (mapM_ok_forall hl).1 x hx
      rw [hb] at he
      cases he

/-- tagging each result with its argument is zipping afterwards, so the facts above apply -/
theorem mapM_tag_eq (f : α → Except ε β) (l : List α) :
    l.mapM (fun w => (f w).map fun b => (w, b)) = (l.mapM f).map (l.zip ·) := by
  induction l with
  | nil => rfl
  | cons x l ih =>
    rw [List.mapM_cons, List.mapM_cons, ih]
    cases f x with
    | error e => rfl
    | ok b => cases l.mapM f <;> rfl

theorem mapM_tag_spec {f : α → Except ε β} {l : List α} {r : List (α × β)}
    (h : l.mapM (fun w => (f w).map fun b => (w, b)) = .ok r) :
    (∀ w, w ∈ l → ∃ b, (w, b) ∈ r) ∧ ∀ p, p ∈ r → p.1 ∈ l ∧ f p.1 = .ok p.2 := by
  rw [mapM_tag_eq] at h
  cases hm : l.mapM f with
  | error e => rw [hm] at h; cases h
  | ok bs =>
    rw [hm] at h
    cases h
    exact ⟨(mapM_ok hm).2.1, fun p hp => ⟨(List.of_mem_zip hp).1, (mapM_ok hm).1 p hp⟩⟩

theorem mapM_tag_error {f : α → Except ε β} {l : List α} {e : ε}
    (h : l.mapM (fun w => (f w).map fun b => (w, b)) = .error e) : ∃ w, w ∈ l ∧ ∃ e', f w = .error e' := by
  rw [mapM_tag_eq] at h
  cases hm : l.mapM f with
  | error e' => exact mapM_error_iff.mp ⟨e', hm⟩
  | ok bs => rw [hm] at h; cases h

theorem allM_ok_true {f : α → Except ε Bool} (l : List α) (h : l.allM f = .ok true) :
    ∀ x, x ∈ l → f x = .ok true := by
  induction l with
  | nil => intro x hx; cases hx
  | cons a l ih =>
    simp only [List.allM, bind, Except.bind] at h
    cases hfa : f a with
    | error e => rw [hfa] at h; cases h
    | ok b =>
      rw [hfa] at h
      cases b with
      | false => simp only [pure, Except.pure] at h; cases h
      | true =>
        simp only at h
        intro x hx
        rcases List.mem_cons.mp hx with rfl | hx
        · exact hfa
        · exact ih h x hx

theorem allM_eq_ok_true_of_forall {f : α → Except ε Bool} (l : List α) (h : ∀ x, x ∈ l → f x = .ok true) :
    l.allM f = .ok true := by
  induction l with
  | nil => rfl
  | cons x l ih =>
    rw [List.allM_cons, h x List.mem_cons_self]
    exact ih (fun y hy => h y (List.mem_cons_of_mem _ hy))

theorem foldlM_ok_inv {α β ε : Type} {f : β → α → Except ε β} (I : β → Prop)
    (hf : ∀ b a b', f b a = .ok b' → I b → I b') :
    ∀ (l : List α) {b b' : β}, l.foldlM f b = .ok b' → I b → I b'
  | [], b, b', h, hb => by cases h; exact hb
  | a :: l, b, b', h, hb => by
    rw [List.foldlM_cons, Except.bind_eq_ok'] at h
    obtain ⟨b1, h1, h2⟩ := h
    exact foldlM_ok_inv I hf l h2 (hf b a b1 h1 hb)

end Gamba
