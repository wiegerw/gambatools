/-
  Gamba.Proofs.C17m — layout independence (C17) for the PDA and TM builders: `parsePdaLines` / `parseTmLines`
  (the builders on a list of lines) and their congruence under `Raw.Equiv` (`pdaOfRaw_congr`, `tmOfRaw_congr`), which
  Props/C17m.lean combines with `parseLines_bind_layout`.
-/
import Gamba.Proofs.C17l
import Gamba.Proofs.C16c
namespace Gamba
namespace Parse
open Text

/-- `parsePda` on the list of lines of the text -/
def parsePdaLines (ls : List Word) (stateOk : Word → Bool := isWord) : Except Err SPDA :=
  (parseLines .pda stateOk ls).bind fun A0 => pdaOfRaw A0 stateOk

theorem parsePda_eq_lines (text : Word) (ok : Word → Bool) :
    parsePda text ok = parsePdaLines (splitOn '\n' text) ok := rfl

/-- `parseTm` on the list of lines of the text -/
def parseTmLines (ls : List Word) (stateOk : Word → Bool := isWord) : Except Err (TM String String) :=
  (parseLines .tm stateOk ls).bind fun A0 => tmOfRaw A0 stateOk

theorem parseTm_eq_lines (text : Word) (ok : Word → Bool) :
    parseTm text ok = parseTmLines (splitOn '\n' text) ok := rfl

theorem pdaOfRaw_congr {A0 B0 : Raw} {ok : Word → Bool} {P : SPDA} (h : Raw.Equiv A0 B0)
    (hP : pdaOfRaw A0 ok = .ok P) :
    ∃ P', pdaOfRaw B0 ok = .ok P' ∧ P'.Q.Perm P.Q ∧ (A0.states ≠ [] → P'.Q = P.Q) ∧ P'.q0 = P.q0 ∧ P'.F = P.F ∧
      P'.eps = P.eps ∧ P'.epsG = P.epsG ∧ (∀ a, a ∈ P'.Sigma ↔ a ∈ P.Sigma) ∧ (∀ g, g ∈ P'.Gamma ↔ g ∈ P.Gamma) ∧
      ∀ k x, x ∈ (P'.delta.lookup k).getD [] ↔ x ∈ (P.delta.lookup k).getD [] := by
  obtain ⟨A, eps, Sigma, Gamma, h1, h2, h3, h4, h5, h6⟩ := pdaOfRaw_eq_ok.mp hP
  obtain ⟨rfl, hv⟩ := PDA.checked_ok h6
  obtain ⟨_, vS, vG, _⟩ := (C10a.PDA_valid_iff _).mp hv
  obtain ⟨B, g1, gS, gS', gi, gf, gl, gt⟩ := commonChecks_congr [] h h1
  have g2 : parseSymbol B "epsilon" 'ε' "_" = .ok eps := (parseSymbol_congr (gl "epsilon") gt).trans h2
  have huI : ∀ a, a ∈ pdaUsedIn B eps ↔ a ∈ pdaUsedIn A eps := by
    intro a
    simp only [pdaUsedIn, mem_dedup]
    exact ((gt.map _).filter _).mem_iff
  have huS : ∀ a, a ∈ pdaUsedSt B eps ↔ a ∈ pdaUsedSt A eps := by
    intro a
    simp only [pdaUsedSt, mem_dedup]
    rw [List.mem_filter, List.mem_filter, mem_flatMap_of_perm gt]
  obtain ⟨Sigma', g3, hSig⟩ := getSymbolSet_congr (gl "input_symbols") huI h3
  obtain ⟨Gamma', g4, hGam⟩ := getSymbolSet_congr (gl "stack_symbols") huS h4
  refine ⟨_, pdaOfRaw_eq_ok.mpr ⟨_, _, _, _, g1, g2, g3, g4, wordsOk_congr hSig h5, PDA.checked_of_valid
      (pdaBuilt_valid g1 g3 g4 (mt (hSig _).mp vS) (mt (hGam _).mp vG))⟩,
    gS, gS', by simp only [initialOf, gi], gf, rfl, rfl, hSig, hGam, fun k x => ?_⟩
  show x ∈ ((pdaDelta B.transitions).lookup k).getD [] ↔ x ∈ ((pdaDelta A.transitions).lookup k).getD []
  rw [mem_pdaDelta_lookup, mem_pdaDelta_lookup]
  exact (gt.map _).mem_iff

theorem getState_congr {A0 B0 : Raw} (h : Raw.Equiv A0 B0) (key hint : String) :
    getState B0 key (tmFresh B0.states hint) = getState A0 key (tmFresh A0.states hint) := by
  unfold getState
  rw [← h.1, ← h.2.2.2.1 key]

theorem mem_tmSigma_congr {A B : Raw} {tape tape' : List String} (blank : String)
    (hl : B.items.lookup "input_symbols" = A.items.lookup "input_symbols") (ht : ∀ a, a ∈ tape' ↔ a ∈ tape) (a : String) :
    a ∈ tmSigma B tape' blank ↔ a ∈ tmSigma A tape blank := by
  unfold tmSigma
  rw [hl]
  cases A.items.lookup "input_symbols" with
  | none => simp only [List.mem_filter, ht a]
  | some d => exact Iff.rfl

theorem tmDelta_lookup_none (ts : List (String × Word × String)) (k : String × String) :
    (tmDelta ts).lookup k = none ↔ ∀ t, t ∈ ts → (t.1, ch t.2.1 0) ≠ k := by
  unfold tmDelta
  rw [Dict.lookup_foldl_set_none (fun t : String × Word × String => (t.1, ch t.2.1 0))
    (fun t => (t.2.2, ch t.2.1 1, tmDir t.2.1))]
  simp only [List.lookup_nil, true_and]

/-- the TM builder respects the equivalence of raw records: everything but `δ` is the same (states up to order,
    alphabets as sets); `δ` is defined on the same keys; and it is the same function when no two transition
    entries have the same (state, read symbol) -/
theorem tmOfRaw_congr {A0 B0 : Raw} {ok : Word → Bool} {T : TM String String} (h : Raw.Equiv A0 B0)
    (hT : tmOfRaw A0 ok = .ok T) :
    ∃ T', tmOfRaw B0 ok = .ok T' ∧ T'.Q.Perm T.Q ∧ (A0.states ≠ [] → T'.Q = T.Q) ∧ T'.q0 = T.q0 ∧
      T'.qAccept = T.qAccept ∧ T'.qReject = T.qReject ∧ T'.blank = T.blank ∧
      (∀ a, a ∈ T'.Sigma ↔ a ∈ T.Sigma) ∧ (∀ g, g ∈ T'.Gamma ↔ g ∈ T.Gamma) ∧
      (∀ k, T'.delta.lookup k = none ↔ T.delta.lookup k = none) ∧
      ((A0.transitions.map fun t => (t.1, ch t.2.1 0)).Nodup → ∀ k, T'.delta.lookup k = T.delta.lookup k) := by
  obtain ⟨qa, qr, A, blank, tape, h1, h2, h3, h4, h5, h6⟩ := tmOfRaw_eq_ok.mp hT
  obtain ⟨rfl, hv⟩ := TM.checked_ok h6
  have g1 : getState B0 "accept" (tmFresh B0.states "accept") = .ok qa := (getState_congr h _ _).trans h1
  have g2 : getState B0 "reject" (tmFresh B0.states "reject") = .ok qr := (getState_congr h _ _).trans h2
  obtain ⟨B, g3, gS, gS', gi, gf, gl, gt⟩ := commonChecks_congr [qa, qr] h h3
  have hAt : A.transitions = A0.transitions := by rw [(commonChecks_ok h3).1]
  have g4 : parseSymbol B "blank" '□' "_" = .ok blank := (parseSymbol_congr (gl "blank") gt).trans h4
  have hused : ∀ a, a ∈ tmUsedTape B ↔ a ∈ tmUsedTape A := by
    intro a
    simp only [tmUsedTape, mem_dedup]
    exact mem_flatMap_of_perm gt _ a
  obtain ⟨tape', g5, hTape⟩ := getSymbolSet_congr (gl "tape_symbols") hused h5
  have hSig : ∀ a, a ∈ tmSigma B tape' blank ↔ a ∈ tmSigma A tape blank :=
    mem_tmSigma_congr blank (gl "input_symbols") hTape
  have hGam : ∀ a, a ∈ sinsert tape' blank ↔ a ∈ sinsert tape blank := by
    intro a
    simp only [mem_sinsert, hTape a]
  have hq0 : initialOf B = initialOf A := by simp only [initialOf, gi]
  have hnone : ∀ k, (tmDelta B.transitions).lookup k = none ↔ (tmDelta A.transitions).lookup k = none := by
    intro k
    rw [tmDelta_lookup_none, tmDelta_lookup_none]
    constructor
    · intro H t ht; exact H t (gt.mem_iff.mpr ht)
    · intro H t ht; exact H t (gt.mem_iff.mp ht)
  obtain ⟨_, v2, v3, v4, v5, _, v7, _⟩ := (TM.valid_iff _).mp hv
  have hvalid := tmBuilt_valid g3 g5 (gS.mem_iff.mpr v2) (gS.mem_iff.mpr v3) v4 (mt (hSig _).mp v5)
    fun a ha => (hGam a).mpr (v7 a ((hSig a).mp ha))
  refine ⟨
    { Q := B.states, Sigma := tmSigma B tape' blank, Gamma := sinsert tape' blank, delta := tmDelta B.transitions,
      q0 := initialOf B, qAccept := qa, qReject := qr, blank := blank },
    tmOfRaw_eq_ok.mpr ⟨_, _, _, _, _, g1, g2, g3, g4, g5, TM.checked_of_valid hvalid⟩, gS, ?_, hq0, rfl, rfl, rfl, hSig, hGam,
    hnone, ?_⟩
  · exact gS'
  · intro hnd k
    rw [← hAt] at hnd
    have hndB : (B.transitions.map fun t => (t.1, ch t.2.1 0)).Nodup := (gt.map _).nodup_iff.mpr hnd
    show (tmDelta B.transitions).lookup k = (tmDelta A.transitions).lookup k
    rw [tmDelta_eq_of_nodup _ hnd, tmDelta_eq_of_nodup _ hndB]
    refine lookup_eq_of_perm (gt.map _) ?_ k
    rw [List.map_map]
    exact hndB

theorem parseLines_print_tm (T : TM String String) (hv : T.valid = true) (hQ : ∀ q, q ∈ T.Q → Parse.TmNameOk q)
    (hG : ∀ x, x ∈ T.Gamma → Parse.Char1 (Parse.isLabelSym true) x) :
    parseLines .tm isWord (splitOn '\n' (printTm T).toList) = .ok (tmRaw T) :=
  parseRaw_printTm T hv hQ hG

end Parse
end Gamba
