/-
  Gamba.Proofs.C05 — the denotational semantics `Regexp.Lang` and the regular-expression algorithms.
  General facts on `Lang` (inversion, induction over the iterations of a star, congruence, associativity, soundness of
  the nine rewrite rules), then `splits`, `simplify` (which rule fires; language, size, nodes), the matcher
  `matchesAux` and the bounded enumerator `starWords` / `wordsUpTo`.
-/
import Gamba.Spec.Regexp
namespace Gamba
namespace Regexp

section Lang
variable {τ : Type}

@[simp] theorem lang_zero {w : List τ} : Lang (zero : Regexp τ) w ↔ False := by
  constructor
  · intro h; cases h
  · exact False.elim

theorem lang_one {w : List τ} : Lang (one : Regexp τ) w ↔ w = [] := by
  constructor
  · intro h; cases h; rfl
  · rintro rfl; exact Lang.one

theorem lang_sym {a : τ} {w : List τ} : Lang (sym a) w ↔ w = [a] := by
  constructor
  · intro h; cases h; rfl
  · rintro rfl; exact Lang.sym a

theorem lang_sum {r s : Regexp τ} {w : List τ} : Lang (sum r s) w ↔ Lang r w ∨ Lang s w := by
  constructor
  · intro h
    cases h with
    | sumL h => exact Or.inl h
    | sumR h => exact Or.inr h
  · rintro (h | h)
    · exact Lang.sumL h
    · exact Lang.sumR h

theorem lang_cat {r s : Regexp τ} {w : List τ} :
    Lang (cat r s) w ↔ ∃ u v, w = u ++ v ∧ Lang r u ∧ Lang s v := by
  constructor
  · intro h
    cases h with
    | cat h1 h2 => exact ⟨_, _, rfl, h1, h2⟩
  · rintro ⟨u, v, rfl, h1, h2⟩
    exact Lang.cat h1 h2

theorem lang_star {r : Regexp τ} {w : List τ} :
    Lang (star r) w ↔ w = [] ∨ ∃ u v, w = u ++ v ∧ Lang r u ∧ Lang (star r) v := by
  constructor
  · intro h
    cases h with
    | starNil => exact Or.inl rfl
    | starApp h1 h2 => exact Or.inr ⟨_, _, rfl, h1, h2⟩
  · rintro (rfl | ⟨u, v, rfl, h1, h2⟩)
    · exact Lang.starNil
    · exact Lang.starApp h1 h2

theorem Lang.star_induction {r : Regexp τ} {P : List τ → Prop} (h0 : P [])
    (hstep : ∀ u v, Lang r u → Lang (star r) v → P v → P (u ++ v)) {w : List τ} (h : Lang (star r) w) :
    P w := by
  generalize he : star r = e at h
  induction h with
  | starNil => exact h0
  | starApp h1 h2 _ ih2 => cases he; exact hstep _ _ h1 h2 (ih2 rfl)
  | _ => cases he

/-- a word of a star is empty or starts with a NON-EMPTY iteration (empty iterations are dropped): the restriction of
    `matchesAux` and `starWords` to a non-empty first piece loses nothing -/
theorem lang_star_ne {r : Regexp τ} {w : List τ} :
    Lang (star r) w ↔ w = [] ∨ ∃ u v, u ≠ [] ∧ w = u ++ v ∧ Lang r u ∧ Lang (star r) v := by
  constructor
  · intro h
    apply Lang.star_induction _ _ h
    · exact Or.inl rfl
    · intro u v h1 h2 ih
      cases u with
      | nil => exact ih
      | cons a u => exact Or.inr ⟨a :: u, v, List.cons_ne_nil a u, rfl, h1, h2⟩
  · rintro (rfl | ⟨u, v, _, rfl, h1, h2⟩)
    · exact Lang.starNil
    · exact Lang.starApp h1 h2

theorem lang_star_nil {r : Regexp τ} : Lang (star r) [] := Lang.starNil

theorem lang_star_append {r : Regexp τ} {u v : List τ} (hu : Lang (star r) u) (hv : Lang (star r) v) :
    Lang (star r) (u ++ v) :=
  hu.star_induction (P := fun u => Lang (star r) (u ++ v)) hv fun u1 u2 h1 _ ih => by
    rw [List.append_assoc]; exact Lang.starApp h1 ih

theorem lang_star_mono {r r' : Regexp τ} (hrr : ∀ w, Lang r w → Lang r' w) {w : List τ}
    (h : Lang (star r) w) : Lang (star r') w :=
  h.star_induction Lang.starNil fun _ _ h1 _ ih => Lang.starApp (hrr _ h1) ih

theorem lang_of_star {r : Regexp τ} {w : List τ} (h : Lang r w) : Lang (star r) w :=
  List.append_nil w ▸ Lang.starApp h Lang.starNil

theorem lang_star_star {r : Regexp τ} {w : List τ} : Lang (star (star r)) w ↔ Lang (star r) w :=
  ⟨fun h => h.star_induction Lang.starNil fun _ _ h1 _ ih => lang_star_append h1 ih, lang_of_star⟩

theorem lang_star_flatten {r : Regexp τ} {w : List τ} :
    Lang (star r) w ↔ ∃ ws : List (List τ), w = ws.flatten ∧ ∀ u, u ∈ ws → Lang r u := by
  constructor
  · intro h
    apply Lang.star_induction _ _ h
    · exact ⟨[], rfl, fun _ hu => nomatch hu⟩
    · rintro u _ hu _ ⟨ws, rfl, hws⟩
      exact ⟨u :: ws, rfl, List.forall_mem_cons.mpr ⟨hu, hws⟩⟩
  · rintro ⟨ws, rfl, hws⟩
    induction ws with
    | nil => exact Lang.starNil
    | cons u ws ih =>
      rw [List.forall_mem_cons] at hws
      exact Lang.starApp hws.1 (ih hws.2)

theorem lang_star_congr {r r' : Regexp τ} (hrr : ∀ w, Lang r w ↔ Lang r' w) {w : List τ} :
    Lang (star r) w ↔ Lang (star r') w :=
  ⟨lang_star_mono fun w => (hrr w).1, lang_star_mono fun w => (hrr w).2⟩

theorem lang_sum_congr {r r' s s' : Regexp τ} (hr : ∀ w, Lang r w ↔ Lang r' w)
    (hs : ∀ w, Lang s w ↔ Lang s' w) {w : List τ} : Lang (sum r s) w ↔ Lang (sum r' s') w := by
  rw [lang_sum, lang_sum, hr, hs]

theorem lang_cat_congr {r r' s s' : Regexp τ} (hr : ∀ w, Lang r w ↔ Lang r' w)
    (hs : ∀ w, Lang s w ↔ Lang s' w) {w : List τ} : Lang (cat r s) w ↔ Lang (cat r' s') w := by
  simp only [lang_cat, hr, hs]

theorem lang_cat_assoc {r s t : Regexp τ} {w : List τ} :
    Lang (cat (cat r s) t) w ↔ Lang (cat r (cat s t)) w := by
  simp only [lang_cat]
  constructor
  · rintro ⟨u, v, rfl, ⟨u1, u2, rfl, h1, h2⟩, h3⟩
    exact ⟨u1, u2 ++ v, List.append_assoc .., h1, u2, v, rfl, h2, h3⟩
  · rintro ⟨u, v, rfl, h1, v1, v2, rfl, h2, h3⟩
    exact ⟨u ++ v1, v2, (List.append_assoc ..).symm, ⟨u, v1, rfl, h1, h2⟩, h3⟩

theorem lang_sum_assoc {r s t : Regexp τ} {w : List τ} :
    Lang (sum (sum r s) t) w ↔ Lang (sum r (sum s t)) w := by
  simp only [lang_sum, or_assoc]

theorem lang_star_zero {w : List τ} : Lang (star (zero : Regexp τ)) w ↔ w = [] := by
  rw [lang_star]
  constructor
  · rintro (h | ⟨u, v, _, h1, _⟩)
    · exact h
    · exact absurd h1 (by simp)
  · exact Or.inl

theorem lang_star_one {w : List τ} : Lang (star (one : Regexp τ)) w ↔ w = [] := by
  constructor
  · intro h
    rcases lang_star_ne.1 h with h | ⟨u, v, hne, _, h1, _⟩
    · exact h
    · exact absurd (lang_one.1 h1) hne
  · rintro rfl; exact Lang.starNil

theorem lang_sum_zero_left {s : Regexp τ} {w : List τ} : Lang (sum zero s) w ↔ Lang s w := by
  simp [lang_sum]

theorem lang_sum_zero_right {r : Regexp τ} {w : List τ} : Lang (sum r zero) w ↔ Lang r w := by
  simp [lang_sum]

theorem lang_cat_zero_left {s : Regexp τ} {w : List τ} : Lang (cat zero s) w ↔ False := by
  simp [lang_cat]

theorem lang_cat_zero_right {r : Regexp τ} {w : List τ} : Lang (cat r zero) w ↔ False := by
  simp [lang_cat]

theorem lang_cat_one_left {s : Regexp τ} {w : List τ} : Lang (cat one s) w ↔ Lang s w := by
  rw [lang_cat]
  constructor
  · rintro ⟨u, v, rfl, h1, h2⟩
    rw [lang_one.1 h1]; simpa using h2
  · intro h; exact ⟨[], w, by simp, Lang.one, h⟩

theorem lang_cat_one_right {r : Regexp τ} {w : List τ} : Lang (cat r one) w ↔ Lang r w := by
  rw [lang_cat]
  constructor
  · rintro ⟨u, v, rfl, h1, h2⟩
    rw [lang_one.1 h2]; simpa using h1
  · intro h; exact ⟨w, [], by simp, h, Lang.one⟩

end Lang

section Splits
variable {τ : Type}

theorem mem_splits {w : List τ} {p : List τ × List τ} : p ∈ splits w ↔ p.1 ++ p.2 = w := by
  induction w generalizing p with
  | nil =>
    obtain ⟨u, v⟩ := p
    simp [splits]
  | cons a w ih =>
    obtain ⟨u, v⟩ := p
    simp only [splits, List.mem_cons, List.mem_map, Prod.mk.injEq]
    constructor
    · rintro (⟨rfl, rfl⟩ | ⟨q, hq, rfl, rfl⟩)
      · rfl
      · simp [ih.1 hq]
    · intro h
      cases u with
      | nil => left; exact ⟨rfl, by simpa using h⟩
      | cons b u =>
        right
        simp only [List.cons_append, List.cons.injEq] at h
        obtain ⟨rfl, h⟩ := h
        exact ⟨(u, v), ih.2 h, rfl, rfl⟩

end Splits

section Simplify
variable {τ : Type}

theorem simplify_star_cases (r : Regexp τ) :
    (simplify r = zero ∧ simplify (star r) = one) ∨ (simplify r = one ∧ simplify (star r) = one) ∨
    (∃ r', simplify r = star r' ∧ simplify (star r) = simplify r) ∨
    simplify (star r) = star (simplify r) := by
  simp only [simplify]
  split
  · exact Or.inl ⟨‹_›, rfl⟩
  · exact Or.inr (Or.inl ⟨‹_›, rfl⟩)
  · exact Or.inr (Or.inr (Or.inl ⟨_, ‹_›, Eq.symm ‹_›⟩))
  · exact Or.inr (Or.inr (Or.inr rfl))

theorem simplify_sum_cases (r s : Regexp τ) :
    (simplify r = zero ∧ simplify (sum r s) = simplify s) ∨
    (simplify s = zero ∧ simplify (sum r s) = simplify r) ∨
    simplify (sum r s) = sum (simplify r) (simplify s) := by
  simp only [simplify]
  split
  · exact Or.inl ⟨‹_›, rfl⟩
  · exact Or.inr (Or.inl ⟨‹_›, rfl⟩)
  · exact Or.inr (Or.inr rfl)

theorem simplify_cat_cases (r s : Regexp τ) :
    (simplify r = zero ∧ simplify (cat r s) = zero) ∨ (simplify r = one ∧ simplify (cat r s) = simplify s) ∨
    (simplify s = zero ∧ simplify (cat r s) = zero) ∨ (simplify s = one ∧ simplify (cat r s) = simplify r) ∨
    simplify (cat r s) = cat (simplify r) (simplify s) := by
  simp only [simplify]
  split
  · exact Or.inl ⟨‹_›, rfl⟩
  · exact Or.inr (Or.inl ⟨‹_›, rfl⟩)
  · exact Or.inr (Or.inr (Or.inl ⟨‹_›, rfl⟩))
  · exact Or.inr (Or.inr (Or.inr (Or.inl ⟨‹_›, rfl⟩)))
  · exact Or.inr (Or.inr (Or.inr (Or.inr rfl)))

theorem simplify_lang (r : Regexp τ) : ∀ w, Lang r.simplify w ↔ Lang r w := by
  induction r with
  | zero | one | sym => exact fun _ => Iff.rfl
  | star r ih =>
    intro w
    rw [← lang_star_congr ih]
    rcases simplify_star_cases r with ⟨hx, h⟩ | ⟨hx, h⟩ | ⟨r', hx, h⟩ | h
    · rw [h, hx, lang_star_zero, lang_one]
    · rw [h, hx, lang_star_one, lang_one]
    · rw [h, hx, lang_star_star]
    · rw [h]
  | sum r s ihr ihs =>
    intro w
    rw [← lang_sum_congr ihr ihs]
    rcases simplify_sum_cases r s with ⟨hx, h⟩ | ⟨hy, h⟩ | h
    · rw [h, hx, lang_sum_zero_left]
    · rw [h, hy, lang_sum_zero_right]
    · rw [h]
  | cat r s ihr ihs =>
    intro w
    rw [← lang_cat_congr ihr ihs]
    rcases simplify_cat_cases r s with ⟨hx, h⟩ | ⟨hx, h⟩ | ⟨hy, h⟩ | ⟨hy, h⟩ | h
    · rw [h, hx, lang_cat_zero_left, lang_zero]
    · rw [h, hx, lang_cat_one_left]
    · rw [h, hy, lang_cat_zero_right, lang_zero]
    · rw [h, hy, lang_cat_one_right]
    · rw [h]

theorem simplify_size (r : Regexp τ) : r.simplify.size ≤ r.size := by
  induction r with
  | zero | one | sym => exact Nat.le_refl _
  | star r ih =>
    rcases simplify_star_cases r with ⟨-, h⟩ | ⟨-, h⟩ | ⟨-, -, h⟩ | h <;> rw [h] <;>
      simp only [size] <;> omega
  | sum r s ihr ihs =>
    rcases simplify_sum_cases r s with ⟨-, h⟩ | ⟨-, h⟩ | h <;> rw [h] <;> simp only [size] <;> omega
  | cat r s ihr ihs =>
    rcases simplify_cat_cases r s with ⟨-, h⟩ | ⟨-, h⟩ | ⟨-, h⟩ | ⟨-, h⟩ | h <;> rw [h] <;>
      simp only [size] <;> omega

theorem simplify_nodes (r : Regexp τ) : r.simplify.nodes ≤ r.nodes := by
  induction r with
  | zero | one | sym => exact Nat.le_refl _
  | star r ih =>
    rcases simplify_star_cases r with ⟨-, h⟩ | ⟨-, h⟩ | ⟨-, -, h⟩ | h <;> rw [h] <;>
      simp only [nodes] <;> omega
  | sum r s ihr ihs =>
    rcases simplify_sum_cases r s with ⟨-, h⟩ | ⟨-, h⟩ | h <;> rw [h] <;> simp only [nodes] <;> omega
  | cat r s ihr ihs =>
    rcases simplify_cat_cases r s with ⟨-, h⟩ | ⟨-, h⟩ | ⟨-, h⟩ | ⟨-, h⟩ | h <;> rw [h] <;>
      simp only [nodes] <;> omega

end Simplify

section Exec
variable {τ : Type} [DecidableEq τ]

theorem matchesAux_iff (r : Regexp τ) :
    ∀ (n : Nat) (w : List τ), w.length ≤ n → (matchesAux n r w = true ↔ Lang r w) := by
  induction r with
  | zero => intro n w _; simp [matchesAux]
  | one => intro n w _; simp [matchesAux, lang_one]
  | sym a => intro n w _; simp [matchesAux, lang_sym]
  | sum r s ihr ihs =>
    intro n w h
    simp only [matchesAux, Bool.or_eq_true, lang_sum, ihr n w h, ihs n w h]
  | cat r s ihr ihs =>
    intro n w h
    simp only [matchesAux, List.any_eq_true, Bool.and_eq_true, lang_cat, mem_splits]
    constructor
    · rintro ⟨p, hp, h1, h2⟩
      have hl : p.1.length + p.2.length = w.length := by rw [← hp]; simp
      exact ⟨p.1, p.2, hp.symm, (ihr n p.1 (by omega)).1 h1, (ihs n p.2 (by omega)).1 h2⟩
    · rintro ⟨u, v, rfl, h1, h2⟩
      simp only [List.length_append] at h
      exact ⟨(u, v), rfl, (ihr n u (by omega)).2 h1, (ihs n v (by omega)).2 h2⟩
  | star r ih =>
    intro n
    induction n with
    | zero =>
      intro w h
      have hw : w = [] := List.eq_nil_of_length_eq_zero (by omega)
      subst hw
      simp [matchesAux, Lang.starNil]
    | succ n ihn =>
      intro w h
      rw [matchesAux]
      simp only [Bool.or_eq_true, List.any_eq_true, Bool.and_eq_true, mem_splits,
        Bool.not_eq_true', List.isEmpty_eq_false_iff, List.isEmpty_iff]
      rw [lang_star_ne]
      constructor
      · rintro (h0 | ⟨p, hp, ⟨hne, h1⟩, h2⟩)
        · exact Or.inl h0
        · have hl : p.1.length + p.2.length = w.length := by rw [← hp]; simp
          have hpos : 0 < p.1.length := List.length_pos_iff.2 hne
          exact Or.inr ⟨p.1, p.2, hne, hp.symm, (ih (n + 1) p.1 (by omega)).1 h1,
            (ihn p.2 (by omega)).1 h2⟩
      · rintro (h0 | ⟨u, v, hne, rfl, h1, h2⟩)
        · exact Or.inl h0
        · simp only [List.length_append] at h
          have hpos : 0 < u.length := List.length_pos_iff.2 hne
          exact Or.inr ⟨(u, v), rfl, ⟨hne, (ih (n + 1) u (by omega)).2 h1⟩,
            (ihn v (by omega)).2 h2⟩

@[simp] theorem mem_concatLang {L1 L2 : List (List τ)} {w : List τ} :
    w ∈ concatLang L1 L2 ↔ ∃ x, x ∈ L1 ∧ ∃ y, y ∈ L2 ∧ x ++ y = w := by
  simp [concatLang]

theorem mem_starWords {r : Regexp τ} {f : Nat → List (List τ)}
    (hf : ∀ k w, w ∈ f k ↔ w.length ≤ k ∧ Lang r w) :
    ∀ (n : Nat) (w : List τ), w ∈ starWords f n ↔ w.length ≤ n ∧ Lang (star r) w := by
  intro n
  induction n using Nat.strongRecOn with
  | _ n ih =>
    intro w
    cases n with
    | zero =>
      rw [starWords]
      simp only [List.mem_singleton, Nat.le_zero_eq, List.length_eq_zero_iff]
      constructor
      · rintro rfl; exact ⟨rfl, Lang.starNil⟩
      · exact fun h => h.1
    | succ n =>
      rw [starWords]
      simp only [mem_sunion, List.mem_singleton, mem_sunions, List.mem_map, List.mem_range]
      constructor
      · rintro (rfl | ⟨l, ⟨j, hj, rfl⟩, hw⟩)
        · exact ⟨by simp, Lang.starNil⟩
        · obtain ⟨x, hx, y, hy, rfl⟩ := mem_concatLang.1 hw
          obtain ⟨hxl, hxr⟩ := (hf _ _).1 hx
          obtain ⟨hyl, hyr⟩ := (ih (n - j) (by omega) y).1 hy
          refine ⟨?_, Lang.starApp hxr hyr⟩
          simp only [List.length_append]; omega
      · rintro ⟨hl, hw⟩
        rcases lang_star_ne.1 hw with h0 | ⟨u, v, hne, rfl, h1, h2⟩
        · exact Or.inl h0
        · right
          simp only [List.length_append] at hl
          have hpos : 0 < u.length := List.length_pos_iff.2 hne
          refine ⟨_, ⟨u.length - 1, by omega, rfl⟩, ?_⟩
          refine mem_concatLang.2 ⟨u, (hf _ _).2 ⟨by omega, h1⟩, v, ?_, rfl⟩
          exact (ih (n - (u.length - 1)) (by omega) v).2 ⟨by omega, h2⟩

theorem mem_wordsUpTo (r : Regexp τ) :
    ∀ (n : Nat) (w : List τ), w ∈ wordsUpTo r n ↔ w.length ≤ n ∧ Lang r w := by
  induction r with
  | zero => intro n w; simp [wordsUpTo]
  | one =>
    intro n w
    simp only [wordsUpTo, List.mem_singleton, lang_one]
    constructor
    · rintro rfl; exact ⟨by simp, rfl⟩
    · exact fun h => h.2
  | sym a =>
    intro n w
    simp only [wordsUpTo, lang_sym]
    split
    · rename_i h
      simp only [List.mem_singleton]
      constructor
      · rintro rfl; exact ⟨by simp only [List.length_singleton]; omega, rfl⟩
      · exact fun h => h.2
    · rename_i h
      simp only [List.not_mem_nil, false_iff, not_and]
      rintro hl rfl
      simp at hl; omega
  | sum r s ihr ihs =>
    intro n w
    simp only [wordsUpTo, mem_sunion, ihr, ihs, lang_sum, and_or_left]
  | cat r s ihr ihs =>
    intro n w
    simp only [wordsUpTo, mem_sunions, List.mem_map, List.mem_range, lang_cat]
    constructor
    · rintro ⟨l, ⟨k, hk, rfl⟩, hw⟩
      obtain ⟨x, hx, y, hy, rfl⟩ := mem_concatLang.1 hw
      obtain ⟨hxl, hxr⟩ := (ihr _ _).1 hx
      obtain ⟨hyl, hyr⟩ := (ihs _ _).1 hy
      refine ⟨?_, x, y, rfl, hxr, hyr⟩
      simp only [List.length_append]; omega
    · rintro ⟨hl, u, v, rfl, h1, h2⟩
      simp only [List.length_append] at hl
      refine ⟨_, ⟨u.length, by omega, rfl⟩, ?_⟩
      exact mem_concatLang.2 ⟨u, (ihr _ _).2 ⟨Nat.le_refl _, h1⟩, v, (ihs _ _).2 ⟨by omega, h2⟩, rfl⟩
  | star r ih =>
    intro n w
    simp only [wordsUpTo]
    exact mem_starWords ih n w

end Exec
end Regexp
end Gamba
