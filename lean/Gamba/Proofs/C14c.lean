/- Gamba.Proofs.C14c — helper lemmas for the finite-language helpers and `compareLanguages`. -/
import Gamba.Model.Lang
namespace Gamba
variable {τ : Type} [DecidableEq τ]

omit [DecidableEq τ] in
theorem mem_properPrefixes (w u : List τ) :
    u ∈ properPrefixes w ↔ ∃ v, v ≠ [] ∧ w = u ++ v := by
  simp only [properPrefixes, List.mem_map, List.mem_range]
  constructor
  · rintro ⟨i, hi, rfl⟩
    refine ⟨w.drop i, ?_, (List.take_append_drop i w).symm⟩
    intro h
    have := congrArg List.length h
    simp only [List.length_drop, List.length_nil] at this
    omega
  · rintro ⟨v, hv, rfl⟩
    refine ⟨u.length, ?_, ?_⟩
    · have : 0 < v.length := List.length_pos_iff.mpr hv
      simp only [List.length_append]; omega
    · simp

omit [DecidableEq τ] in
theorem firstShortest_eq_none (l : List (List τ)) : firstShortest l = none ↔ l = [] := by
  cases l with
  | nil => simp [firstShortest]
  | cons w l =>
    simp only [firstShortest]
    split
    · simp
    · split <;> simp

omit [DecidableEq τ] in
theorem firstShortest_some {l : List (List τ)} {w : List τ} (h : firstShortest l = some w) :
    w ∈ l ∧ ∀ v, v ∈ l → w.length ≤ v.length := by
  induction l generalizing w with
  | nil => simp [firstShortest] at h
  | cons x l ih =>
    simp only [firstShortest] at h
    split at h
    · rename_i hn
      have hl : l = [] := (firstShortest_eq_none l).mp hn
      cases h
      subst hl
      simp
    · rename_i v hv
      obtain ⟨hvm, hvmin⟩ := ih hv
      split at h
      · rename_i hlt
        cases h
        refine ⟨List.mem_cons_of_mem _ hvm, ?_⟩
        intro u hu
        rcases List.mem_cons.mp hu with rfl | hu
        · omega
        · exact hvmin u hu
      · rename_i hlt
        cases h
        refine ⟨List.mem_cons_self, ?_⟩
        intro u hu
        rcases List.mem_cons.mp hu with rfl | hu
        · exact Nat.le_refl _
        · have := hvmin u hu; omega

theorem sdiff_dedup_eq_nil (A B : List (List τ)) : sdiff (dedup A) B = [] ↔ ∀ w, w ∈ A → w ∈ B := by
  simp only [List.eq_nil_iff_forall_not_mem, mem_sdiff, mem_dedup, not_and, Classical.not_not]

theorem firstShortest_sdiff_some {A B : List (List τ)} {w : List τ}
    (h : firstShortest (sdiff (dedup A) B) = some w) :
    w ∈ A ∧ w ∉ B ∧ ∀ v, v ∈ A → v ∉ B → w.length ≤ v.length := by
  obtain ⟨hm, hmin⟩ := firstShortest_some h
  simp only [mem_sdiff, mem_dedup] at hm hmin
  exact ⟨hm.1, hm.2, fun v h1 h2 => hmin v ⟨h1, h2⟩⟩

/-- what `compare_languages` returns, case by case; the three cases exclude each other, so the sets also determine
    which case it is -/
theorem compareLanguages_spec (A1 A2 : List (List τ)) :
    match compareLanguages A1 A2 with
    | none => ∀ w, w ∈ A1 ↔ w ∈ A2
    | some (w, true) => w ∈ A1 ∧ w ∉ A2 ∧ ∀ v, v ∈ A1 → v ∉ A2 → w.length ≤ v.length
    | some (w, false) =>
      w ∈ A2 ∧ w ∉ A1 ∧ (∀ v, v ∈ A2 → v ∉ A1 → w.length ≤ v.length) ∧ ∀ v, v ∈ A1 → v ∈ A2 := by
  unfold compareLanguages
  cases h1 : firstShortest (sdiff (dedup A1) A2) with
  | some u => exact firstShortest_sdiff_some h1
  | none =>
    have s1 := (sdiff_dedup_eq_nil A1 A2).mp ((firstShortest_eq_none _).mp h1)
    cases h2 : firstShortest (sdiff (dedup A2) A1) with
    | some u => exact (firstShortest_sdiff_some h2).elim fun a b => ⟨a, b.1, b.2, s1⟩
    | none => exact fun w => ⟨s1 w, (sdiff_dedup_eq_nil A2 A1).mp ((firstShortest_eq_none _).mp h2) w⟩

end Gamba
