/-
  Gamba.Proofs.C15b — `cfg_derive_word` on a CNF grammar: the parse tree built from the CYK table is
  a correct parse tree of the word, and the work-list extraction of a leftmost / rightmost
  derivation from a correct parse tree yields a genuine leftmost / rightmost derivation.
-/
import Gamba.Spec.Trace
import Gamba.Proofs.C07
namespace Gamba
namespace CFG

def PTree.yield : PTree → List String
  | .leaf a => [a]
  | .node _ cs => yieldList cs
where yieldList : List PTree → List String
  | [] => []
  | t :: ts => t.yield ++ yieldList ts

/-- every inner node has children, and `label → labels of the children` is a rule of `G` -/
inductive PTree.Proper (G : CFG) : PTree → Prop
  | leaf (a : String) : PTree.Proper G (.leaf a)
  | node (A : String) (cs : List PTree) : cs ≠ [] → G.HasRule A (cs.map PTree.label) →
      (∀ c, c ∈ cs → PTree.Proper G c) → PTree.Proper G (.node A cs)

theorem yieldList_append (l₁ l₂ : List PTree) :
    PTree.yield.yieldList (l₁ ++ l₂) = PTree.yield.yieldList l₁ ++ PTree.yield.yieldList l₂ := by
  induction l₁ with
  | nil => simp [PTree.yield.yieldList]
  | cons t ts ih => simp [PTree.yield.yieldList, ih]

theorem sizeList_append (l₁ l₂ : List PTree) :
    PTree.size.sizeList (l₁ ++ l₂) = PTree.size.sizeList l₁ + PTree.size.sizeList l₂ := by
  induction l₁ with
  | nil => simp [PTree.size.sizeList]
  | cons t ts ih => simp [PTree.size.sizeList, ih]; omega

theorem PTree.size_pos (t : PTree) : 1 ≤ t.size := by
  cases t with
  | leaf a => simp [PTree.size]
  | node A cs => simp [PTree.size]

theorem extractLoop_nil (lm : Bool) (fuel : Nat) (el : List Sym) (res : List (List Sym)) :
    extractLoop lm fuel [] el res = res := by
  cases fuel <;> rfl

theorem extractLoop_succ (lm : Bool) (fuel : Nat) (todo : List PTree) (hne : todo ≠ [])
    (el : List Sym) (res : List (List Sym)) :
    extractLoop lm (fuel + 1) todo el res =
      (let (t, rest) := if lm then (todo.head!, todo.tail) else (todo.getLast!, todo.dropLast)
      match t with
      | .leaf _ => extractLoop lm fuel rest el res
      | .node _ [] => extractLoop lm fuel rest el res
      | .node A children =>
        let value := children.map PTree.label
        let pos := if lm then el.idxOf (.v A) else lastIdxOf el (.v A)
        let element' := replaceAt el pos value
        let todo' := if lm then children ++ rest else rest ++ children
        extractLoop lm fuel todo' element' (res ++ [element'])) := by
  cases todo with
  | nil => exact absurd rfl hne
  | cons t ts => rfl

theorem idxOf_var_terminals (u : List String) (A : String) (post : List Sym) :
    (u.map Sym.t ++ Sym.v A :: post).idxOf (Sym.v A) = u.length := by
  rw [List.idxOf_append]
  have : Sym.v A ∉ u.map Sym.t := by simp
  rw [if_neg this, List.idxOf_cons_self]
  simp

theorem lastIdxOf_var_terminals (u : List String) (A : String) (pre : List Sym) :
    lastIdxOf (pre ++ Sym.v A :: u.map Sym.t) (Sym.v A) = pre.length := by
  unfold lastIdxOf
  have hr : (pre ++ Sym.v A :: u.map Sym.t).reverse
      = (u.reverse.map Sym.t) ++ Sym.v A :: pre.reverse := by simp
  rw [hr, idxOf_var_terminals]
  simp

theorem replaceAt_mid (pre post value : List Sym) (x : Sym) (n : Nat) (hn : n = pre.length) :
    replaceAt (pre ++ x :: post) n value = pre ++ value ++ post := by
  subst hn
  unfold replaceAt
  simp

theorem terminals_isVar (u : List String) : ∀ x, x ∈ u.map Sym.t → x.isVar = false := by
  intro x hx
  obtain ⟨a, _, rfl⟩ := List.mem_map.mp hx
  rfl

theorem getLast!_concat (l : List PTree) (t : PTree) : (l ++ [t]).getLast! = t := by
  rw [List.getLast!_eq_getLast?_getD, List.getLast?_concat]; rfl

/-! ### both directions at once

Leftmost extraction works at the front of the work list and of the sentential form, rightmost extraction at
their back; `onSide lm xs ys` puts `xs` on the side where the work is done. -/

def onSide {α : Type} (lm : Bool) (xs ys : List α) : List α := if lm then xs ++ ys else ys ++ xs

theorem exists_onSide {α : Type} (lm : Bool) (l : List α) : l = [] ∨ ∃ t rest, l = onSide lm [t] rest := by
  cases lm
  · rcases List.eq_nil_or_concat l with rfl | ⟨rest, t, rfl⟩
    · exact Or.inl rfl
    · exact Or.inr ⟨t, rest, List.concat_eq_append⟩
  · cases l with
    | nil => exact Or.inl rfl
    | cons t rest => exact Or.inr ⟨t, rest, rfl⟩

theorem mem_onSide {α : Type} {lm : Bool} {xs ys : List α} {x : α} : x ∈ onSide lm xs ys ↔ x ∈ xs ∨ x ∈ ys := by
  cases lm <;> simp [onSide, or_comm]

theorem map_onSide {α β : Type} (f : α → β) (lm : Bool) (xs ys : List α) :
    (onSide lm xs ys).map f = onSide lm (xs.map f) (ys.map f) := by
  cases lm <;> simp [onSide]

theorem sizeList_onSide (lm : Bool) (xs ys : List PTree) :
    PTree.size.sizeList (onSide lm xs ys) = PTree.size.sizeList xs + PTree.size.sizeList ys := by
  cases lm
  · exact (sizeList_append ys xs).trans (Nat.add_comm ..)
  · exact sizeList_append xs ys

theorem yieldList_onSide (lm : Bool) (xs ys : List PTree) :
    PTree.yield.yieldList (onSide lm xs ys) = onSide lm (PTree.yield.yieldList xs) (PTree.yield.yieldList ys) := by
  cases lm <;> exact yieldList_append ..

theorem extractLoop_leaf (lm : Bool) (fuel : Nat) (a : String) (rest : List PTree) (el : List Sym)
    (res : List (List Sym)) :
    extractLoop lm (fuel + 1) (onSide lm [.leaf a] rest) el res = extractLoop lm fuel rest el res := by
  cases lm
  · rw [show onSide false [PTree.leaf a] rest = rest ++ [.leaf a] from rfl, extractLoop_succ _ _ _ (by simp)]
    simp only [Bool.false_eq_true, if_false, getLast!_concat, List.dropLast_concat]
  · rfl

/-- the loop finds the variable next to the finished terminals `u` and rewrites it there … -/
theorem extractLoop_node (lm : Bool) (fuel : Nat) (A : String) (c : PTree) (cs rest : List PTree) (u : List String)
    (post : List Sym) (res : List (List Sym)) :
    extractLoop lm (fuel + 1) (onSide lm [.node A (c :: cs)] rest) (onSide lm (u.map Sym.t) (onSide lm [.v A] post)) res =
      extractLoop lm fuel (onSide lm (c :: cs) rest) (onSide lm (u.map Sym.t) (onSide lm ((c :: cs).map PTree.label) post))
        (res ++ [onSide lm (u.map Sym.t) (onSide lm ((c :: cs).map PTree.label) post)]) := by
  cases lm
  · have hrep := replaceAt_mid post (u.map Sym.t) ((c :: cs).map PTree.label) (.v A) _ (lastIdxOf_var_terminals u A post)
    rw [show onSide false [PTree.node A (c :: cs)] rest = rest ++ [.node A (c :: cs)] from rfl,
      extractLoop_succ _ _ _ (by simp)]
    simp only [Bool.false_eq_true, if_false, getLast!_concat, List.dropLast_concat, onSide, List.append_assoc,
      List.singleton_append, hrep]
  · have hrep := replaceAt_mid (u.map Sym.t) post ((c :: cs).map PTree.label) (.v A) _
      ((idxOf_var_terminals u A post).trans (List.length_map _).symm)
    rw [List.append_assoc] at hrep
    simp only [extractLoop, onSide, if_true, List.head!, List.tail, List.cons_append, List.nil_append, hrep]

/-- … and is a leftmost / rightmost step -/
theorem step_onSide {G : CFG} (lm : Bool) (u : List String) {A : String} {value : List Sym}
    (hr : G.HasRule A value) (post : List Sym) :
    (if lm then G.LStep else G.RStep) (onSide lm (u.map Sym.t) (onSide lm [.v A] post))
      (onSide lm (u.map Sym.t) (onSide lm value post)) := by
  cases lm
  · simpa [onSide] using RStep.mk (G := G) (pre := post) (post := u.map Sym.t) hr (terminals_isVar u)
  · simpa [onSide] using LStep.mk (G := G) (pre := u.map Sym.t) (post := post) hr (terminals_isVar u)

/-- run on the work list `todo` with the finished terminals `u`, the loop appends to `res` a leftmost / rightmost
    derivation from the current form (`u`, then the labels of the work list) to the word -/
def ExtractOK (G : CFG) (lm : Bool) (fuel : Nat) (todo : List PTree) (u : List String) (res : List (List Sym)) : Prop :=
  ∃ steps, extractLoop lm fuel todo (onSide lm (u.map Sym.t) (todo.map PTree.label)) res = res ++ steps ∧
    ChainOf (if lm then G.LStep else G.RStep) (onSide lm (u.map Sym.t) (todo.map PTree.label) :: steps) ∧
    (onSide lm (u.map Sym.t) (todo.map PTree.label) :: steps).getLast? =
      some ((onSide lm u (PTree.yield.yieldList todo)).map Sym.t)

theorem extract_spec (G : CFG) (lm : Bool) : ∀ (fuel : Nat) (todo : List PTree) (u : List String)
    (res : List (List Sym)), PTree.size.sizeList todo ≤ fuel → (∀ t, t ∈ todo → PTree.Proper G t) →
    ExtractOK G lm fuel todo u res := by
  have hnil : ∀ (fuel : Nat) (u : List String) (res : List (List Sym)), ExtractOK G lm fuel [] u res :=
    fun fuel u res => ⟨[], by rw [extractLoop_nil, List.append_nil], .single _,
      by cases lm <;> simp [onSide, PTree.yield.yieldList]⟩
  intro fuel
  induction fuel with
  | zero =>
    intro todo u res hsz hp
    rcases exists_onSide lm todo with rfl | ⟨t, rest, rfl⟩
    · exact hnil 0 u res
    · rw [sizeList_onSide] at hsz
      have := t.size_pos
      simp only [PTree.size.sizeList] at hsz
      omega
  | succ fuel ih =>
    intro todo u res hsz hp
    rcases exists_onSide lm todo with rfl | ⟨t, rest, rfl⟩
    · exact hnil _ u res
    · rw [sizeList_onSide] at hsz
      have hprest : ∀ t, t ∈ rest → PTree.Proper G t := fun t ht => hp t (mem_onSide.mpr (Or.inr ht))
      unfold ExtractOK
      cases t with
      | leaf a =>
        have he : onSide lm (u.map Sym.t) ((onSide lm [PTree.leaf a] rest).map PTree.label)
            = onSide lm ((onSide (!lm) [a] u).map Sym.t) (rest.map PTree.label) := by
          cases lm <;> simp [onSide, PTree.label]
        obtain ⟨steps, h1, h2, h3⟩ := ih rest (onSide (!lm) [a] u) res
          (by simp only [PTree.size.sizeList, PTree.size] at hsz; omega) hprest
        rw [he, extractLoop_leaf]
        refine ⟨steps, h1, h2, ?_⟩
        rw [h3, yieldList_onSide]
        cases lm <;> simp [onSide, PTree.yield.yieldList, PTree.yield]
      | node A cs =>
        cases hp (.node A cs) (mem_onSide.mpr (Or.inl (List.mem_singleton.mpr rfl))) with
        | node _ _ hne hrule hcs =>
        cases cs with
        | nil => exact absurd rfl hne
        | cons c cs =>
          obtain ⟨steps, h1, h2, h3⟩ := ih (onSide lm (c :: cs) rest) u
            (res ++ [onSide lm (u.map Sym.t) ((onSide lm (c :: cs) rest).map PTree.label)])
            (by rw [sizeList_onSide]; simp only [PTree.size.sizeList, PTree.size] at hsz ⊢; omega)
            (fun t ht => (mem_onSide.mp ht).elim (hcs t) (hprest t))
          rw [map_onSide] at h1 h2 h3
          rw [map_onSide, show [PTree.node A (c :: cs)].map PTree.label = [Sym.v A] from rfl, extractLoop_node]
          refine ⟨_ :: steps, by rw [h1, List.append_assoc]; rfl, .cons (step_onSide lm u hrule _) h2, ?_⟩
          rw [List.getLast?_cons_cons, h3, yieldList_onSide, yieldList_onSide]
          simp [PTree.yield.yieldList, PTree.yield]

theorem cell_split {G : CFG} (hc : G.isChomsky = true) (hdecl : G.RhsDeclared) {w : List String}
    {X : CykTable} (hX : G.cykMatrix w = .ok X) {i j : Nat} (hij : i < j) (hj : j < w.length)
    {A : String} (hA : A ∈ cykGet X i j) :
    ∃ k B C, i ≤ k ∧ k < j ∧ B ∈ cykGet X i k ∧ C ∈ cykGet X (k + 1) j ∧
      G.HasRule A [.v B, .v C] := by
  obtain ⟨k, B, C, hik, hkj, hr, hu, hv'⟩ :=
    cnf_gen_subw_split hc hij hj (cykMatrix_sound hc hX (Nat.le_of_lt hij) hj hA).2
  exact ⟨k, B, C, hik, hkj,
    cykMatrix_complete hc hdecl hX hik (by omega) (hdecl.of_hasRule hr (by simp)) hu,
    cykMatrix_complete hc hdecl hX (by omega) hj (hdecl.of_hasRule hr (by simp)) hv', hr⟩

theorem findRule_some {G : CFG} (hc : G.isChomsky = true) {A B C : String} {X1 X2 : List String}
    (h : findRule G A X1 X2 = some (B, C)) :
    G.HasRule A [.v B, .v C] ∧ B ∈ X1 ∧ C ∈ X2 := by
  unfold findRule at h
  obtain ⟨rhs, hmem, hf⟩ := List.exists_of_findSome?_eq_some h
  have hr := mem_prods_iff.mp hmem
  rcases cnf_rule hc hr with ⟨h1, _⟩ | ⟨a, h1⟩ | ⟨B', C', h1, _, _⟩
  · subst h1; simp at hf
  · subst h1; simp at hf
  · subst h1
    change (if B' ∈ X1 ∧ C' ∈ X2 then some (B', C') else none) = some (B, C) at hf
    by_cases hcond : B' ∈ X1 ∧ C' ∈ X2
    · rw [if_pos hcond] at hf
      injection hf with hf
      injection hf with hB hC
      subst hB; subst hC
      exact ⟨hr, hcond.1, hcond.2⟩
    · rw [if_neg hcond] at hf
      cases hf

theorem findRule_ne_none {G : CFG} {A B C : String} {X1 X2 : List String}
    (hr : G.HasRule A [.v B, .v C]) (hB : B ∈ X1) (hC : C ∈ X2) :
    findRule G A X1 X2 ≠ none := by
  intro h
  unfold findRule at h
  have := List.findSome?_eq_none_iff.mp h _ (mem_prods_iff.mpr hr)
  simp [Sym.name, hB, hC] at this

/-- the search of `buildTree` for a split point and a rule -/
def findSplit (G : CFG) (X : CykTable) (A : String) (p q : Nat) : Option (Nat × String × String) :=
  (List.range (q - p - 1)).findSome? fun d =>
    (findRule G A (cykGet X p (p + 1 + d - 1)) (cykGet X (p + 1 + d) (q - 1))).map fun bc => (p + 1 + d, bc)

theorem buildTree_succ (G : CFG) (X : CykTable) (w : List String) (fuel : Nat) (A : String) (p q : Nat) :
    buildTree G X w (fuel + 1) A p q =
      if q - p = 1 then .node A [.leaf (w.getD p "")] else
        match findSplit G X A p q with
        | none => .node A []
        | some (m, (B, C)) => .node A [buildTree G X w fuel B p m, buildTree G X w fuel C m q] := rfl

theorem findSplit_some {G : CFG} (hc : G.isChomsky = true) {X : CykTable} {A B C : String} {p q m : Nat}
    (h : findSplit G X A p q = some (m, B, C)) :
    p < m ∧ m < q ∧ G.HasRule A [.v B, .v C] ∧ B ∈ cykGet X p (m - 1) ∧ C ∈ cykGet X m (q - 1) := by
  obtain ⟨d, hd, hfd⟩ := List.exists_of_findSome?_eq_some h
  obtain ⟨bc, hfr, hbc⟩ := Option.map_eq_some_iff.mp hfd
  injection hbc with hm hbc
  subst hbc hm
  have hd' := List.mem_range.mp hd
  obtain ⟨hr, hB, hC⟩ := findRule_some hc hfr
  exact ⟨by omega, by omega, hr, hB, hC⟩

theorem findSplit_ne_none {G : CFG} {X : CykTable} {A B C : String} {p q k : Nat} (hpk : p ≤ k) (hkq : k < q - 1)
    (hr : G.HasRule A [.v B, .v C]) (hB : B ∈ cykGet X p k) (hC : C ∈ cykGet X (k + 1) (q - 1)) :
    findSplit G X A p q ≠ none := by
  intro h
  have := List.findSome?_eq_none_iff.mp h (k - p) (List.mem_range.mpr (by omega))
  rw [Option.map_eq_none_iff, show p + 1 + (k - p) - 1 = k by omega, show p + 1 + (k - p) = k + 1 by omega] at this
  exact findRule_ne_none hr hB hC this

/-- the tree below `(A, p, q)` is a correct parse tree of `w[p..q)` whenever `A ∈ X[p, q-1]` -/
theorem buildTree_good {G : CFG} (hc : G.isChomsky = true) (hdecl : G.RhsDeclared) {w : List String}
    {X : CykTable} (hX : G.cykMatrix w = .ok X) :
    ∀ (fuel : Nat) (A : String) (p q : Nat), p < q → q ≤ w.length → q - p ≤ fuel →
      A ∈ cykGet X p (q - 1) →
      PTree.Proper G (buildTree G X w fuel A p q) ∧ (buildTree G X w fuel A p q).label = .v A ∧
        (buildTree G X w fuel A p q).yield = subw w p (q - 1) := by
  intro fuel
  induction fuel with
  | zero => intro A p q hpq _ hf; omega
  | succ fuel ih =>
    intro A p q hpq hq hf hA
    rw [buildTree_succ]
    by_cases h1 : q - p = 1
    · rw [if_pos h1]
      have hq1 : q - 1 = p := by omega
      have hp : p < w.length := by omega
      rw [hq1] at hA ⊢
      have hg := (cykMatrix_sound hc hX (Nat.le_refl p) hp hA).2
      change G.Gen [.v A] (subw w p p) at hg
      rw [subw_diag hp] at hg ⊢
      have hget : w.getD p "" = w[p] := by
        rw [List.getD_eq_getElem?_getD, List.getElem?_eq_getElem hp]; rfl
      rw [hget]
      refine ⟨.node _ _ (by simp) ((cnf_gen_v_single_iff hc).mp hg) fun c hcmem => ?_, rfl, ?_⟩
      · rw [List.mem_singleton.mp hcmem]
        exact .leaf _
      · simp [PTree.yield, PTree.yield.yieldList]
    · rw [if_neg h1]
      cases hfs : findSplit G X A p q with
      | none =>
        obtain ⟨k, B, C, hik, hkj, hB, hC, hr⟩ := cell_split hc hdecl hX (i := p) (j := q - 1)
          (by omega) (by omega) hA
        exact absurd hfs (findSplit_ne_none hik hkj hr hB hC)
      | some val =>
        obtain ⟨m, B, C⟩ := val
        obtain ⟨hpm, hmq, hr, hB, hC⟩ := findSplit_some hc hfs
        obtain ⟨gB1, gB2, gB3⟩ := ih B p m hpm (by omega) (by omega) hB
        obtain ⟨gC1, gC2, gC3⟩ := ih C m q hmq hq (by omega) hC
        refine ⟨.node _ _ (by simp) ?_ ?_, rfl, ?_⟩
        · simp only [List.map_cons, List.map_nil, gB2, gC2]
          exact hr
        · intro c hcmem
          simp only [List.mem_cons, List.not_mem_nil, or_false] at hcmem
          rcases hcmem with rfl | rfl
          · exact gB1
          · exact gC1
        · simp only [PTree.yield, PTree.yield.yieldList, List.append_nil, gB3, gC3]
          have := subw_split (w := w) (i := p) (k := m - 1) (j := q - 1) (by omega) (by omega)
          rw [show m - 1 + 1 = m by omega] at this
          exact this.symm

theorem deriveWord_eq {G : CFG} {w : List String} {X : CykTable} (hX : G.cykMatrix w = .ok X)
    (lm : Bool) :
    G.deriveWord w lm =
      if decide (G.S ∈ cykGet X 0 (w.length - 1)) = false then .error .runtimeError else
        .ok (extractLoop lm ((buildTree G X w (w.length + 1) G.S 0 w.length).size + 1)
          [buildTree G X w (w.length + 1) G.S 0 w.length] [.v G.S] [[.v G.S]]) := by
  unfold deriveWord
  rw [hX]
  rfl

/-- `cfg_derive_valid` (Props/C15b) for every CNF grammar whose right-hand-side variables are declared -/
theorem deriveWord_valid {G : CFG} (hc : G.isChomsky = true) (hdecl : G.RhsDeclared) (hS : G.S ∈ G.V)
    {w : List String} (hw : w ≠ []) (hL : G.Lang w) (lm : Bool) :
    ∃ d, G.deriveWord w lm = .ok d ∧ G.ValidDerivation lm w d := by
  have hX : G.cykMatrix w = .ok _ := cykMatrix_eq hc w
  have hpos := List.length_pos_iff.mpr hw
  have hmem := (start_mem_cell_iff hc hdecl hS hw hX).mpr hL
  rw [deriveWord_eq hX, if_neg (by simpa using hmem)]
  obtain ⟨g1, g2, g3⟩ := buildTree_good hc hdecl hX (w.length + 1) G.S 0 w.length hpos
    (Nat.le_refl _) (by omega) hmem
  rw [subw_full] at g3
  generalize buildTree G _ w (w.length + 1) G.S 0 w.length = root at g1 g2 g3 ⊢
  obtain ⟨steps, h1, h2, h3⟩ := extract_spec G lm (root.size + 1) [root] [] [[.v G.S]]
    (by simp [PTree.size.sizeList]) (fun t ht => by rw [List.mem_singleton.mp ht]; exact g1)
  have hf : onSide lm (([] : List String).map Sym.t) ([root].map PTree.label) = [Sym.v G.S] := by
    cases lm <;> simp [onSide, g2]
  have hy : onSide lm [] (PTree.yield.yieldList [root]) = w := by
    cases lm <;> simp [onSide, PTree.yield.yieldList, g3]
  rw [hf] at h1 h2 h3
  rw [hy] at h3
  exact ⟨_, rfl, by rw [h1]; exact ⟨rfl, h2, h3⟩⟩

end CFG
end Gamba
