/-
  Gamba.Proofs.DecEq — decidable equality for `Except` and for the record types of the model that do not derive it, so that a
  test vector whose value is an automaton, a grammar or a parser result is checked by `decide +kernel`
  (evaluation in the kernel only) instead of `rfl` (evaluation in the elaborator, then again in the kernel).
-/
import Gamba.Model.PDA
import Gamba.Model.TM
import Gamba.Model.GNFA
import Gamba.Model.Parse

deriving instance DecidableEq for Except

namespace Gamba

deriving instance DecidableEq for DFA, NFA, PDA, TM, CFG, GNFA, Parse.Raw

end Gamba
