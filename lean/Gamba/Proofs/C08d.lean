/-
  Gamba.Proofs.C08d — the composition of the five CNF phases (`toChomsky`, `applyChomsky`, `accepts` on arbitrary
  grammars): the small facts the phase theorems do not export (`Sigma` is never changed), the equations of the phase
  selector, and the conversion as ONE invariant indexed by the phase: `After G start k H` says what holds of `H`, the
  grammar after the first `k` phases; each phase is one step `After … k → After … (k+1)`, and everything that is said
  about `G.applyChomsky phase start` (language, structure, variables, terminals) is read off `after_applyChomsky`.
-/
import Gamba.Props.C08a
import Gamba.Props.C08b
import Gamba.Props.C08c
namespace Gamba
namespace CFG
namespace C08d

/-! ### `Sigma` is not touched by phases 4 and 5 (phases 1–3: `rfl`) -/

theorem binariseStep_Sigma (G : CFG) (i : Nat) : (binariseStep G i).Sigma = G.Sigma := by
  rcases C08c.binariseStep_cases G i with ⟨he, _⟩ | ⟨_, _, _, _, _, _, _, he⟩
  · rw [he]
  · rw [he]; rfl

theorem foldl_binariseStep_Sigma (l : List Nat) (G : CFG) : (l.foldl binariseStep G).Sigma = G.Sigma := by
  induction l generalizing G with
  | nil => rfl
  | cons i l ih => rw [List.foldl_cons, ih, binariseStep_Sigma]

theorem binarise_Sigma (G : CFG) : G.binarise.Sigma = G.Sigma :=
  foldl_binariseStep_Sigma _ G

theorem isolateTerminals_Sigma (G : CFG) : G.isolateTerminals.Sigma = G.Sigma := by
  unfold isolateTerminals
  generalize isolateLoop ⟨G.V, []⟩ [] G.R = res
  obtain ⟨acc, R'⟩ := res
  rfl

theorem noUnit_of_cnf {H : CFG} (h : AllCnfShaped H) : NoUnit H := by
  intro r hr
  rcases altIsChomsky_iff.mp (h r hr) with e | ⟨a, e⟩ | ⟨B, C, e⟩ <;> simp [isUnit, e]

theorem rhsLe2_of_cnf {H : CFG} (h : AllCnfShaped H) : RhsLe2 H := by
  intro r hr
  rcases altIsChomsky_iff.mp (h r hr) with e | ⟨a, e⟩ | ⟨B, C, e⟩ <;> simp [e]

theorem accepts_of_not_chomsky (G : CFG) (w : List String) (hc : G.isChomsky = false)
    (hc' : G.toChomsky.isChomsky = true) : G.accepts w = G.toChomsky.accepts w := by
  unfold accepts
  simp only [hc, hc', if_true, Bool.false_eq_true, if_false]

theorem applyChomsky_0 (G : CFG) (start : String) : G.applyChomsky 0 start = G := by
  simp [applyChomsky]

theorem applyChomsky_1 (G : CFG) (start : String) : G.applyChomsky 1 start = G.addStart start := by
  simp [applyChomsky]

theorem applyChomsky_2 (G : CFG) (start : String) :
    G.applyChomsky 2 start = (G.addStart start).removeEps := by
  simp [applyChomsky]

theorem applyChomsky_3 (G : CFG) (start : String) :
    G.applyChomsky 3 start = (G.addStart start).removeEps.elimUnit := by
  simp [applyChomsky]

theorem applyChomsky_4 (G : CFG) (start : String) :
    G.applyChomsky 4 start = (G.addStart start).removeEps.elimUnit.binarise := by
  simp [applyChomsky]

theorem applyChomsky_ge5 (G : CFG) (phase : Nat) (start : String) (h : 5 ≤ phase) :
    G.applyChomsky phase start = (G.addStart start).removeEps.elimUnit.binarise.isolateTerminals := by
  have h1 : phase ≥ 1 := by omega
  have h2 : phase ≥ 2 := by omega
  have h3 : phase ≥ 3 := by omega
  have h4 : phase ≥ 4 := by omega
  have h5 : phase ≥ 5 := h
  simp only [applyChomsky, h1, h2, h3, h4, h5, if_true]

theorem toChomsky_eq_applyChomsky (G : CFG) : G.toChomsky = G.applyChomsky 5 "S" :=
  (applyChomsky_ge5 G 5 "S" (Nat.le_refl 5)).symm

end C08d

/-- the terminals are neither variables nor the new start variable: what the unit-rule phase needs (it tests `rhs[0] in V`
    on strings) -/
def Apart (G : CFG) (start : String) : Prop := ∀ a, a ∈ G.Sigma → a ∉ G.V ∧ a ≠ freshVariable G.V start

/-- `H` is what the first `k` phases of the conversion make of `G` (start hint `start`).  A clause `i ≤ k → …` is what
    phase `i` establishes and the later phases keep; `alias` is lost in phase 5 and `V13` in phase 4, where it is no longer
    needed (a grammar in CNF is enumerated as it is).  Only `lang` and `noEps` depend on `Apart`, and only from phase 3 on;
    phase 2 renumbers the alternatives, so from there on `alias` does not depend on `AliasOK G`. -/
structure After (G : CFG) (start : String) (k : Nat) (H : CFG) : Prop where
  valid : H.valid = true
  S_mem : H.S ∈ H.V
  lang : (3 ≤ k → Apart G start) → ∀ w, H.Lang w ↔ G.Lang w
  Sigma : H.Sigma = G.Sigma
  V : ∀ A, A ∈ G.V → A ∈ H.V
  alias : (k ≤ 1 → AliasOK G) → k ≤ 4 → AliasOK H
  V13 : 1 ≤ k → k ≤ 3 → H.V = G.V ++ [freshVariable G.V start]
  S : 1 ≤ k → H.S = freshVariable G.V start
  startRhs : 1 ≤ k → StartNotOnRhs H
  noEps : (3 ≤ k → Apart G start) → 2 ≤ k → NoEpsExceptStart H
  noUnit : 3 ≤ k → NoUnit H
  le2 : 4 ≤ k → RhsLe2 H
  cnf : 5 ≤ k → AllCnfShaped H

namespace After
variable {G H : CFG} {start : String}

/-- a clause whose phase has not come yet (or is over) holds vacuously -/
theorem vac {i k : Nat} {P : Prop} (h : k < i := by decide) : i ≤ k → P :=
  fun h' => absurd h' (Nat.not_le.mpr h)

theorem zero (hv : G.valid = true) (hS : G.S ∈ G.V) : After G start 0 G where
  valid := hv
  S_mem := hS
  lang _ _ := Iff.rfl
  Sigma := rfl
  V _ h := h
  alias ha _ := ha (by decide)
  V13 := vac
  S := vac
  startRhs := vac
  noEps _ := vac
  noUnit := vac
  le2 := vac
  cnf := vac

theorem addStart (h : After G start 0 G) : After G start 1 (G.addStart start) :=
  have ⟨v1, _, s1, _, sr1, a1, l1⟩ := addStart_spec G start h.valid h.S_mem
  { valid := v1
    S_mem := s1
    lang := fun _ => l1
    Sigma := rfl
    V := fun _ hA => List.mem_append_left _ hA
    alias := fun ha _ => a1 (h.alias (fun _ => ha (by decide)) (by decide))
    V13 := fun _ _ => rfl
    S := fun _ => rfl
    startRhs := fun _ => sr1
    noEps := fun _ => vac
    noUnit := vac
    le2 := vac
    cnf := vac }

theorem removeEps (h : After G start 1 H) : After G start 2 H.removeEps :=
  have ⟨v2, _, _, ne2, a2, sr2, l2⟩ := removeEps_spec H h.valid
  { valid := v2
    S_mem := h.S_mem
    lang := fun _ w => (l2 w).trans (h.lang vac w)
    Sigma := h.Sigma
    V := h.V
    alias := fun _ _ => a2
    V13 := fun _ _ => h.V13 (by decide) (by decide)
    S := fun _ => h.S (by decide)
    startRhs := fun _ => sr2 (h.startRhs (by decide))
    noEps := fun _ _ => ne2
    noUnit := vac
    le2 := vac
    cnf := vac }

/-- `Apart` makes the grammar after phase 2 `Disjoint` -/
theorem disjoint (h : After G start 2 H) (hd : Apart G start) : Disjoint H := by
  intro x hx hxs
  rw [h.V13 (by decide) (by decide), List.mem_append, List.mem_singleton] at hx
  rw [h.Sigma] at hxs
  exact hx.elim (hd x hxs).1 (hd x hxs).2

theorem elimUnit (h : After G start 2 H) : After G start 3 H.elimUnit where
  valid := elimUnit_valid h.valid
  S_mem := h.S_mem
  lang hd w := (elimUnit_gen H h.valid (h.disjoint (hd (by decide))) _ w).trans (h.lang vac w)
  Sigma := h.Sigma
  V := h.V
  alias _ _ := elimUnit_aliasOK (h.alias vac (by decide))
  V13 _ _ := h.V13 (by decide) (by decide)
  S _ := h.S (by decide)
  startRhs _ := elimUnit_startNotOnRhs (h.startRhs (by decide))
  noEps hd _ := elimUnit_noEps h.valid (h.disjoint (hd (by decide))) (h.noEps vac (by decide)) (h.startRhs (by decide))
  noUnit _ := elimUnit_noUnit H
  le2 := vac
  cnf := vac

theorem binarise (h : After G start 3 H) : After G start 4 H.binarise :=
  have ⟨v4, S4, V4, le4, a4, nu4, ne4, sr4, l4⟩ := binarise_spec freshVariable_not_mem H h.valid (h.alias vac (by decide))
  { valid := v4
    S_mem := S4 ▸ V4 _ h.S_mem
    lang := fun hd w => (l4 h.S_mem w).trans (h.lang (fun _ => hd (by decide)) w)
    Sigma := (C08d.binarise_Sigma H).trans h.Sigma
    V := fun A hA => V4 A (h.V A hA)
    alias := fun _ _ => a4
    V13 := fun _ => vac
    S := fun _ => S4.trans (h.S (by decide))
    startRhs := fun _ => sr4 h.S_mem (h.startRhs (by decide))
    noEps := fun hd _ => ne4 (h.noEps (fun _ => hd (by decide)) (by decide))
    noUnit := fun _ => nu4 (h.noUnit (by decide))
    le2 := fun _ => le4
    cnf := vac }

theorem isolateTerminals (h : After G start 4 H) : After G start 5 H.isolateTerminals :=
  have ⟨v5, S5, V5, cnf5, ne5, sr5, l5⟩ := isolateTerminals_spec freshVariable_not_mem H h.valid (h.alias vac (by decide))
  have c5 := cnf5 (h.le2 (by decide)) (h.noUnit (by decide))
  { valid := v5
    S_mem := S5 ▸ V5 _ h.S_mem
    lang := fun hd w => (l5 h.S_mem w).trans (h.lang (fun _ => hd (by decide)) w)
    Sigma := (C08d.isolateTerminals_Sigma H).trans h.Sigma
    V := fun A hA => V5 A (h.V A hA)
    alias := fun _ => vac
    V13 := fun _ => vac
    S := fun _ => S5.trans (h.S (by decide))
    startRhs := fun _ => sr5 h.S_mem (h.startRhs (by decide))
    noEps := fun hd _ => ne5 (h.noEps (fun _ => hd (by decide)) (by decide))
    noUnit := fun _ => C08d.noUnit_of_cnf c5
    le2 := fun _ => C08d.rhsLe2_of_cnf c5
    cnf := fun _ => c5 }

theorem isChomsky (h : After G start 5 H) (hd : Apart G start) : H.isChomsky = true :=
  (isChomsky_iff H).mpr ⟨h.cnf (by decide), h.startRhs (by decide), h.noEps (fun _ => hd) (by decide)⟩

end After

/-- the answer key of phase `phase` is the grammar after `min phase 5` phases -/
theorem after_applyChomsky (G : CFG) (phase : Nat) (start : String) (hv : G.valid = true) (hS : G.S ∈ G.V) :
    After G start (min phase 5) (G.applyChomsky phase start) := by
  have h0 : After G start 0 G := .zero hv hS
  rcases phase with _ | _ | _ | _ | _ | n
  · exact h0
  · exact h0.addStart
  · exact h0.addStart.removeEps
  · exact h0.addStart.removeEps.elimUnit
  · exact h0.addStart.removeEps.elimUnit.binarise
  · rw [C08d.applyChomsky_ge5 G (n + 5) start (by omega), show min (n + 5) 5 = 5 by omega]
    exact h0.addStart.removeEps.elimUnit.binarise.isolateTerminals

end CFG
end Gamba
