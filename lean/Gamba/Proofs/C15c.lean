/-
  Gamba.Proofs.C15c — helper lemmas for property C15 (PDA part): whatever `PDA.simulate` (`pda_simulate_word`)
  returns is a genuine accepting computation; `none` is returned exactly when `PDA.accepts` says no; and the
  simulation never fails when the reachable configurations form a finite universe smaller than the search fuel.
-/
import Gamba.Proofs.TraceGlue
import Gamba.Proofs.C09
namespace Gamba

section
variable {σ τ γ : Type} [DecidableEq σ] [DecidableEq τ] [DecidableEq γ]

theorem PDA.run_of_chain (P : PDA σ τ γ) : ∀ (l : List (σ × List τ × List γ)) (x : σ × List τ × List γ)
    (f : σ) (st : List γ), ChainOf P.TraceStep (x :: l) → (x :: l).getLast? = some (f, [], st) →
    P.Run (x.1, x.2.2) x.2.1 (f, st) := by
  intro l
  induction l with
  | nil =>
    intro x f st _ hl
    simp only [List.getLast?_singleton, Option.some.injEq] at hl
    subst hl
    exact PDA.Run.nil _
  | cons y l ih =>
    intro x f st hc hl
    rw [List.getLast?_cons_cons] at hl
    have hr := ih y f st hc.tail hl
    rcases hc.rel with ⟨he, hm⟩ | ⟨a, he, ha, hm⟩
    · rw [he]
      exact PDA.Run.eps hm hr
    · rw [he]
      exact PDA.Run.sym ha hm hr

theorem PDA.ValidTrace.accepts {P : PDA σ τ γ} {w : List τ} {tr : List (σ × List τ × List γ)}
    (h : P.ValidTrace w tr) : P.Accepts w := by
  obtain ⟨hh, hc, f, st, hl, hf⟩ := h
  cases tr with
  | nil => cases hh
  | cons x l =>
    simp only [List.head?_cons, Option.some.injEq] at hh
    subst hh
    exact ⟨f, st, hf, P.run_of_chain l _ f st hc hl⟩

/-- the row of a configuration with unread input `word` -/
def PDA.row (word : List τ) (r : PConf σ γ) : σ × List τ × List γ := (r.1, word, r.2)

theorem PDA.row_step (P : PDA σ τ γ) (hk : (P.delta.map (·.1)).Nodup) (word : List τ) (x y : PConf σ γ)
    (h : y ∈ P.moves P.eps x) : P.TraceStep (PDA.row word x) (PDA.row word y) :=
  Or.inl ⟨rfl, PDA.Move_of_mem_moves hk h⟩

theorem PDA.rebuild_nil_eq_ok {P : PDA σ τ γ} {fuel : Nat} {s : Sched} {S : List (PConf σ γ)}
    {H : List (List (PConf σ γ))} {front : PConf σ γ} {word : List τ} {result tr : List (σ × List τ × List γ)} :
    P.rebuild fuel s [] (S :: H) front word result = .ok tr ↔
      ∃ path, P.findEpsPath fuel s S front = .ok (some path) ∧ tr = path.dropLast.map (PDA.row word) ++ result := by
  simp only [PDA.rebuild, Except.bind_eq_ok']
  constructor
  · rintro ⟨o, hp, h⟩
    cases o with
    | none => cases h
    | some path => cases h; exact ⟨path, hp, rfl⟩
  · rintro ⟨path, hp, rfl⟩
    exact ⟨some path, hp, rfl⟩

theorem PDA.rebuild_cons_eq_ok {P : PDA σ τ γ} {fuel : Nat} {s : Sched} {a : τ} {rev : List τ}
    {S1 S2 : List (PConf σ γ)} {H : List (List (PConf σ γ))} {front : PConf σ γ} {word : List τ}
    {result tr : List (σ × List τ × List γ)} :
    P.rebuild fuel s (a :: rev) (S1 :: S2 :: H) front word result = .ok tr ↔
      ∃ path front2, P.findEpsPath fuel s S1 front = .ok (some path) ∧
        P.findTransition S2 a (path.headD front) = some front2 ∧
        P.rebuild fuel s rev H front2 (a :: word)
          (PDA.row (a :: word) front2 :: (path.dropLast.map (PDA.row word) ++ result)) = .ok tr := by
  simp only [PDA.rebuild, Except.bind_eq_ok']
  constructor
  · rintro ⟨o, hp, h⟩
    cases o with
    | none => cases h
    | some path =>
      simp only at h
      split at h
      · cases h
      · rename_i front2 ht
        exact ⟨path, front2, hp, ht, h⟩
  · rintro ⟨path, front2, hp, ht, h⟩
    refine ⟨some path, hp, ?_⟩
    simp only [ht]
    exact h

/-- invariant of `result` in `rebuild`: a valid trace but for its start, which is `front` with `word` unread -/
abbrev PDA.ResInv (P : PDA σ τ γ) (front : PConf σ γ) (word : List τ) (result : List (σ × List τ × List γ)) : Prop :=
  TraceFrom P.TraceStep (fun o => ∃ f st, o = some (f, [], st) ∧ f ∈ P.F) (PDA.row word front) result

/-- shape of the history below the top closed set: the raw set after the last transition, the closed set
    before it, …, down to the initial set -/
inductive PDA.HistOK (P : PDA σ τ γ) (limit : Nat) (s : Sched) : List τ → List (List (PConf σ γ)) → Prop
  | nil : PDA.HistOK P limit s [] [[(P.q0, [])]]
  | cons {a : τ} {rev : List τ} {S : List (PConf σ γ)} {H : List (List (PConf σ γ))} :
      PDA.HistOK P limit s rev (S :: H) →
      PDA.HistOK P limit s (a :: rev)
        (P.doTransition a (P.epsClosure limit s S).1 :: (P.epsClosure limit s S).1 :: S :: H)

theorem PDA.history_ok (P : PDA σ τ γ) (limit : Nat) (s : Sched) :
    ∀ (w rev0 : List τ) (S0 : List (PConf σ γ)) (H0 : List (List (PConf σ γ))),
      P.HistOK limit s rev0 (S0 :: H0) →
      ∃ Sn Hn, P.history limit s w (P.epsClosure limit s S0).1 ((P.epsClosure limit s S0).1 :: S0 :: H0) =
          (P.epsClosure limit s Sn).1 :: Sn :: Hn ∧ P.HistOK limit s (w.reverse ++ rev0) (Sn :: Hn) := by
  intro w
  induction w with
  | nil => intro rev0 S0 H0 h; exact ⟨S0, H0, rfl, h⟩
  | cons a w ih =>
    intro rev0 S0 H0 h
    obtain ⟨Sn, Hn, h1, h2⟩ := ih (a :: rev0) _ _ (PDA.HistOK.cons (a := a) h)
    refine ⟨Sn, Hn, ?_, ?_⟩
    · rw [PDA.history]
      exact h1
    · rw [List.reverse_cons, List.append_assoc]
      exact h2

theorem PDA.history_head (P : PDA σ τ γ) (limit : Nat) (s : Sched) :
    ∀ (w : List τ) (acc : List (PConf σ γ) × Bool) (H0 : List (List (PConf σ γ))),
      (P.history limit s w acc.1 (acc.1 :: H0)).head? = some (P.runConfs limit s acc w).1 := by
  intro w
  induction w with
  | nil => intro acc H0; rw [PDA.runConfs_nil]; rfl
  | cons a w ih =>
    intro acc H0
    rw [PDA.history, PDA.runConfs_cons]
    exact ih (_, acc.2 || _) _

theorem PDA.rebuild_spec (P : PDA σ τ γ) (hk : (P.delta.map (·.1)).Nodup) (fuel : Nat) {limit : Nat} {s : Sched}
    {rev : List τ} {H : List (List (PConf σ γ))} (h : P.HistOK limit s rev H) :
    (∀ a, a ∈ rev → a ≠ P.eps) → ∀ (front : PConf σ γ) (word : List τ) (result tr : List (σ × List τ × List γ)),
      P.ResInv front word result → P.rebuild fuel s rev H front word result = .ok tr →
      P.ResInv (P.q0, []) (rev.reverse ++ word) tr := by
  induction h with
  | nil =>
    intro _ front word result tr hres h
    obtain ⟨path, hp, rfl⟩ := PDA.rebuild_nil_eq_ok.mp h
    obtain ⟨hmem, hinv⟩ := hres.glue (PDA.row word) (P.row_step hk word) (findPath_sound _ _ _ _ _ _ hp)
    exact List.mem_singleton.mp hmem ▸ hinv
  | @cons a rev S H _ ih =>
    intro ha front word result tr hres h
    obtain ⟨path, front2, hp, ht, h'⟩ := PDA.rebuild_cons_eq_ok.mp h
    obtain ⟨_, hinv⟩ := hres.glue (PDA.row word) (P.row_step hk word) (findPath_sound _ _ _ _ _ _ hp)
    have hmv : path.headD front ∈ P.moves a front2 := by simpa using List.find?_some ht
    have := ih (fun b hb => ha b (List.mem_cons_of_mem _ hb)) front2 (a :: word) _ tr
      (hinv.cons (Or.inr ⟨a, rfl, ha a List.mem_cons_self, PDA.Move_of_mem_moves hk hmv⟩)) h'
    rwa [List.reverse_cons, List.append_assoc]

/-- `simulate` computes the history; if its top set has no accepting configuration the answer is `none`, otherwise one
    of them is the front from which the run is rebuilt -/
theorem PDA.simulate_cases (P : PDA σ τ γ) (limit fuel : Nat) (s : Sched) (w : List τ) :
    ∃ Sn Hn, P.history limit s w (P.epsClosure limit s [(P.q0, [])]).1
        [(P.epsClosure limit s [(P.q0, [])]).1, [(P.q0, [])]] = (P.epsClosure limit s Sn).1 :: Sn :: Hn ∧
      P.HistOK limit s w.reverse (Sn :: Hn) ∧
      (((P.epsClosure limit s Sn).1.filter (fun r => decide (r.1 ∈ P.F)) = [] ∧ P.simulate limit fuel s w = .ok none) ∨
       ∃ front, front ∈ (P.epsClosure limit s Sn).1 ∧ front.1 ∈ P.F ∧ P.simulate limit fuel s w =
         (P.rebuild fuel s w.reverse (Sn :: Hn) front [] [PDA.row [] front] >>= fun r => pure (some r))) := by
  obtain ⟨Sn, Hn, h1, h2⟩ := P.history_ok limit s w [] [(P.q0, [])] [] PDA.HistOK.nil
  rw [List.append_nil] at h2
  refine ⟨Sn, Hn, h1, h2, ?_⟩
  cases hp : pickAt ((P.epsClosure limit s Sn).1.filter fun r => decide (r.1 ∈ P.F)) s.next.1 with
  | none =>
    refine Or.inl ⟨pickAt_eq_none_iff.mp hp, ?_⟩
    unfold PDA.simulate
    simp only [h1, hp]
    rfl
  | some fr =>
    have hm := pickAt_mem hp
    rw [List.mem_filter, decide_eq_true_eq] at hm
    refine Or.inr ⟨fr.1, hm.1, hm.2, ?_⟩
    unfold PDA.simulate
    simp only [h1, hp]
    rfl

theorem PDA.simulate_valid (P : PDA σ τ γ) (hk : (P.delta.map (·.1)).Nodup)
    (limit fuel : Nat) (s : Sched) (w : List τ) (hw : ∀ a, a ∈ w → a ≠ P.eps)
    (tr : List (σ × List τ × List γ)) (h : P.simulate limit fuel s w = .ok (some tr)) :
    P.ValidTrace w tr := by
  obtain ⟨Sn, Hn, _, hok, ⟨_, hn⟩ | ⟨front, _, hfF, hs⟩⟩ := P.simulate_cases limit fuel s w
  · rw [hn] at h; cases h
  rw [hs, Except.bind_eq_ok'] at h
  obtain ⟨r, hr, h⟩ := h
  cases h
  have := P.rebuild_spec hk fuel hok (fun a ha => hw a (List.mem_reverse.mp ha)) front [] _ tr
    ⟨rfl, .single _, front.1, front.2, rfl, hfF⟩ hr
  rwa [List.reverse_reverse, List.append_nil] at this

/-! ### termination: the rebuild never fails when the reachable configurations fit in a finite universe -/

theorem PDA.HistOK.reach {P : PDA σ τ γ} (hk : (P.delta.map (·.1)).Nodup) {limit : Nat} {s : Sched}
    {rev : List τ} {H : List (List (PConf σ γ))} (h : P.HistOK limit s rev H) :
    (∀ a, a ∈ rev → a ≠ P.eps) → ∀ S, S ∈ H → ∃ u, ∀ r, r ∈ S → P.Run (P.q0, []) u r := by
  induction h with
  | nil =>
    intro _ S hS
    exact ⟨[], fun r hr => List.mem_singleton.mp (List.mem_singleton.mp hS ▸ hr) ▸ .nil _⟩
  | @cons a rev S H _ ih =>
    intro ha S' hS'
    have ih' := ih (fun b hb => ha b (List.mem_cons_of_mem _ hb))
    obtain ⟨u, hu⟩ := ih' S List.mem_cons_self
    have hC : ∀ r, r ∈ (P.epsClosure limit s S).1 → P.Run (P.q0, []) u r := fun _ => P.epsClosure_run hk limit s hu
    rcases List.mem_cons.mp hS' with rfl | hS'
    · exact ⟨u ++ [a], fun _ => P.doTransition_run hk (ha a List.mem_cons_self) hC⟩
    · rcases List.mem_cons.mp hS' with rfl | hS'
      · exact ⟨u, hC⟩
      · exact ih' S' hS'

/-- a target in the (possibly truncated) closure of a reachable set is found by the path search -/
theorem PDA.findEpsPath_complete (P : PDA σ τ γ) (hk : (P.delta.map (·.1)).Nodup) (limit fuel : Nat) (s : Sched)
    (U : List (PConf σ γ))
    (hU : ∀ R c, (∀ r, r ∈ R → ∃ u, P.Run (P.q0, []) u r) → P.EpsReach R c → c ∈ U)
    (hf : U.length + 1 ≤ fuel) (S : List (PConf σ γ)) (hS : ∀ r, r ∈ S → ∃ u, P.Run (P.q0, []) u r)
    (front : PConf σ γ) (hfr : front ∈ (P.epsClosure limit s S).1) :
    ∃ path, P.findEpsPath fuel s S front = .ok (some path) := by
  obtain ⟨p, hp, _⟩ := findPath_complete (P.moves P.eps) s S front U
    (fun x hx => hU S x hS (Reach.pda_epsReach hk hx)) fuel hf
    ((P.epsClosure_inv limit s S).elim fun _ hi => hi.1.sound front hfr)
  exact ⟨p, hp⟩

theorem PDA.rebuild_total (P : PDA σ τ γ) (hk : (P.delta.map (·.1)).Nodup) (limit fuel : Nat) (s : Sched)
    (U : List (PConf σ γ))
    (hU : ∀ R c, (∀ r, r ∈ R → ∃ u, P.Run (P.q0, []) u r) → P.EpsReach R c → c ∈ U)
    (hf : U.length + 1 ≤ fuel) {rev : List τ} {H : List (List (PConf σ γ))} (h : P.HistOK limit s rev H) :
    (∀ a, a ∈ rev → a ≠ P.eps) → ∀ (front : PConf σ γ) (word : List τ) (result : List (σ × List τ × List γ)),
      (∃ S, H.head? = some S ∧ front ∈ (P.epsClosure limit s S).1) →
      ∃ tr, P.rebuild fuel s rev H front word result = .ok tr := by
  induction h with
  | nil =>
    intro _ front word result hfr
    obtain ⟨S, hS, hfr⟩ := hfr
    simp only [List.head?_cons, Option.some.injEq] at hS
    subst hS
    obtain ⟨path, hp⟩ := P.findEpsPath_complete hk limit fuel s U hU hf [(P.q0, [])]
      (fun r hr => by
        have := List.mem_singleton.mp hr
        subst this
        exact ⟨[], .nil _⟩) front hfr
    exact ⟨_, PDA.rebuild_nil_eq_ok.mpr ⟨path, hp, rfl⟩⟩
  | @cons a rev S H hH ih =>
    intro ha front word result hfr
    obtain ⟨D, hD, hfr⟩ := hfr
    simp only [List.head?_cons, Option.some.injEq] at hD
    subst hD
    obtain ⟨u, hu⟩ := (PDA.HistOK.cons (a := a) hH).reach hk ha _ List.mem_cons_self
    obtain ⟨path, hp⟩ := P.findEpsPath_complete hk limit fuel s U hU hf _ (fun r hr => ⟨u, hu r hr⟩) front hfr
    obtain ⟨⟨r, hr, hrD⟩, _, _⟩ := findPath_sound _ _ _ _ _ _ hp
    have hhd : path.headD front = r := by rw [List.headD_eq_head?_getD, hr]; rfl
    obtain ⟨c0, hc0, hm⟩ := PDA.mem_doTransition.mp hrD
    cases ht : P.findTransition (P.epsClosure limit s S).1 a (path.headD front) with
    | none =>
      have := List.find?_eq_none.mp ht c0 hc0
      rw [hhd] at this
      simp only [decide_eq_true_eq] at this
      exact absurd hm this
    | some front2 =>
      have hf2 : front2 ∈ (P.epsClosure limit s S).1 := List.mem_of_find?_eq_some ht
      obtain ⟨tr, h⟩ := ih (fun b hb => ha b (List.mem_cons_of_mem _ hb)) front2 (a :: word)
        (PDA.row (a :: word) front2 :: (path.dropLast.map (PDA.row word) ++ result)) ⟨S, rfl, hf2⟩
      exact ⟨tr, PDA.rebuild_cons_eq_ok.mpr ⟨path, front2, hp, ht, h⟩⟩

theorem PDA.simulate_total (P : PDA σ τ γ) (hk : (P.delta.map (·.1)).Nodup) (limit fuel : Nat) (s : Sched)
    (w : List τ) (hw : ∀ a, a ∈ w → a ≠ P.eps) (U : List (PConf σ γ))
    (hU : ∀ R c, (∀ r, r ∈ R → ∃ u, P.Run (P.q0, []) u r) → P.EpsReach R c → c ∈ U)
    (hf : U.length + 1 ≤ fuel) : ∃ r, P.simulate limit fuel s w = .ok r := by
  obtain ⟨Sn, Hn, _, hok, ⟨_, hn⟩ | ⟨front, hfS, _, hs⟩⟩ := P.simulate_cases limit fuel s w
  · exact ⟨none, hn⟩
  · obtain ⟨tr, htr⟩ := P.rebuild_total hk limit fuel s U hU hf hok
      (fun a ha => hw a (List.mem_reverse.mp ha)) front [] [PDA.row [] front] ⟨Sn, rfl, hfS⟩
    exact ⟨some tr, by rw [hs, htr]; rfl⟩

theorem PDA.moves_sym_mem {P : PDA σ τ γ} {a : τ} {c c' : PConf σ γ} (h : c' ∈ P.moves a c) :
    a ∈ P.delta.map (·.1.2.1) := by
  obtain ⟨e, he, _, h2, _⟩ := PDA.mem_moves.mp h
  exact List.mem_map.mpr ⟨e, he, h2⟩

/-- if `U` contains the initial configuration and is closed under all moves (over the symbols occurring in δ),
    it contains every reachable configuration — in the shape required by `pda_simulate_terminates_partial` -/
theorem PDA.universe_of_closed (P : PDA σ τ γ) (U : List (PConf σ γ)) (h0 : (P.q0, []) ∈ U)
    (hcl : ∀ c, c ∈ U → ∀ a, a ∈ P.delta.map (·.1.2.1) → ∀ c', c' ∈ P.moves a c → c' ∈ U) :
    ∀ R c, (∀ r, r ∈ R → ∃ u, P.Run (P.q0, []) u r) → P.EpsReach R c → c ∈ U := by
  have hmove : ∀ a c c', c ∈ U → P.Move a c c' → c' ∈ U := by
    intro a c c' hc hm
    have hm' := PDA.mem_moves_of_Move hm
    exact hcl c hc a (PDA.moves_sym_mem hm') c' hm'
  have hrun : ∀ c u r, P.Run c u r → c ∈ U → r ∈ U :=
    fun c u r h => h.inv (fun a c c' hm hc => hmove a c c' hc hm)
  intro R c hR h
  induction h with
  | base hm =>
    obtain ⟨u, hu⟩ := hR _ hm
    exact hrun _ _ _ hu h0
  | step _ hs ih => exact hmove _ _ _ ih hs

end

/-- `{ab}` with a bounded stack: only five configurations are reachable -/
def C15c.exFin : PDA String String String :=
  { Q := ["s", "t", "p", "q", "f"], Sigma := ["a", "b"], Gamma := ["$", "A"],
    delta := [(("s", "eps", "eps"), [("t", "$")]),
              (("t", "a", "eps"), [("p", "A")]),
              (("p", "b", "A"), [("q", "eps")]),
              (("q", "eps", "$"), [("f", "eps")])],
    q0 := "s", F := ["f"], eps := "eps", epsG := "eps" }

def C15c.exFinU : List (PConf String String) :=
  [("s", []), ("t", ["$"]), ("p", ["$", "A"]), ("q", ["$"]), ("f", [])]

theorem C15c.exFin_universe : ∀ R c, (∀ r, r ∈ R → ∃ u, C15c.exFin.Run (C15c.exFin.q0, []) u r) →
    C15c.exFin.EpsReach R c → c ∈ C15c.exFinU :=
  PDA.universe_of_closed C15c.exFin C15c.exFinU (by decide +kernel) (by decide +kernel)

end Gamba
