/-
  Gamba.Proofs.Saturate — reachability under a successor function (`Reach`) and the invariant `Sat` of the loops that
  compute it by saturation: a visited set and a worklist of visited elements whose successors have not been added yet.
  The ε-closure (`NFA.epsLoop`), the level-wise search of `dfa_reachable_states` (`DFA.reachLoop`) and the back-pointer
  search (`searchLoop`) are instances; each shows what one iteration of its body is: an `expand`, a `pop`, or `push`es and a `drop`;
  `pop_measure` is the potential that bounds the number of pops.
-/
import Gamba.Model.Basic
namespace Gamba
variable {α : Type}

inductive Reach (succ : α → List α) (R : List α) : α → Prop
  | base {x : α} : x ∈ R → Reach succ R x
  | step {x y : α} : Reach succ R x → y ∈ succ x → Reach succ R y

theorem Reach.mem_of_closed {succ : α → List α} {R S : List α} (hs : ∀ x, x ∈ R → x ∈ S)
    (hc : ∀ x, x ∈ S → ∀ y, y ∈ succ x → y ∈ S) {x : α} (h : Reach succ R x) : x ∈ S := by
  induction h with
  | base h => exact hs _ h
  | step _ hy ih => exact hc _ ih _ hy

theorem Reach.trans {succ : α → List α} {R R' : List α} (hR : ∀ x, x ∈ R → Reach succ R' x) {x : α}
    (h : Reach succ R x) : Reach succ R' x := by
  induction h with
  | base h => exact hR _ h
  | step _ hy ih => exact ih.step hy

/-- `vis` holds the seeds and only reachable elements, and every element of `vis` outside the worklist `todo ⊆ vis`
    has all its successors in `vis`. With an empty worklist `vis` is the reachable set (`Sat.mem_iff`). -/
structure Sat (succ : α → List α) (R vis todo : List α) : Prop where
  seeds : ∀ x, x ∈ R → x ∈ vis
  sound : ∀ x, x ∈ vis → Reach succ R x
  todo_sub : ∀ x, x ∈ todo → x ∈ vis
  closed : ∀ x, x ∈ vis → x ∉ todo → ∀ y, y ∈ succ x → y ∈ vis

theorem Sat.init {succ : α → List α} {R vis : List α} (h : ∀ x, x ∈ vis ↔ x ∈ R) : Sat succ R vis vis :=
  ⟨fun x hx => (h x).mpr hx, fun x hx => .base ((h x).mp hx), fun _ hx => hx, fun _ hx hn => absurd hx hn⟩

theorem Sat.mem_iff {succ : α → List α} {R vis : List α} (h : Sat succ R vis []) (x : α) :
    x ∈ vis ↔ Reach succ R x :=
  ⟨h.sound x, Reach.mem_of_closed h.seeds fun x hx => h.closed x hx List.not_mem_nil⟩

/-- One iteration. The elements of `X ⊆ todo` are expanded: `vis'` is `vis` with their successors, and whatever of `vis'`
    is missing from the new worklist has been expanded now or was expanded before. -/
theorem Sat.expand {succ : α → List α} {R vis todo : List α} (h : Sat succ R vis todo) {X vis' todo' : List α}
    (hX : ∀ x, x ∈ X → x ∈ todo)
    (hvis : ∀ y, y ∈ vis' ↔ y ∈ vis ∨ ∃ x, x ∈ X ∧ y ∈ succ x)
    (hsub : ∀ y, y ∈ todo' → y ∈ vis')
    (hdone : ∀ y, y ∈ vis' → y ∉ todo' → y ∈ X ∨ y ∈ vis ∧ y ∉ todo) : Sat succ R vis' todo' := by
  refine ⟨fun x hx => (hvis x).mpr (.inl (h.seeds x hx)), fun y hy => ?_, hsub, fun y hy hn z hz => ?_⟩
  · rcases (hvis y).mp hy with hy | ⟨x, hx, hy⟩
    · exact h.sound y hy
    · exact (h.sound x (h.todo_sub x (hX x hx))).step hy
  · rcases hdone y hy hn with hy | ⟨hy, hn⟩
    · exact (hvis z).mpr (.inr ⟨y, hy, hz⟩)
    · exact (hvis z).mpr (.inl (h.closed y hy hn z hz))

/-- the iteration of a loop that pops one element (`set.pop()`) and adds its new successors to both sets
    (`|` in `epsilon_closure`, `+` on duplicate-free lists in the PDA version) -/
theorem Sat.pop {succ : α → List α} {R vis todo : List α} (h : Sat succ R vis todo) {i : Nat} {x : α}
    {rest new vis' todo' : List α} (hp : pickAt todo i = some (x, rest)) (hnew : ∀ y, y ∈ new ↔ y ∈ succ x ∧ y ∉ vis)
    (hvis : ∀ y, y ∈ vis' ↔ y ∈ vis ∨ y ∈ new) (htodo : ∀ y, y ∈ todo' ↔ y ∈ rest ∨ y ∈ new) :
    Sat succ R vis' todo' := by
  have hm := pickAt_mem_iff hp
  refine h.expand (X := [x]) (fun y hy => (hm y).mpr (.inl (List.mem_singleton.mp hy))) (fun y => ?_) (fun y hy => ?_)
    (fun y hy hn => ?_)
  · rw [hvis, hnew]
    constructor
    · rintro (hy | ⟨hy, _⟩)
      · exact .inl hy
      · exact .inr ⟨x, List.mem_singleton.mpr rfl, hy⟩
    · rintro (hy | ⟨_, hx, hy⟩)
      · exact .inl hy
      · rw [List.mem_singleton.mp hx] at hy
        exact (Classical.em (y ∈ vis)).imp_right fun hn => ⟨hy, hn⟩
  · rw [htodo] at hy
    rw [hvis]
    exact hy.imp_left fun hy => h.todo_sub y ((hm y).mpr (.inr hy))
  · rw [htodo, not_or] at hn
    have hv : y ∈ vis := ((hvis y).mp hy).resolve_right hn.2
    by_cases ht : y ∈ todo
    · exact .inl (List.mem_singleton.mpr (((hm y).mp ht).resolve_right hn.1))
    · exact .inr ⟨hv, ht⟩

/-- Termination of a popping loop whose `vis` is a duplicate-free list that grows by `new`: `vis` stays inside any `U`
    that contains everything reachable, so the potential `|U ∖ vis| + |todo|` loses what the popped element took off
    `todo` (`k` = what is left of it). -/
theorem Sat.pop_measure {succ : α → List α} {R vis new todo' U : List α} (h' : Sat succ R (vis ++ new) todo')
    (hU : ∀ x, Reach succ R x → x ∈ U) (hn : vis.Nodup) (hnn : new.Nodup) (hnew : ∀ y, y ∈ new → y ∉ vis)
    {k : Nat} (ht' : todo'.length ≤ k + new.length) :
    (vis ++ new).Nodup ∧ (U.length - (vis ++ new).length) + todo'.length ≤ (U.length - vis.length) + k := by
  have hn' : (vis ++ new).Nodup := List.nodup_append.mpr ⟨hn, hnn, fun a ha b hb hab => hnew b hb (hab ▸ ha)⟩
  have := hn'.length_le_of_subset fun x hx => hU x (h'.sound x hx)
  rw [List.length_append] at this ⊢
  exact ⟨hn', by omega⟩

theorem Sat.todo_congr {succ : α → List α} {R vis todo todo' : List α} (h : Sat succ R vis todo)
    (ht : ∀ x, x ∈ todo' ↔ x ∈ todo) : Sat succ R vis todo' :=
  ⟨h.seeds, h.sound, fun x hx => h.todo_sub x ((ht x).mp hx), fun x hx hn => h.closed x hx fun hc => hn ((ht x).mpr hc)⟩

/-- a loop that visits the successors of `x` one at a time keeps `x` in the worklist meanwhile: a new successor is
    `push`ed, and `x` is `drop`ped once all its successors are visited -/
theorem Sat.push {succ : α → List α} {R vis todo : List α} (h : Sat succ R vis todo) {x y : α} (hx : x ∈ vis)
    (hy : y ∈ succ x) : Sat succ R (vis ++ [y]) (todo ++ [y]) := by
  refine ⟨fun z hz => List.mem_append_left _ (h.seeds z hz), fun z hz => ?_, fun z hz => ?_, fun z hz hn u hu => ?_⟩
  · rcases List.mem_append.mp hz with hz | hz
    · exact h.sound z hz
    · exact List.mem_singleton.mp hz ▸ (h.sound x hx).step hy
  · exact (List.mem_append.mp hz).elim (fun hz => List.mem_append_left _ (h.todo_sub z hz)) (List.mem_append_right _)
  · rw [List.mem_append, not_or] at hn
    exact List.mem_append_left _ (h.closed z ((List.mem_append.mp hz).resolve_right hn.2) hn.1 u hu)

theorem Sat.drop {succ : α → List α} {R vis todo : List α} {x : α} (h : Sat succ R vis (x :: todo))
    (hx : ∀ y, y ∈ succ x → y ∈ vis) : Sat succ R vis todo := by
  refine ⟨h.seeds, h.sound, fun z hz => h.todo_sub z (List.mem_cons_of_mem _ hz), fun z hz hn => ?_⟩
  by_cases hzx : z = x
  · exact hzx ▸ hx
  · exact h.closed z hz fun hc => (List.mem_cons.mp hc).elim hzx hn

end Gamba
