/- Gamba.Proofs.Words — base layer for words over an alphabet: membership in the word enumerators `wordsOfLength`,
   `wordsUpTo` of `Gamba.Model.Basic`, in whose levels the enumerations that proceed length by length
   (`dfa_words_up_to_n`, `nfa_words_up_to_n`) are described. -/
import Gamba.Model.Basic
namespace Gamba

theorem length_succ_over_iff {τ : Type} (Sigma : List τ) (n : Nat) (w : List τ) :
    (w.length = n + 1 ∧ ∀ a, a ∈ w → a ∈ Sigma) ↔
      ∃ u a, w = u ++ [a] ∧ (u.length = n ∧ ∀ b, b ∈ u → b ∈ Sigma) ∧ a ∈ Sigma := by
  constructor
  · rintro ⟨hl, hs⟩
    rcases List.eq_nil_or_concat w with rfl | ⟨u, a, rfl⟩
    · cases hl
    · rw [List.concat_eq_append] at hl hs ⊢
      rw [List.length_append, List.length_singleton, Nat.add_right_cancel_iff] at hl
      obtain ⟨hu, ha⟩ := List.forall_mem_append.mp hs
      exact ⟨u, a, rfl, ⟨hl, hu⟩, List.forall_mem_singleton.mp ha⟩
  · rintro ⟨u, a, rfl, ⟨hl, hs⟩, ha⟩
    exact ⟨by rw [List.length_append, hl]; rfl,
      List.forall_mem_append.mpr ⟨hs, List.forall_mem_singleton.mpr ha⟩⟩

theorem mem_wordsOfLength {τ : Type} (Sigma : List τ) (n : Nat) (w : List τ) :
    w ∈ wordsOfLength Sigma n ↔ w.length = n ∧ ∀ a, a ∈ w → a ∈ Sigma := by
  induction n generalizing w with
  | zero =>
    rw [wordsOfLength, List.mem_singleton, List.length_eq_zero_iff]
    exact ⟨fun h => ⟨h, fun a ha => nomatch h ▸ ha⟩, And.left⟩
  | succ n ih =>
    simp only [wordsOfLength, List.mem_flatMap, List.mem_map, ih, length_succ_over_iff]
    constructor
    · rintro ⟨u, hu, a, ha, rfl⟩; exact ⟨u, a, rfl, hu, ha⟩
    · rintro ⟨u, a, rfl, hu, ha⟩; exact ⟨u, hu, a, ha, rfl⟩

theorem mem_wordsUpTo {τ : Type} (Sigma : List τ) (n : Nat) (w : List τ) :
    w ∈ wordsUpTo Sigma n ↔ w.length ≤ n ∧ ∀ a, a ∈ w → a ∈ Sigma := by
  simp only [wordsUpTo, List.mem_flatMap, List.mem_range, mem_wordsOfLength]
  constructor
  · rintro ⟨m, hm, hl, hs⟩; exact ⟨by omega, hs⟩
  · rintro ⟨hl, hs⟩; exact ⟨w.length, by omega, rfl, hs⟩

end Gamba
