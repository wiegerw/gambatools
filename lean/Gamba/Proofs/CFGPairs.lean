/-
  Gamba.Proofs.CFGPairs — rule lists seen through their (lhs, rhs) pairs, which is all that `HasRule` and the content
  equality `sameRule` of `remove_duplicates` and `cfg_eliminate_unit_rules_in_place` look at.  Seen that way, "append the
  rule unless one with the same content is there" is `sinsert`, so the pairs of a loop that does it are described exactly.
-/
import Gamba.Proofs.CFGBasic
namespace Gamba
namespace CFG

def pair (r : CRule) : String × List Sym := (r.lhs, r.rhs)

theorem hasRule_iff_pair {G : CFG} {A : String} {rhs : List Sym} : G.HasRule A rhs ↔ (A, rhs) ∈ G.R.map pair := by
  simp only [HasRule, List.mem_map, pair, Prod.mk.injEq]

theorem sameRule_iff (r s : CRule) : sameRule r s = true ↔ pair r = pair s := by
  simp only [sameRule, Bool.and_eq_true, decide_eq_true_eq, pair, Prod.mk.injEq]

/-- numbering the rules made from a list (`zipIdx`) does not show in the pairs -/
theorem map_pair_zipIdx {α : Type} (l : List α) (f : α × Nat → CRule) (g : α → String × List Sym)
    (h : ∀ x, pair (f x) = g x.1) : (l.zipIdx.map f).map pair = l.map g := by
  rw [List.map_map, show pair ∘ f = g ∘ Prod.fst from funext h, ← List.map_map, List.zipIdx_map_fst]

/-- `if any(r == s for s in R): pass else: R.append(r)`, on the pairs -/
theorem map_pair_addNew (R : List CRule) (r : CRule) :
    (if R.any (sameRule r) then R else R ++ [r]).map pair = sinsert (R.map pair) (pair r) := by
  have : R.any (sameRule r) = true ↔ pair r ∈ R.map pair := by
    simp only [List.any_eq_true, sameRule_iff, List.mem_map]
    exact exists_congr fun _ => and_congr_right fun _ => eq_comm
  unfold sinsert
  by_cases h : R.any (sameRule r) = true
  · rw [if_pos h, if_pos (this.mp h)]
  · rw [if_neg h, if_neg (mt this.mpr h), List.map_append, List.map_singleton]

end CFG
end Gamba
