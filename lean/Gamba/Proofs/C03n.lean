/-
  Gamba.Proofs.C03n — helper lemmas for the named subset construction with CLEAN state names:
  on lists of non-empty, comma-free names `extract_states` (the checker's reader of set names, `Check.extractSet`)
  is a left inverse of `print_state_set`, which is therefore injective (as a map on sets), and the injectivity
  hypothesis of `nfaToDfa_named` can be discharged; and the concrete collision witness
  (a state named "") showing that the hypothesis on the names is needed.
-/
import Gamba.Model.Check
import Gamba.Proofs.C03
namespace Gamba

/-- a state name is clean when it is non-empty and contains no comma -/
def CleanName (q : String) : Prop := q ≠ "" ∧ ',' ∉ q.toList

instance (q : String) : Decidable (CleanName q) := by unfold CleanName; infer_instance

namespace C03n

theorem toList_comma : ",".toList = [','] := rfl
theorem toList_lbrace : "{".toList = ['{'] := rfl
theorem toList_rbrace : "}".toList = ['}'] := rfl

/-- the characters between the braces -/
def body (S : List String) : List Char := [','].intercalate ((sortStrings (dedup S)).map String.toList)

theorem toList_printStateSet (S : List String) : (printStateSet S).toList = '{' :: (body S ++ ['}']) := by
  unfold printStateSet
  rw [Text.toList_append, Text.toList_append, Text.toList_intercalate, toList_comma, toList_lbrace,
    toList_rbrace]
  rfl

theorem intercalate_ne_nil {M : List String} (hM : ∀ q, q ∈ M → q ≠ "") (hne : M ≠ []) :
    [','].intercalate (M.map String.toList) ≠ [] := by
  match M, hne with
  | [q], _ => exact fun h => hM q List.mem_cons_self (String.toList_eq_nil_iff.mp (by simpa using h))
  | q :: r :: M, _ =>
    rw [List.map_cons, List.map_cons, List.intercalate_cons_cons]
    exact fun h => nomatch (List.append_eq_nil_iff.mp (List.append_eq_nil_iff.mp h).1).2

theorem braced_print (S : List String) : Check.braced (printStateSet S).toList = true := by
  rw [toList_printStateSet]
  have : ('{' :: (body S ++ ['}'])).getLast? = some '}' := by
    rw [← List.cons_append, List.getLast?_append]; rfl
  simp [Check.braced, this]

theorem inner_print (S : List String) : Text.inner (printStateSet S).toList = body S := by
  rw [toList_printStateSet]
  simp [Text.inner]

/-- `extract_states(print_state_set(S)) == sorted(set(S))` for clean names: `split(',')` is a left inverse of `','.join`,
    except on the empty text, which is printed for the empty set only.  So the set notation determines the set. -/
theorem extractSet_print {S : List String} (hS : ∀ q, q ∈ S → CleanName q) :
    Check.extractSet (printStateSet S) = sortStrings (dedup S) := by
  unfold Check.extractSet
  rw [braced_print, if_pos rfl, inner_print]
  by_cases hne : sortStrings (dedup S) = []
  · have : body S = [] := by unfold body; rw [hne]; rfl
    rw [this, hne]; rfl
  · have hb : body S ≠ [] :=
      intercalate_ne_nil (fun q hq => (hS q (mem_sortStrings_dedup.mp hq)).1) hne
    have hemp : (body S).isEmpty = false := by
      cases h : body S with
      | nil => exact absurd h hb
      | cons _ _ => rfl
    simp only [hemp, Bool.false_eq_true, if_false]
    unfold body
    rw [Text.splitOn_intercalate]
    · rw [Text.map_str_map_toList]
      exact dedup_eq_self_of_nodup (nodup_sortStrings_dedup S)
    · simpa using hne
    · intro p hp
      obtain ⟨q, hq, rfl⟩ := List.mem_map.mp hp
      exact (hS q (mem_sortStrings_dedup.mp hq)).2

theorem mem_extractSet_print {S : List String} (hS : ∀ q, q ∈ S → CleanName q) (x : String) :
    x ∈ Check.extractSet (printStateSet S) ↔ x ∈ S := by
  rw [extractSet_print hS]; simp

end C03n

/-- the set notation determines the set, for clean names (sorted duplicate-free lists form) -/
theorem printStateSet_inj_sorted (S T : List String) (hS : ∀ q, q ∈ S → CleanName q)
    (hT : ∀ q, q ∈ T → CleanName q) (h : printStateSet S = printStateSet T) :
    sortStrings (dedup S) = sortStrings (dedup T) := by
  rw [← C03n.extractSet_print hS, h, C03n.extractSet_print hT]

theorem printStateSet_mem_iff (S T : List String) (hS : ∀ q, q ∈ S → CleanName q)
    (hT : ∀ q, q ∈ T → CleanName q) (h : printStateSet S = printStateSet T) : ∀ q, q ∈ S ↔ q ∈ T := by
  intro q
  have := printStateSet_inj_sorted S T hS hT h
  rw [← mem_sortStrings_dedup (l := S), ← mem_sortStrings_dedup (l := T), this]

section
variable {σ τ : Type} [DecidableEq σ] [DecidableEq τ]

/-- `nfaToDfa_spec` without its clauses on `D.q0` and on `S ⊆ N.Q`, and in addition: every constructed state is canonical -/
theorem NFA.toDfaSets_spec_canon {N : NFA σ τ} (hv : N.valid = true) (s : Sched) :
    ∃ D, N.toDfaSets s = .ok D ∧ D.valid = true ∧ D.Sigma = N.Sigma ∧
      (∀ S, S ∈ D.Q → D.Reachable S) ∧
      (∀ S, S ∈ D.Q → N.canon S = S) ∧
      ∀ w, (∀ a, a ∈ w → a ∈ N.Sigma) → (D.Accepts w ↔ N.Accepts w) := by
  obtain ⟨acc, h1, ht, he⟩ := NFA.toDfaSets_acc hv s
  obtain ⟨hval, hSig, _, hreach, _, hL⟩ := h1.final hv ht
  exact ⟨_, he, hval, hSig, hreach, fun S => h1.canon, hL⟩

end

theorem NFA.printStateSet_inj_on_canon (N : NFA String String) (hn : ∀ q, q ∈ N.Q → CleanName q)
    {S T : List String} (hS : N.canon S = S) (hT : N.canon T = T)
    (h : printStateSet S = printStateSet T) : S = T :=
  N.canon_eq_of_mem_iff hS hT
    (printStateSet_mem_iff S T (fun q hq => hn q (N.mem_Q_of_canon hS hq))
      (fun q hq => hn q (N.mem_Q_of_canon hT hq)) h)

/-! ### the recorded defect: a state named "" makes two subsets print alike -/
namespace C03n

/-- a valid NFA with a state named `""` (witness found on the real library) -/
def badN : NFA String String :=
  { Q := ["", "q"], Sigma := ["x", "y"],
    delta := [(("", "x"), ["", "q"]), (("q", "_"), ["q"]), (("q", "x"), [""])],
    q0 := "", F := ["q"], eps := "_" }

/-- its subset automaton on structured states: `{""}`, `{"", q}` and `∅` are three different states -/
def badD : DFA (List String) String :=
  { Q := [[""], ["", "q"], []],
    Sigma := ["x", "y"],
    delta := [(([""], "x"), ["", "q"]), (([""], "y"), []), (([], "x"), []), (([], "y"), []),
              ((["", "q"], "x"), ["", "q"]), ((["", "q"], "y"), [])],
    q0 := [""],
    F := [["", "q"]] }

/-- … and with `print_state_set` names: `{""}` and `∅` are both called `"{}"` -/
def badDnamed : DFA String String :=
  { Q := ["{}", "{,q}", "{}"],
    Sigma := ["x", "y"],
    delta := [(("{}", "x"), "{,q}"), (("{}", "y"), "{}"), (("{}", "x"), "{}"), (("{}", "y"), "{}"),
              (("{,q}", "x"), "{,q}"), (("{,q}", "y"), "{}")],
    q0 := "{}",
    F := ["{,q}"] }

theorem badN_valid : badN.valid = true := by decide +kernel

theorem badN_toDfaSets : badN.toDfaSets [] = .ok badD := by decide +kernel

theorem name_emptyName : printStateSet [""] = "{}" := by simp [printStateSet, sortStrings, dedup]
theorem name_emptyName_q : printStateSet ["", "q"] = "{,q}" := by
  rw [printStateSet_eq_isort]; decide +kernel

theorem badD_named : badD.mapStates printStateSet = badDnamed := by
  simp [DFA.mapStates, badD, badDnamed, C03.name_empty, name_emptyName, name_emptyName_q]

theorem badN_toDfa : badN.toDfa [] = .ok badDnamed :=
  badD_named ▸ NFA.toDfa_eq_ok badN_toDfaSets

theorem badDnamed_valid : badDnamed.valid = true := by decide +kernel

theorem badN_accepts_yx : badN.accepts [] ["y", "x"] = .ok false := by decide +kernel

end C03n

end Gamba
