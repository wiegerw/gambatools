/-
  Gamba.Proofs.C12ex — the automaton and grammar texts that the test vectors of C12c–C12h and C13f use again and again, each with
  the object the library parser returns for it (`C12e.exAnBn`, `C12e.exBad`, `C12h.exPda`, `C12h.exTm` are further ones).
  Why the test vectors have the shape `rw [CheckText.f, <parse lemmas>]; decide +kernel`: a checker applied to string
  literals hands the UNEVALUATED parse on to the check, and the kernel then re-runs the parser at every projection of the
  parsed object; with the parse rewritten to a literal object only the check is evaluated.  Why the parse lemmas start
  with `rw [String.toList_ofList]`: `String.toList` of a literal is quadratic in the kernel, the lemma turns the literal
  into its character list without evaluation.  Not every text has a parse lemma: a vector often rewrites the reference
  text only, and its answer text is still parsed inside the kernel evaluation.
-/
import Gamba.Model.CheckText
import Gamba.Proofs.C12b
namespace Gamba
namespace C12ex
open Parse

/-- words over {a,b} ending in `a` -/
def endsA : DFA String String :=
  { Q := ["q", "p"], Sigma := ["a", "b"],
    delta := [(("p", "a"), "q"), (("p", "b"), "p"), (("q", "a"), "q"), (("q", "b"), "p")], q0 := "p", F := ["q"] }

theorem endsA_parse : parseDfa "initial p\nfinal q\np q a\np p b\nq q a\nq p b".toList = .ok endsA := by
  rw [String.toList_ofList]; decide +kernel

/-- the same language with a redundant third state -/
def endsA3 : DFA String String :=
  { Q := ["q", "r", "p"], Sigma := ["a", "b"],
    delta := [(("p", "a"), "q"), (("p", "b"), "p"), (("q", "a"), "r"), (("q", "b"), "p"), (("r", "a"), "q"),
              (("r", "b"), "p")], q0 := "p", F := ["q", "r"] }

theorem endsA3_parse :
    parseDfa "initial p\nfinal q r\np q a\np p b\nq r a\nq p b\nr q a\nr p b".toList = .ok endsA3 := by
  rw [String.toList_ofList]; decide +kernel

/-- words over {a,b} containing an `a` -/
def hasA : DFA String String :=
  { Q := ["p", "q"], Sigma := ["a", "b"],
    delta := [(("p", "a"), "q"), (("p", "b"), "p"), (("q", "a"), "q"), (("q", "b"), "q")], q0 := "p", F := ["q"] }

theorem hasA_parse : parseDfa "initial p\nfinal q\np q a\np p b\nq q a b".toList = .ok hasA := by
  rw [String.toList_ofList]; decide +kernel

/-- words over {a,b} of even length -/
def evenLen : DFA String String :=
  { Q := ["o", "e"], Sigma := ["a", "b"],
    delta := [(("e", "a"), "o"), (("e", "b"), "o"), (("o", "a"), "e"), (("o", "b"), "e")], q0 := "e", F := ["e"] }

theorem evenLen_parse : parseDfa "initial e\nfinal e\ne o a b\no e a b".toList = .ok evenLen := by
  rw [String.toList_ofList]; decide +kernel

/-- `p -a-> q -a-> q`, accepting `q` -/
def aPlus : DFA String String :=
  { Q := ["p", "q"], Sigma := ["a"], delta := [(("p", "a"), "q"), (("q", "a"), "q")], q0 := "p", F := ["q"] }

theorem aPlus_parse : parseDfa "initial p\nfinal q\np q a\nq q a".toList = .ok aPlus := by
  rw [String.toList_ofList]; decide +kernel

/-- the 4-state DFA `C04b.exC04b` as the parser lists its states -/
def fourStates : DFA String String :=
  { Q := ["1", "2", "0", "3"], Sigma := ["a", "b"],
    delta := [(("0", "a"), "1"), (("0", "b"), "2"), (("1", "a"), "3"), (("1", "b"), "0"), (("2", "a"), "3"),
              (("2", "b"), "0"), (("3", "a"), "3"), (("3", "b"), "3")], q0 := "0", F := ["3"] }

theorem fourStates_parse :
    parseDfa "initial 0\nfinal 3\n0 1 a\n0 2 b\n1 3 a\n1 0 b\n2 3 a\n2 0 b\n3 3 a b".toList = .ok fourStates := by
  rw [String.toList_ofList]; decide +kernel

/-- the product automaton of `endsA` and `evenLen` with the accepting states of the union -/
def unionAns : DFA String String :=
  { Q := ["(p,o)", "(q,e)", "(q,o)", "(p,e)"], Sigma := ["a", "b"],
    delta := [(("(p,e)", "a"), "(q,o)"), (("(p,e)", "b"), "(p,o)"), (("(p,o)", "a"), "(q,e)"), (("(p,o)", "b"), "(p,e)"),
              (("(q,e)", "a"), "(q,o)"), (("(q,e)", "b"), "(p,o)"), (("(q,o)", "a"), "(q,e)"), (("(q,o)", "b"), "(p,e)")],
    q0 := "(p,e)", F := ["(q,o)", "(q,e)", "(p,e)"] }

theorem unionAns_parse : parseDfa
    "initial (p,e)\nfinal (q,o) (q,e) (p,e)\n(p,e) (q,o) a\n(p,e) (p,o) b\n(p,o) (q,e) a\n(p,o) (p,e) b\n(q,e) (q,o) a\n(q,e) (p,o) b\n(q,o) (q,e) a\n(q,o) (p,e) b".toList
    CheckText.productStateOk = .ok unionAns := by
  rw [String.toList_ofList]; decide +kernel

/-- the same automaton with the accepting states of the intersection / with every state accepting -/
theorem interAns_parse : parseDfa
    "initial (p,e)\nfinal (q,e)\n(p,e) (q,o) a\n(p,e) (p,o) b\n(p,o) (q,e) a\n(p,o) (p,e) b\n(q,e) (q,o) a\n(q,e) (p,o) b\n(q,o) (q,e) a\n(q,o) (p,e) b".toList
    CheckText.productStateOk = .ok { unionAns with F := ["(q,e)"] } := by
  rw [String.toList_ofList]; decide +kernel

theorem allAns_parse : parseDfa
    "initial (p,e)\nfinal (q,o) (q,e) (p,e) (p,o)\n(p,e) (q,o) a\n(p,e) (p,o) b\n(p,o) (q,e) a\n(p,o) (p,e) b\n(q,e) (q,o) a\n(q,e) (p,o) b\n(q,o) (q,e) a\n(q,o) (p,e) b".toList
    CheckText.productStateOk = .ok { unionAns with F := ["(q,o)", "(q,e)", "(p,e)", "(p,o)"] } := by
  rw [String.toList_ofList]; decide +kernel

/-- the 3-state quotient of `fourStates`, with set-labelled states -/
def minAns : DFA String String :=
  { Q := ["{1,2}", "{0}", "{3}"], Sigma := ["a", "b"],
    delta := [(("{0}", "a"), "{1,2}"), (("{0}", "b"), "{1,2}"), (("{1,2}", "a"), "{3}"), (("{1,2}", "b"), "{0}"),
              (("{3}", "a"), "{3}"), (("{3}", "b"), "{3}")], q0 := "{0}", F := ["{3}"] }

theorem minAns_parse : parseDfa "initial {0}\nfinal {3}\n{0} {1,2} a b\n{1,2} {3} a\n{1,2} {0} b\n{3} {3} a b".toList
    CheckText.wordOrSetStateOk = .ok minAns := by
  rw [String.toList_ofList]; decide +kernel

/-- … with `{1,2}` accepting as well / with no accepting state -/
theorem minAns12_parse :
    parseDfa "initial {0}\nfinal {3} {1,2}\n{0} {1,2} a b\n{1,2} {3} a\n{1,2} {0} b\n{3} {3} a b".toList
    CheckText.wordOrSetStateOk = .ok { minAns with F := ["{3}", "{1,2}"] } := by
  rw [String.toList_ofList]; decide +kernel

theorem minAns0_parse : parseDfa "initial {0}\n{0} {1,2} a b\n{1,2} {3} a\n{1,2} {0} b\n{3} {3} a b".toList
    CheckText.wordOrSetStateOk = .ok { minAns with F := [] } := by
  rw [String.toList_ofList]; decide +kernel

/-- the reversal of `hasA`, with the fresh initial state `s` -/
def revAns : NFA String String :=
  { Q := ["s", "p", "q"], Sigma := ["a", "b"],
    delta := [(("s", "ε"), ["q"]), (("q", "a"), ["p", "q"]), (("p", "b"), ["p"]), (("q", "b"), ["q"])], q0 := "s",
    F := ["p"], eps := "ε" }

theorem revAns_parse : parseNfa "initial s\nfinal p\ns q ε\nq p a\np p b\nq q a b".toList = .ok revAns := by
  rw [String.toList_ofList]; decide +kernel

/-- … without the reversed loop `p -b-> p` / accepting in `q` as well -/
theorem revAnsNoLoop_parse : parseNfa "initial s\nfinal p\ns q ε\nq p a\nq q a b".toList =
    .ok { revAns with delta := [(("s", "ε"), ["q"]), (("q", "a"), ["p", "q"]), (("q", "b"), ["q"])] } := by
  rw [String.toList_ofList]; decide +kernel

theorem revAnsQ_parse : parseNfa "initial s\nfinal p q\ns q ε\nq p a\np p b\nq q a b".toList =
    .ok { revAns with F := ["p", "q"] } := by
  rw [String.toList_ofList]; decide +kernel

theorem exN_parse : parseNfa "initial A\nfinal B\nA B x ε".toList = .ok C12b.exN := by
  rw [String.toList_ofList]; decide +kernel

theorem exG_parse : CfgText.parseSimpleCfg "S -> AB | a\nA -> a\nB -> b".toList = .ok (C07.exG, "_") := by
  rw [String.toList_ofList]; decide +kernel

end C12ex
end Gamba
