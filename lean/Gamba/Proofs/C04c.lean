/-
  Gamba.Proofs.C04c — Hopcroft's algorithm (`DFA.hopcroft`, the model of `dfa_hopfcroft`):
  partial correctness of the loop for every fuel and pop order (`hopLoop_inv`), termination within the model's
  fuel (`hopLoop_terminates`), and both together for the routine (`hopcroft_eq_ok`, `hopcroft_total`).

  Invariant of the main loop (`HopInv D X st`, `X` = splitters that are "in flight", i.e. popped but
  not yet completely processed):
    * `st.P` is a duplicate-free partition of `D.Q` whose blocks respect `F`;
    * every block and every pending splitter is saturated for Nerode equivalence (`DFA.Sat`): this is the
      soundness half (states in different blocks are inequivalent);
    * for every block `B` and symbol `a ∈ Σ`: `Good st.P (X ++ st.W) a (· ∈ B)` — every refinement of the
      current partition that is stable w.r.t. all pending splitters `(Ws, a)` is stable w.r.t. `(B, a)`.
  With `W = []` the last clause says that the partition is stable, hence a congruence.
  The last clause is semantic on purpose.  In `dfa_hopfcroft` the test `if P in W_cal` is dead (a block is never equal
  to a (block, symbol) pair), so a split block that is still waiting stays in `W` as a stale entry `(P, b)` that is no
  block of the partition any more, and only the smaller half is added.  The textbook invariant ("for every block one
  of the halves is waiting") does not describe this `W`; "stability w.r.t. `B` follows from stability w.r.t. what is
  waiting" does, stale entries included.
-/
import Gamba.Proofs.MinBasic
namespace Gamba
set_option linter.unusedSectionVars false
variable {σ τ : Type} [DecidableEq σ] [DecidableEq τ]

theorem length_filter_ne {α : Type} [DecidableEq α] {l : List α} {x : α} (hn : l.Nodup) (hx : x ∈ l) :
    (l.filter (· ≠ x)).length + 1 = l.length := by
  have he : l.filter (· ≠ x) = l.erase x := by
    rw [hn.erase_eq_filter]
    exact List.filter_congr fun y _ => by simp only [ne_eq, decide_not]; rfl
  have := List.length_pos_of_mem hx
  rw [he, List.length_erase_of_mem hx]
  omega

def addAll (Sig : List τ) (M : List σ) (W : List (List σ × τ)) : List (List σ × τ) :=
  Sig.foldl (fun W b => sinsert W (M, b)) W

theorem mem_addAll {Sig : List τ} {M : List σ} {W : List (List σ × τ)} {e : List σ × τ} :
    e ∈ addAll Sig M W ↔ e ∈ W ∨ ∃ b, b ∈ Sig ∧ e = (M, b) :=
  mem_foldl_acc _ (fun b e => e = (M, b)) (fun _ _ _ => mem_sinsert) Sig W e

theorem length_addAll_le (Sig : List τ) (M : List σ) (W : List (List σ × τ)) :
    (addAll Sig M W).length ≤ W.length + Sig.length := by
  unfold addAll
  induction Sig generalizing W with
  | nil => simp
  | cons c Sig ih =>
    rw [List.foldl_cons]
    have h1 := ih (W := sinsert W (M, c))
    have h2 := length_sinsert_le W (M, c)
    simp only [List.length_cons]
    omega

theorem minBlock_cases (P Q : List σ) : minBlock P Q = P ∨ minBlock P Q = Q := by
  unfold minBlock; split
  · exact Or.inl rfl
  · exact Or.inr rfl

def DFA.Sat (D : DFA σ τ) (C : List σ) : Prop :=
  ∀ x y, x ∈ C → y ∈ D.Q → D.Equiv x y → y ∈ C

theorem DFA.sat_minBlock {D : DFA σ τ} {P1 P2 : List σ} (h1 : D.Sat P1) (h2 : D.Sat P2) :
    D.Sat (minBlock P1 P2) := by
  unfold minBlock
  split
  · exact h1
  · exact h2

def DFA.Stab (D : DFA σ τ) (P : List (List σ)) (C : σ → Prop) (a : τ) : Prop :=
  ∀ B, B ∈ P → ∀ p q, p ∈ B → q ∈ B → (C (D.next p a) ↔ C (D.next q a))

def Refines (P' P : List (List σ)) : Prop :=
  ∀ B', B' ∈ P' → ∃ B, B ∈ P ∧ ∀ x, x ∈ B' → x ∈ B

theorem Refines.refl (P : List (List σ)) : Refines P P := fun B hB => ⟨B, hB, fun _ h => h⟩

theorem Refines.trans {P1 P2 P3 : List (List σ)} (h12 : Refines P1 P2) (h23 : Refines P2 P3) :
    Refines P1 P3 := by
  intro B1 hB1
  obtain ⟨B2, hB2, h1⟩ := h12 B1 hB1
  obtain ⟨B3, hB3, h2⟩ := h23 B2 hB2
  exact ⟨B3, hB3, fun x hx => h2 x (h1 x hx)⟩

theorem DFA.Stab.mono {D : DFA σ τ} {P P' : List (List σ)} {C : σ → Prop} {a : τ}
    (h : D.Stab P C a) (hr : Refines P' P) : D.Stab P' C a := by
  intro B' hB' p q hp hq
  obtain ⟨B, hB, hsub⟩ := hr B' hB'
  exact h B hB p q (hsub p hp) (hsub q hq)

/-- stability w.r.t. `(C, a)` is owed by the pending splitters `W` (or already holds): every refinement of
    `P` that is stable w.r.t. all pending `(Ws, a)` is stable w.r.t. `(C, a)` -/
def DFA.Good (D : DFA σ τ) (P : List (List σ)) (W : List (List σ × τ)) (a : τ) (C : σ → Prop) : Prop :=
  ∀ P', Refines P' P → (∀ Ws, (Ws, a) ∈ W → D.Stab P' (· ∈ Ws) a) → D.Stab P' C a

theorem DFA.Good.of_pending {D : DFA σ τ} {P : List (List σ)} {W : List (List σ × τ)} {a : τ}
    {Ws : List σ} (h : (Ws, a) ∈ W) : D.Good P W a (· ∈ Ws) :=
  fun _ _ hW => hW Ws h

/-- monotonicity: refine the partition; every pending splitter either stays pending or has become stable -/
theorem DFA.Good.mono {D : DFA σ τ} {P P1 : List (List σ)} {W W1 : List (List σ × τ)} {a : τ}
    {C : σ → Prop} (h : D.Good P W a C) (hr : Refines P1 P)
    (hW : ∀ Ws, (Ws, a) ∈ W → (Ws, a) ∈ W1 ∨ D.Stab P1 (· ∈ Ws) a) : D.Good P1 W1 a C := by
  intro P' hP' hst
  apply h P' (hP'.trans hr)
  intro Ws hWs
  rcases hW Ws hWs with h1 | h1
  · exact hst Ws h1
  · exact h1.mono hP'

theorem DFA.Good.diff {D : DFA σ τ} {P : List (List σ)} {W : List (List σ × τ)} {a : τ}
    {C C1 C' : σ → Prop} (h : D.Good P W a C) (h1 : D.Good P W a C1)
    (hC' : ∀ x, C' x ↔ C x ∧ ¬ C1 x) : D.Good P W a C' := by
  intro P' hP' hst B hB p q hp hq
  rw [hC', hC', h P' hP' hst B hB p q hp hq, h1 P' hP' hst B hB p q hp hq]

/-- a block `U` that is owed stability is cut into `P1`, `P2`, and the smaller half is pending: both halves are
    owed stability (the larger one as the difference of `U` and the smaller one) -/
theorem DFA.Good.halves {D : DFA σ τ} {P : List (List σ)} {W : List (List σ × τ)} {a : τ} {U : σ → Prop}
    {P1 P2 : List σ} (hU : D.Good P W a U) (hmin : (minBlock P1 P2, a) ∈ W)
    (hu : ∀ x, U x ↔ x ∈ P1 ∨ x ∈ P2) (hdj : ∀ x, x ∈ P1 → x ∉ P2) :
    D.Good P W a (· ∈ P1) ∧ D.Good P W a (· ∈ P2) := by
  have hmin := DFA.Good.of_pending (D := D) (P := P) hmin
  rcases minBlock_cases P1 P2 with hm | hm <;> rw [hm] at hmin
  · refine ⟨hmin, hU.diff hmin fun x => ?_⟩
    rw [hu]
    exact ⟨fun hx => ⟨Or.inr hx, fun h => hdj x h hx⟩, fun hx => hx.1.resolve_left hx.2⟩
  · refine ⟨hU.diff hmin fun x => ?_, hmin⟩
    rw [hu]
    exact ⟨fun hx => ⟨Or.inl hx, hdj x hx⟩, fun hx => hx.1.resolve_right hx.2⟩

theorem DFA.Good.stab {D : DFA σ τ} {P : List (List σ)} {a : τ} {C : σ → Prop}
    (h : D.Good P [] a C) : D.Stab P C a :=
  h P (Refines.refl P) (fun _ hm => by cases hm)

/-- `(· ∈ Q)` is stable for every partition into subsets of `Q` -/
theorem DFA.good_Q {D : DFA σ τ} (hv : D.valid = true) {P : List (List σ)} {W : List (List σ × τ)}
    {a : τ} (ha : a ∈ D.Sigma) (hsub : ∀ B, B ∈ P → ∀ q, q ∈ B → q ∈ D.Q) :
    D.Good P W a (· ∈ D.Q) := by
  intro P' hP' _ B' hB' p q hp hq
  obtain ⟨B, hB, hs⟩ := hP' B' hB'
  have h1 := DFA.valid_next_mem hv (hsub B hB p (hs p hp)) ha
  have h2 := DFA.valid_next_mem hv (hsub B hB q (hs q hq)) ha
  exact ⟨fun _ => h2, fun _ => h1⟩

/-- loop invariant; `X` are the splitters in flight -/
structure DFA.HopInv (D : DFA σ τ) (X : List (List σ × τ)) (st : HopState σ τ) : Prop where
  part : D.IsPartition st.P
  nodup : st.P.Nodup
  fin : ∀ B, B ∈ st.P → ∀ p q, p ∈ B → q ∈ B → (p ∈ D.F ↔ q ∈ D.F)
  satP : ∀ B, B ∈ st.P → D.Sat B
  satW : ∀ e, e ∈ X ++ st.W → e.2 ∈ D.Sigma ∧ D.Sat e.1
  good : ∀ B, B ∈ st.P → ∀ a, a ∈ D.Sigma → D.Good st.P (X ++ st.W) a (· ∈ B)

def DFA.hopMeasure (D : DFA σ τ) (st : HopState σ τ) : Nat :=
  st.W.length + D.Sigma.length * (D.Q.length - st.P.length)

def DFA.hopSplit (D : DFA σ τ) (acc : HopState σ τ) (P P1 P2 : List σ) : HopState σ τ :=
  { P := (acc.P.filter (· ≠ P)) ++ [P1, P2]
    W := addAll D.Sigma (minBlock P1 P2) acc.W }

theorem DFA.mem_hopSplit_P {D : DFA σ τ} {acc : HopState σ τ} {P P1 P2 B : List σ} :
    B ∈ (D.hopSplit acc P P1 P2).P ↔ (B ∈ acc.P ∧ B ≠ P) ∨ B = P1 ∨ B = P2 := by
  simp [DFA.hopSplit]

theorem DFA.HopInv.split {D : DFA σ τ} {X : List (List σ × τ)} {acc : HopState σ τ}
    (hI : D.HopInv X acc) {P P1 P2 : List σ} (hP : P ∈ acc.P) (h1 : P1 ≠ []) (h2 : P2 ≠ [])
    (hu : ∀ x, x ∈ P ↔ x ∈ P1 ∨ x ∈ P2) (hdj : ∀ x, x ∈ P1 → x ∉ P2)
    (hs1 : D.Sat P1) (hs2 : D.Sat P2) : D.HopInv X (D.hopSplit acc P P1 P2) := by
  have hsub1 : ∀ x, x ∈ P1 → x ∈ P := fun x hx => (hu x).mpr (Or.inl hx)
  have hsub2 : ∀ x, x ∈ P2 → x ∈ P := fun x hx => (hu x).mpr (Or.inr hx)
  have hsubB : ∀ B, B ∈ (D.hopSplit acc P P1 P2).P → ∃ B0, B0 ∈ acc.P ∧ ∀ x, x ∈ B → x ∈ B0 := by
    intro B hB
    rcases DFA.mem_hopSplit_P.mp hB with ⟨hB, _⟩ | rfl | rfl
    · exact ⟨B, hB, fun _ h => h⟩
    · exact ⟨P, hP, hsub1⟩
    · exact ⟨P, hP, hsub2⟩
  have hne12 : P1 ≠ P2 := by
    rintro rfl
    obtain ⟨x, hx⟩ := List.exists_mem_of_ne_nil P1 h1
    exact hdj x hx hx
  have hnew : ∀ B, B ∈ acc.P → B ≠ P → ∀ Pi, Pi ≠ [] → (∀ x, x ∈ Pi → x ∈ P) → B ≠ Pi := by
    rintro B hB hBP Pi hPi hs rfl
    obtain ⟨x, hx⟩ := List.exists_mem_of_ne_nil B hPi
    exact hBP (hI.part.disj B P hB hP x hx (hs x hx))
  have hM : ∀ a, a ∈ D.Sigma → (minBlock P1 P2, a) ∈ X ++ (D.hopSplit acc P P1 P2).W := by
    intro a ha
    exact List.mem_append_right _ (mem_addAll.mpr (Or.inr ⟨a, ha, rfl⟩))
  have hWsub : ∀ e, e ∈ X ++ acc.W → e ∈ X ++ (D.hopSplit acc P P1 P2).W := by
    intro e he
    rcases List.mem_append.mp he with h | h
    · exact List.mem_append_left _ h
    · exact List.mem_append_right _ (mem_addAll.mpr (Or.inl h))
  refine ⟨⟨?_, ?_, ?_, ?_⟩, ?_, ?_, ?_, ?_, ?_⟩
  · -- nonempty
    intro B hB
    rcases DFA.mem_hopSplit_P.mp hB with ⟨hB, _⟩ | rfl | rfl
    · exact hI.part.nonempty B hB
    · exact h1
    · exact h2
  · -- sub
    intro B hB q hq
    obtain ⟨B0, hB0, hs⟩ := hsubB B hB
    exact hI.part.sub B0 hB0 q (hs q hq)
  · -- cover
    intro q hq
    obtain ⟨B, hB, hqB⟩ := hI.part.cover q hq
    by_cases hBP : B = P
    · subst hBP
      rcases (hu q).mp hqB with h | h
      · exact ⟨P1, DFA.mem_hopSplit_P.mpr (Or.inr (Or.inl rfl)), h⟩
      · exact ⟨P2, DFA.mem_hopSplit_P.mpr (Or.inr (Or.inr rfl)), h⟩
    · exact ⟨B, DFA.mem_hopSplit_P.mpr (Or.inl ⟨hB, hBP⟩), hqB⟩
  · -- disj
    intro B C hB hC q hqB hqC
    rcases DFA.mem_hopSplit_P.mp hB with ⟨hB', hBP⟩ | hB' | hB' <;>
      rcases DFA.mem_hopSplit_P.mp hC with ⟨hC', hCP⟩ | hC' | hC'
    · exact hI.part.disj B C hB' hC' q hqB hqC
    · exact absurd (hI.part.disj B P hB' hP q hqB (hsub1 q (hC' ▸ hqC))) hBP
    · exact absurd (hI.part.disj B P hB' hP q hqB (hsub2 q (hC' ▸ hqC))) hBP
    · exact absurd (hI.part.disj C P hC' hP q hqC (hsub1 q (hB' ▸ hqB))) hCP
    · rw [hB', hC']
    · exact absurd (hC' ▸ hqC) (hdj q (hB' ▸ hqB))
    · exact absurd (hI.part.disj C P hC' hP q hqC (hsub2 q (hB' ▸ hqB))) hCP
    · exact absurd (hB' ▸ hqB) (hdj q (hC' ▸ hqC))
    · rw [hB', hC']
  · -- nodup
    show ((acc.P.filter (· ≠ P)) ++ [P1, P2]).Nodup
    rw [List.nodup_append]
    refine ⟨List.Nodup.sublist List.filter_sublist hI.nodup, ?_, ?_⟩
    · simp [hne12]
    · intro B hB C hC
      simp only [ne_eq, decide_not, List.mem_filter, Bool.not_eq_eq_eq_not, Bool.not_true,
        decide_eq_false_iff_not] at hB
      simp only [List.mem_cons, List.not_mem_nil, or_false] at hC
      rcases hC with rfl | rfl
      · exact hnew B hB.1 hB.2 _ h1 hsub1
      · exact hnew B hB.1 hB.2 _ h2 hsub2
  · -- fin
    intro B hB p q hp hq
    obtain ⟨B0, hB0, hs⟩ := hsubB B hB
    exact hI.fin B0 hB0 p q (hs p hp) (hs q hq)
  · -- satP
    intro B hB
    rcases DFA.mem_hopSplit_P.mp hB with ⟨hB, _⟩ | rfl | rfl
    · exact hI.satP B hB
    · exact hs1
    · exact hs2
  · -- satW
    intro e he
    rcases List.mem_append.mp he with h | h
    · exact hI.satW e (List.mem_append_left _ h)
    · rcases mem_addAll.mp h with h | ⟨b, hb, rfl⟩
      · exact hI.satW e (List.mem_append_right _ h)
      · exact ⟨hb, DFA.sat_minBlock hs1 hs2⟩
  · -- good
    intro B hB a ha
    have hold : ∀ B0, B0 ∈ acc.P →
        D.Good (D.hopSplit acc P P1 P2).P (X ++ (D.hopSplit acc P P1 P2).W) a (· ∈ B0) :=
      fun B0 hB0 => (hI.good B0 hB0 a ha).mono hsubB (fun Ws hWs => Or.inl (hWsub _ hWs))
    obtain ⟨g1, g2⟩ := (hold P hP).halves (hM a ha) hu hdj
    rcases DFA.mem_hopSplit_P.mp hB with ⟨hB, _⟩ | rfl | rfl
    · exact hold B hB
    · exact g1
    · exact g2

theorem DFA.HopInv.split_measure {D : DFA σ τ} {X : List (List σ × τ)} {acc : HopState σ τ}
    (hI : D.HopInv X acc) {P P1 P2 : List σ} (hP : P ∈ acc.P)
    (hI' : D.HopInv X (D.hopSplit acc P P1 P2)) :
    D.hopMeasure (D.hopSplit acc P P1 P2) ≤ D.hopMeasure acc := by
  have hlen : (D.hopSplit acc P P1 P2).P.length = acc.P.length + 1 := by
    have := length_filter_ne hI.nodup hP
    simp only [DFA.hopSplit, List.length_append, List.length_cons, List.length_nil]
    omega
  have hle := hI'.part.length_le hI'.nodup
  have hW : (D.hopSplit acc P P1 P2).W.length ≤ acc.W.length + D.Sigma.length :=
    length_addAll_le D.Sigma _ acc.W
  unfold DFA.hopMeasure
  rw [hlen] at hle ⊢
  have : D.Q.length - acc.P.length = (D.Q.length - (acc.P.length + 1)) + 1 := by omega
  rw [this, Nat.mul_succ]
  omega

/-- the body of the `for P in P_cal_copy` loop -/
def DFA.hopStep (D : DFA σ τ) (Ws : List σ) (a : τ) (acc : HopState σ τ) (P : List σ) : HopState σ τ :=
  if P.length = 1 then acc else
  let (P1, P2) := D.hsplit Ws a P
  if P1.isEmpty || P2.isEmpty then acc else
  { P := (acc.P.filter (· ≠ P)) ++ [P1, P2]
    W := D.Sigma.foldl (fun W b => sinsert W (minBlock P1 P2, b)) acc.W }

theorem DFA.hopRefine_eq (D : DFA σ τ) (Ws : List σ) (a : τ) (st : HopState σ τ) :
    D.hopRefine Ws a st = st.P.foldl (D.hopStep Ws a) st := rfl

def DFA.StabB (D : DFA σ τ) (Ws : List σ) (a : τ) (B : List σ) : Prop :=
  ∀ p q, p ∈ B → q ∈ B → (D.next p a ∈ Ws ↔ D.next q a ∈ Ws)

theorem DFA.mem_hsplit_1 {D : DFA σ τ} {Ws : List σ} {a : τ} {P : List σ} {x : σ} :
    x ∈ (D.hsplit Ws a P).1 ↔ x ∈ P ∧ D.next x a ∈ Ws := by
  simp [DFA.hsplit]

theorem DFA.mem_hsplit_2 {D : DFA σ τ} {Ws : List σ} {a : τ} {P : List σ} {x : σ} :
    x ∈ (D.hsplit Ws a P).2 ↔ x ∈ P ∧ D.next x a ∉ Ws := by
  simp [DFA.hsplit]

theorem DFA.StabB.of_mem {D : DFA σ τ} {Ws : List σ} {a : τ} {B : List σ} (h : ∀ p, p ∈ B → D.next p a ∈ Ws) :
    D.StabB Ws a B := fun p q hp hq => ⟨fun _ => h q hq, fun _ => h p hp⟩

theorem DFA.StabB.of_not_mem {D : DFA σ τ} {Ws : List σ} {a : τ} {B : List σ} (h : ∀ p, p ∈ B → D.next p a ∉ Ws) :
    D.StabB Ws a B := fun p q hp hq => ⟨fun h' => absurd h' (h p hp), fun h' => absurd h' (h q hq)⟩

theorem DFA.hopStep_cases (D : DFA σ τ) (Ws : List σ) (a : τ) (acc : HopState σ τ) (P : List σ) :
    (D.hopStep Ws a acc P = acc ∧ D.StabB Ws a P) ∨
    ((D.hsplit Ws a P).1 ≠ [] ∧ (D.hsplit Ws a P).2 ≠ [] ∧
      D.hopStep Ws a acc P = D.hopSplit acc P (D.hsplit Ws a P).1 (D.hsplit Ws a P).2) := by
  unfold DFA.hopStep
  by_cases hlen : P.length = 1
  · rw [if_pos hlen]
    refine Or.inl ⟨rfl, fun p q hp hq => ?_⟩
    obtain ⟨x, rfl⟩ := List.length_eq_one_iff.mp hlen
    rw [List.mem_singleton.mp hp, List.mem_singleton.mp hq]
  · rw [if_neg hlen]
    simp only []
    by_cases h1 : (D.hsplit Ws a P).1 = []
    · rw [h1]
      exact Or.inl ⟨if_pos rfl, .of_not_mem fun p hp h => List.not_mem_nil (h1 ▸ DFA.mem_hsplit_1.mpr ⟨hp, h⟩)⟩
    · by_cases h2 : (D.hsplit Ws a P).2 = []
      · rw [h2]
        exact Or.inl ⟨if_pos (Bool.or_true _), .of_mem fun p hp =>
          Classical.not_not.mp fun h => List.not_mem_nil (h2 ▸ DFA.mem_hsplit_2.mpr ⟨hp, h⟩)⟩
      · rw [List.isEmpty_eq_false_iff.mpr h1, List.isEmpty_eq_false_iff.mpr h2]
        exact Or.inr ⟨h1, h2, rfl⟩

theorem DFA.sat_hsplit {D : DFA σ τ} (hv : D.valid = true) {Ws : List σ} {a : τ} (ha : a ∈ D.Sigma)
    (hW : D.Sat Ws) {P : List σ} (hP : D.Sat P) (hsub : ∀ q, q ∈ P → q ∈ D.Q) :
    D.Sat (D.hsplit Ws a P).1 ∧ D.Sat (D.hsplit Ws a P).2 := by
  refine ⟨fun x y hx hy he => ?_, fun x y hx hy he => ?_⟩
  · rw [DFA.mem_hsplit_1] at hx ⊢
    exact ⟨hP x y hx.1 hy he, hW _ _ hx.2 (DFA.valid_next_mem hv hy ha) (he.next ha)⟩
  · rw [DFA.mem_hsplit_2] at hx ⊢
    exact ⟨hP x y hx.1 hy he, fun hn =>
      hx.2 (hW _ _ hn (DFA.valid_next_mem hv (hsub x hx.1) ha) (he.next ha).symm)⟩

theorem DFA.hop_fold {D : DFA σ τ} (hv : D.valid = true) {Ws : List σ} {a : τ} (L : List (List σ))
    (acc : HopState σ τ) (hI : D.HopInv [(Ws, a)] acc) (hn : L.Nodup) (hL : ∀ P, P ∈ L → P ∈ acc.P)
    (hst : ∀ B, B ∈ acc.P → B ∈ L ∨ D.StabB Ws a B) :
    D.HopInv [(Ws, a)] (L.foldl (D.hopStep Ws a) acc) ∧
    (∀ B, B ∈ (L.foldl (D.hopStep Ws a) acc).P → D.StabB Ws a B) ∧
    D.hopMeasure (L.foldl (D.hopStep Ws a) acc) ≤ D.hopMeasure acc := by
  induction L generalizing acc with
  | nil =>
    refine ⟨hI, ?_, Nat.le_refl _⟩
    intro B hB
    rcases hst B hB with h | h
    · cases h
    · exact h
  | cons P L ih =>
    rw [List.nodup_cons] at hn
    rw [List.foldl_cons]
    have hP : P ∈ acc.P := hL P List.mem_cons_self
    rcases D.hopStep_cases Ws a acc P with ⟨he, hsP⟩ | ⟨h1, h2, he⟩
    · rw [he]
      apply ih acc hI hn.2 (fun Q hQ => hL Q (List.mem_cons_of_mem _ hQ))
      intro B hB
      rcases hst B hB with h | h
      · rcases List.mem_cons.mp h with rfl | h
        · exact Or.inr hsP
        · exact Or.inl h
      · exact Or.inr h
    · rw [he]
      have hWs := hI.satW (Ws, a) List.mem_cons_self
      have hsub := hI.part.sub P hP
      have hI' : D.HopInv [(Ws, a)] (D.hopSplit acc P (D.hsplit Ws a P).1 (D.hsplit Ws a P).2) := by
        apply hI.split hP h1 h2
        · intro x
          rw [DFA.mem_hsplit_1, DFA.mem_hsplit_2]
          by_cases hx : D.next x a ∈ Ws <;> simp [hx]
        · exact fun x hx1 hx2 => (DFA.mem_hsplit_2.mp hx2).2 (DFA.mem_hsplit_1.mp hx1).2
        · exact (DFA.sat_hsplit hv hWs.1 hWs.2 (hI.satP P hP) hsub).1
        · exact (DFA.sat_hsplit hv hWs.1 hWs.2 (hI.satP P hP) hsub).2
      have hm := hI.split_measure hP hI'
      have := ih _ hI' hn.2
        (fun Q hQ => DFA.mem_hopSplit_P.mpr (Or.inl ⟨hL Q (List.mem_cons_of_mem _ hQ), by
          rintro rfl; exact hn.1 hQ⟩))
        (by
          intro B hB
          rcases DFA.mem_hopSplit_P.mp hB with ⟨hB', hBP⟩ | rfl | rfl
          · rcases hst B hB' with h | h
            · rcases List.mem_cons.mp h with rfl | h
              · exact absurd rfl hBP
              · exact Or.inl h
            · exact Or.inr h
          · exact Or.inr (.of_mem fun p hp => (DFA.mem_hsplit_1.mp hp).2)
          · exact Or.inr (.of_not_mem fun p hp => (DFA.mem_hsplit_2.mp hp).2))
      exact ⟨this.1, this.2.1, Nat.le_trans this.2.2 hm⟩

theorem DFA.hopRefine_inv {D : DFA σ τ} (hv : D.valid = true) {Ws : List σ} {a : τ} {st : HopState σ τ}
    (hI : D.HopInv [(Ws, a)] st) :
    D.HopInv [] (D.hopRefine Ws a st) ∧ D.hopMeasure (D.hopRefine Ws a st) ≤ D.hopMeasure st := by
  rw [DFA.hopRefine_eq]
  obtain ⟨hJ, hS, hm⟩ := DFA.hop_fold hv st.P st hI hI.nodup (fun _ h => h) (fun _ h => Or.inl h)
  refine ⟨⟨hJ.part, hJ.nodup, hJ.fin, hJ.satP, ?_, ?_⟩, hm⟩
  · intro e he
    exact hJ.satW e (List.mem_append_right _ (by simpa using he))
  · intro B hB b hb
    apply (hJ.good B hB b hb).mono (Refines.refl _)
    intro Ws' hWs'
    rcases List.mem_append.mp hWs' with h | h
    · right
      cases List.mem_singleton.mp h
      intro C hC p q hp hq
      exact hS C hC p q hp hq
    · left
      simpa using h

theorem DFA.HopInv.pop {D : DFA σ τ} {st : HopState σ τ} (hI : D.HopInv [] st) {i : Nat} {Ws : List σ}
    {a : τ} {rest : List (List σ × τ)} (hp : pickAt st.W i = some ((Ws, a), rest)) :
    D.HopInv [(Ws, a)] { st with W := rest } ∧
      D.hopMeasure { st with W := rest } + 1 = D.hopMeasure st := by
  have hmem : ∀ e, e ∈ [(Ws, a)] ++ rest ↔ e ∈ [] ++ st.W := by
    intro e
    rw [List.nil_append, pickAt_mem_iff hp e]
    simp
  refine ⟨⟨hI.part, hI.nodup, hI.fin, hI.satP, ?_, ?_⟩, ?_⟩
  · intro e he
    exact hI.satW e ((hmem e).mp he)
  · intro B hB b hb
    apply (hI.good B hB b hb).mono (Refines.refl _)
    intro Ws' hWs'
    exact Or.inl ((hmem _).mpr hWs')
  · have := pickAt_length hp
    simp only [DFA.hopMeasure]
    omega

theorem DFA.hopLoop_inv {D : DFA σ τ} (hv : D.valid = true) (fuel : Nat) (s : Sched) (st r : HopState σ τ)
    (hI : D.HopInv [] st) (h : D.hopLoop fuel s st = .ok r) : D.HopInv [] r ∧ r.W = [] := by
  induction fuel generalizing s st with
  | zero =>
    simp only [DFA.hopLoop] at h
    split at h
    · rename_i he
      cases h
      exact ⟨hI, List.isEmpty_iff.mp he⟩
    · cases h
  | succ fuel ih =>
    simp only [DFA.hopLoop] at h
    split at h
    · rename_i hp
      cases h
      exact ⟨hI, pickAt_none hp⟩
    · rename_i Ws a rest hp
      obtain ⟨hI1, _⟩ := hI.pop hp
      exact ih _ _ (DFA.hopRefine_inv hv hI1).1 h

theorem DFA.hopLoop_terminates {D : DFA σ τ} (hv : D.valid = true) (fuel : Nat) (s : Sched)
    (st : HopState σ τ) (hI : D.HopInv [] st) (hm : D.hopMeasure st ≤ fuel) :
    ∃ r, D.hopLoop fuel s st = .ok r := by
  induction fuel generalizing s st with
  | zero =>
    have hW : st.W = [] := by
      unfold DFA.hopMeasure at hm
      exact List.eq_nil_of_length_eq_zero (by omega)
    exact ⟨st, by simp [DFA.hopLoop, hW]⟩
  | succ fuel ih =>
    simp only [DFA.hopLoop]
    split
    · exact ⟨st, rfl⟩
    · rename_i Ws a rest hp
      obtain ⟨hI1, hm1⟩ := hI.pop hp
      obtain ⟨hI2, hm2⟩ := DFA.hopRefine_inv hv hI1
      apply ih _ _ hI2
      omega

theorem DFA.mem_canonBlock {D : DFA σ τ} {B : List σ} {x : σ} : x ∈ D.canonBlock B ↔ x ∈ D.Q ∧ x ∈ B := by
  simp [DFA.canonBlock]

def DFA.hopInit (D : DFA σ τ) : HopState σ τ :=
  { P := dedup ([D.canonBlock D.F, D.canonBlock (sdiff D.Q D.F)].filter (fun B => !B.isEmpty))
    W := addAll D.Sigma (minBlock (D.canonBlock D.F) (D.canonBlock (sdiff D.Q D.F))) [] }

theorem DFA.hopcroft_eq (D : DFA σ τ) (s : Sched) :
    D.hopcroft s = (D.hopLoop (D.Sigma.length * (D.Q.length + 2) + 1) s D.hopInit).bind
      (fun st => DFA.checked (D.ofBlocks st.P)) := rfl

theorem DFA.mem_hopInit_P {D : DFA σ τ} {B : List σ} :
    B ∈ D.hopInit.P ↔ (B = D.canonBlock D.F ∨ B = D.canonBlock (sdiff D.Q D.F)) ∧ B ≠ [] := by
  simp only [DFA.hopInit, mem_dedup, List.mem_filter, List.mem_cons, List.not_mem_nil, or_false,
    Bool.not_eq_true', List.isEmpty_eq_false_iff]

theorem DFA.sat_canonF (D : DFA σ τ) : D.Sat (D.canonBlock D.F) := by
  intro x y hx hy he
  rw [DFA.mem_canonBlock] at hx ⊢
  exact ⟨hy, he.fin.mp hx.2⟩

theorem DFA.sat_canonNF (D : DFA σ τ) : D.Sat (D.canonBlock (sdiff D.Q D.F)) := by
  intro x y hx hy he
  rw [DFA.mem_canonBlock, mem_sdiff] at hx ⊢
  exact ⟨hy, hy, fun h => hx.2.2 (he.fin.mpr h)⟩

theorem DFA.hopInit_inv {D : DFA σ τ} (hv : D.valid = true) : D.HopInv [] D.hopInit := by
  have hF : ∀ x, x ∈ D.canonBlock D.F ↔ x ∈ D.Q ∧ x ∈ D.F := fun x => DFA.mem_canonBlock
  have hNF : ∀ x, x ∈ D.canonBlock (sdiff D.Q D.F) ↔ x ∈ D.Q ∧ x ∉ D.F := by
    intro x
    rw [DFA.mem_canonBlock, mem_sdiff]
    exact ⟨fun h => h.2, fun h => ⟨h.1, h⟩⟩
  -- a state of `Q` determines its block
  have hblock : ∀ B, B ∈ D.hopInit.P → ∀ q, q ∈ B →
      q ∈ D.Q ∧ B = if q ∈ D.F then D.canonBlock D.F else D.canonBlock (sdiff D.Q D.F) := by
    intro B hB q hq
    rcases (DFA.mem_hopInit_P.mp hB).1 with rfl | rfl
    · exact ⟨((hF q).mp hq).1, (if_pos ((hF q).mp hq).2).symm⟩
    · exact ⟨((hNF q).mp hq).1, (if_neg ((hNF q).mp hq).2).symm⟩
  have hsubP : ∀ B, B ∈ D.hopInit.P → ∀ q, q ∈ B → q ∈ D.Q := fun B hB q hq => (hblock B hB q hq).1
  have hM : ∀ a, a ∈ D.Sigma →
      (minBlock (D.canonBlock D.F) (D.canonBlock (sdiff D.Q D.F)), a) ∈ [] ++ D.hopInit.W := by
    intro a ha
    rw [List.nil_append]
    exact mem_addAll.mpr (Or.inr ⟨a, ha, rfl⟩)
  refine ⟨⟨?_, hsubP, ?_, ?_⟩, nodup_dedup _, ?_, ?_, ?_, ?_⟩
  · intro B hB; exact (DFA.mem_hopInit_P.mp hB).2
  · intro q hq
    by_cases hqF : q ∈ D.F
    · have : q ∈ D.canonBlock D.F := (hF q).mpr ⟨hq, hqF⟩
      exact ⟨_, DFA.mem_hopInit_P.mpr ⟨Or.inl rfl, List.ne_nil_of_mem this⟩, this⟩
    · have : q ∈ D.canonBlock (sdiff D.Q D.F) := (hNF q).mpr ⟨hq, hqF⟩
      exact ⟨_, DFA.mem_hopInit_P.mpr ⟨Or.inr rfl, List.ne_nil_of_mem this⟩, this⟩
  · intro B C hB hC q hqB hqC
    exact (hblock B hB q hqB).2.trans (hblock C hC q hqC).2.symm
  · intro B hB p q hp hq
    rcases (DFA.mem_hopInit_P.mp hB).1 with rfl | rfl
    · exact ⟨fun _ => ((hF q).mp hq).2, fun _ => ((hF p).mp hp).2⟩
    · exact ⟨fun h => absurd h ((hNF p).mp hp).2, fun h => absurd h ((hNF q).mp hq).2⟩
  · intro B hB
    rcases (DFA.mem_hopInit_P.mp hB).1 with rfl | rfl
    · exact D.sat_canonF
    · exact D.sat_canonNF
  · intro e he
    rw [List.nil_append] at he
    rcases mem_addAll.mp he with h | ⟨b, hb, rfl⟩
    · cases h
    · exact ⟨hb, DFA.sat_minBlock D.sat_canonF D.sat_canonNF⟩
  · intro B hB a ha
    have hQ : D.Good D.hopInit.P ([] ++ D.hopInit.W) a (· ∈ D.Q) := DFA.good_Q hv ha hsubP
    obtain ⟨g1, g2⟩ := hQ.halves (hM a ha)
      (fun x => by
        rw [hF, hNF]
        exact ⟨fun h => (Classical.em (x ∈ D.F)).imp (And.intro h) (And.intro h), fun h => h.elim And.left And.left⟩)
      (fun x h1 h2 => ((hNF x).mp h2).2 ((hF x).mp h1).2)
    rcases (DFA.mem_hopInit_P.mp hB).1 with rfl | rfl
    · exact g1
    · exact g2

theorem DFA.hopInit_measure {D : DFA σ τ} :
    D.hopMeasure D.hopInit ≤ D.Sigma.length * (D.Q.length + 2) := by
  unfold DFA.hopMeasure
  have h1 : D.hopInit.W.length ≤ D.Sigma.length := by
    have := length_addAll_le D.Sigma (minBlock (D.canonBlock D.F) (D.canonBlock (sdiff D.Q D.F))) []
    simpa [DFA.hopInit] using this
  have h2 : D.Sigma.length * (D.Q.length - D.hopInit.P.length) ≤ D.Sigma.length * D.Q.length :=
    Nat.mul_le_mul_left _ (Nat.sub_le _ _)
  rw [Nat.mul_add]
  omega

/-- soundness half alone (no stability needed): the blocks of every state satisfying the invariant partition
    `Q`, respect `F`, and states in different blocks are inequivalent -/
theorem DFA.HopInv.sound {D : DFA σ τ} {X : List (List σ × τ)} {st : HopState σ τ} (hI : D.HopInv X st) :
    D.IsPartition st.P ∧ (∀ B, B ∈ st.P → ∀ p q, p ∈ B → q ∈ B → (p ∈ D.F ↔ q ∈ D.F)) ∧
    (∀ B C, B ∈ st.P → C ∈ st.P → ∀ p q, p ∈ B → q ∈ C → D.Equiv p q → B = C) :=
  ⟨hI.part, hI.fin, fun B C hB hCm p q hp hq he =>
    hI.part.disj B C hB hCm q (hI.satP B hB p q hp (hI.part.sub C hCm q hq) he) hq⟩

theorem DFA.HopInv.isNerode {D : DFA σ τ} (hv : D.valid = true) {st : HopState σ τ}
    (hI : D.HopInv [] st) (hW : st.W = []) : D.IsNerode st.P := by
  have hC : D.IsCongr st.P := by
    refine ⟨hI.part, hI.fin, ?_⟩
    intro B hB p q hp hq a ha
    have hpQ := DFA.valid_next_mem hv (hI.part.sub B hB p hp) ha
    obtain ⟨hC1, hC2⟩ := hI.part.blockOf_mem hpQ
    have hg := hI.good _ hC1 a ha
    rw [hW] at hg
    have := (hg.stab B hB p q hp hq).mp hC2
    exact (hI.part.blockOf_eq hC1 this).symm
  exact hC.isNerode hv hI.sound.2.2

theorem DFA.hopcroft_eq_ok (D : DFA σ τ) (hv : D.valid = true) (s : Sched) :
    ∃ blocks, D.hopcroft s = .ok (D.ofBlocks blocks) ∧ D.IsNerode blocks := by
  obtain ⟨st, hl⟩ := DFA.hopLoop_terminates hv (D.Sigma.length * (D.Q.length + 2) + 1) s D.hopInit
    (DFA.hopInit_inv hv) (Nat.le_succ_of_le DFA.hopInit_measure)
  obtain ⟨hI, hW⟩ := DFA.hopLoop_inv hv _ s _ st (DFA.hopInit_inv hv) hl
  have hN := hI.isNerode hv hW
  refine ⟨st.P, ?_, hN⟩
  rw [DFA.hopcroft_eq, hl]
  exact D.checked_ofBlocks hv hN

theorem DFA.hopcroft_ok {D : DFA σ τ} (hv : D.valid = true) {s : Sched} {M : DFA (List σ) τ}
    (h : D.hopcroft s = .ok M) : ∃ blocks, D.IsNerode blocks ∧ M = D.ofBlocks blocks :=
  let ⟨blocks, hb, hN⟩ := D.hopcroft_eq_ok hv s
  ⟨blocks, hN, Except.ok.inj (h.symm.trans hb)⟩

/-- total correctness for every pop order, in the form of the property -/
theorem DFA.hopcroft_total (D : DFA σ τ) (hv : D.valid = true) (s : Sched) :
    ∃ M, D.hopcroft s = .ok M ∧ M.valid = true ∧ M.Sigma = D.Sigma ∧ D.IsNerode M.Q ∧
      (∀ w, (∀ a, a ∈ w → a ∈ D.Sigma) → (M.Accepts w ↔ D.Accepts w)) ∧
      (∀ B C, B ∈ M.Q → C ∈ M.Q → B ≠ C → M.Dist B C) :=
  D.minimiser_spec hv (D.hopcroft_eq_ok hv s)

end Gamba
