/-
  Gamba.Proofs.C12c — what the text-level checkers (Model/CheckText.lean) rest on.
  1. what a result of `parseSimpleCfg` satisfies (`CfgText.ParsedCfg` in Proofs/C16e; for `parseDfa` / `parseNfa` and ANY state-label
     predicate: `Parse.ParsedDfa`, `ParsedNfa` in Proofs/C16a, C16b; for `parsePda`: `Parse.ParsedPda` in Proofs/C16c);
  2. the verdict functions `ofBool`, `ofExcept`, and each text-level checker unpacked when its verdict is `.ok`: every
     argument parses and the object-level check succeeds.
-/
import Gamba.Model.CheckText
import Gamba.Proofs.C16e
namespace Gamba
open Parse

namespace C12c

theorem parseSimpleCfg_ok_valid {text : List Char} {G : CFG} {eps : String}
    (h : CfgText.parseSimpleCfg text = .ok (G, eps)) : G.valid = true := (CfgText.parsedCfg_of h).valid

theorem ofBool_ok_iff (b : Bool) : CheckText.ofBool b = .ok ↔ b = true := by
  cases b <;> simp [CheckText.ofBool]

theorem ofExcept_ok_iff (e : Except Err Bool) : CheckText.ofExcept e = .ok ↔ e = .ok true := by
  cases e with
  | error x => simp [CheckText.ofExcept]
  | ok b => simp [CheckText.ofExcept, ofBool_ok_iff]

theorem ofBool_error (b : Bool) : CheckText.ofBool b ≠ .error := by cases b <;> decide

theorem ofBool_feedback_iff (b : Bool) : CheckText.ofBool b = .feedback ↔ b = false := by cases b <;> decide

open CheckText in
theorem complement_unpack {answer dfa1 : String} (h : complement answer dfa1 = .ok) :
    ∃ D1 A, parseDfa dfa1.toList = .ok D1 ∧ parseDfa answer.toList = .ok A ∧ Check.complementCheck D1 A = true := by
  unfold complement at h
  split at h
  · rename_i D1 A h1 h2
    exact ⟨D1, A, h1, h2, (ofBool_ok_iff _).mp h⟩
  · cases h

open CheckText in
theorem product_unpack {t : ProductType} {answer dfa1 dfa2 : String} {len : Nat}
    (h : product t answer dfa1 dfa2 len = .ok) :
    ∃ D1 D2 A, parseDfa dfa1.toList = .ok D1 ∧ parseDfa dfa2.toList = .ok D2 ∧
      parseDfa answer.toList productStateOk = .ok A ∧ Check.productCheck t D1 D2 A len = some true := by
  unfold product at h
  split at h
  · rename_i D1 D2 A h1 h2 h3
    split at h
    · rename_i b hb
      rw [(ofBool_ok_iff _).mp h] at hb
      exact ⟨D1, D2, A, h1, h2, h3, hb⟩
    · cases h
  · cases h

open CheckText in
theorem reverse_unpack {dfa answer : String} {s : Sched} {len : Nat} (h : reverse dfa answer s len = .ok) :
    ∃ D A, parseDfa dfa.toList = .ok D ∧ parseNfa answer.toList = .ok A ∧ Check.reverseCheck D A s len = .ok true := by
  unfold reverse at h
  split at h
  · rename_i D A h1 h2
    exact ⟨D, A, h1, h2, (ofExcept_ok_iff _).mp h⟩
  · cases h

open CheckText in
theorem minimal_unpack {dfa answer : String} {len : Nat} (h : minimal dfa answer len = .ok) :
    ∃ D A, parseDfa dfa.toList = .ok D ∧ parseDfa answer.toList wordOrSetStateOk = .ok A ∧
      Check.minimalCheck D A len = .ok true := by
  unfold minimal at h
  split at h
  · rename_i D A h1 h2
    exact ⟨D, A, h1, h2, (ofExcept_ok_iff _).mp h⟩
  · cases h

open CheckText in
theorem nfa2dfa_unpack {nfa answer : String} {s : Sched} (h : nfa2dfa nfa answer s = .ok) :
    ∃ N A, parseNfa nfa.toList = .ok N ∧ parseNfa answer.toList setStateOk = .ok A ∧
      Check.nfaToDfaCheck N A s = .ok true := by
  unfold nfa2dfa at h
  split at h
  · rename_i N A h1 h2
    exact ⟨N, A, h1, h2, (ofExcept_ok_iff _).mp h⟩
  · cases h

open CheckText in
theorem dfa2regexp_unpack {dfa answer : String} {len : Nat} (h : dfa2regexp dfa answer len = .ok) :
    ∃ D r, parseDfa dfa.toList = .ok D ∧ RegexpText.parseSimple answer = some r ∧
      Check.equalLanguages (r.wordsUpTo len) (D.wordsUpTo len) = true := by
  unfold dfa2regexp at h
  split at h
  · rename_i D r h1 h2
    exact ⟨D, r, h1, h2, (ofBool_ok_iff _).mp h⟩
  · cases h

open CheckText in
theorem cyk_unpack {cfg word answer : String} (h : cyk cfg word answer = .ok) :
    ∃ G eps, CfgText.parseSimpleCfg cfg.toList = .ok (G, eps) ∧
      Check.cykCheck G (word.toList.map String.singleton) answer = .ok true := by
  unfold cyk at h
  split at h
  · rename_i G eps h1
    exact ⟨G, eps, h1, (ofExcept_ok_iff _).mp h⟩
  · cases h

open CheckText in
theorem derivation_unpack {cfg deriv word : String} {kind : Nat} (h : derivation cfg deriv word kind = .ok) :
    ∃ G eps, CfgText.parseSimpleCfg cfg.toList = .ok (G, eps) ∧
      Check.derivationCheck G deriv (word.toList.map String.singleton) kind = true := by
  unfold derivation at h
  split at h
  · rename_i G eps h1
    exact ⟨G, eps, h1, (ofBool_ok_iff _).mp h⟩
  · cases h

open CheckText in
theorem chomsky_unpack {cfg answer : String} {phase : Nat} {start : String} {len : Nat}
    (h : chomsky cfg answer phase start len = .ok) :
    ∃ G eps G1 eps1, CfgText.parseSimpleCfg cfg.toList = .ok (G, eps) ∧
      CfgText.parseSimpleCfg answer.toList = .ok (G1, eps1) ∧ Check.chomskyCheck G G1 phase start len = true := by
  unfold chomsky at h
  split at h
  · rename_i G eps G1 eps1 h1 h2
    exact ⟨G, eps, G1, eps1, h1, h2, (ofBool_ok_iff _).mp h⟩
  · cases h

end C12c
end Gamba
