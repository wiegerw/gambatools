/-
  Gamba.Proofs.C04b — the Moore-style refinement `dfa_quotient` (`DFA.quotient`): the split of a block by an
  abstract equivalence (`splitBy`/`ins`), the loop invariant `QInv` (partition of Q, blocks respect F, states in
  different blocks are Nerode-inequivalent), the exit test (`equalSets` ⇒ stable ⇒ congruence ⇒ Nerode), progress
  (a non-final pass on a partition without empty blocks strictly increases the number of blocks) and the
  fuel bound `|Q| + 2`.
-/
import Gamba.Proofs.MinBasic
namespace Gamba
set_option linter.unusedSectionVars false
variable {σ τ : Type} [DecidableEq σ] [DecidableEq τ]

namespace C04b

theorem seq_refl (a : List σ) : seq a a = true := seq_iff.mpr (fun _ => Iff.rfl)

theorem seq_symm {a b : List σ} (h : seq a b = true) : seq b a = true :=
  seq_iff.mpr (fun x => (seq_iff.mp h x).symm)

theorem seq_trans {a b c : List σ} (h1 : seq a b = true) (h2 : seq b c = true) : seq a c = true :=
  seq_iff.mpr (fun x => (seq_iff.mp h1 x).trans (seq_iff.mp h2 x))

theorem length_le_sum_of_pos {α : Type} (l : List α) (f : α → Nat) (h : ∀ x, x ∈ l → 1 ≤ f x) :
    l.length ≤ (l.map f).sum := by
  induction l with
  | nil => simp
  | cons x l ih =>
    have h1 := h x List.mem_cons_self
    have h2 := ih (fun y hy => h y (List.mem_cons_of_mem _ hy))
    simp only [List.length_cons, List.map_cons, List.sum_cons]
    omega

theorem eq_one_of_sum_le {α : Type} (l : List α) (f : α → Nat) (h : ∀ x, x ∈ l → 1 ≤ f x)
    (hs : (l.map f).sum ≤ l.length) : ∀ x, x ∈ l → f x = 1 := by
  induction l with
  | nil => intro x hx; cases hx
  | cons y l ih =>
    have h1 := h y List.mem_cons_self
    have h2 := length_le_sum_of_pos l f (fun z hz => h z (List.mem_cons_of_mem _ hz))
    simp only [List.length_cons, List.map_cons, List.sum_cons] at hs
    intro x hx
    rcases List.mem_cons.mp hx with rfl | hx
    · omega
    · exact ih (fun z hz => h z (List.mem_cons_of_mem _ hz)) (by omega) x hx

/-- the test of `splitBlock`: `v` is related to the head of `W` -/
def headRel (r : σ → σ → Bool) (v : σ) (W : List σ) : Bool :=
  match W with
  | [] => false
  | w :: _ => r v w

def ins (r : σ → σ → Bool) (v : σ) : List (List σ) → List (List σ)
  | [] => [[v]]
  | W :: WW => if headRel r v W then (W ++ [v]) :: WW else W :: ins r v WW

/-- `splitBlock` for an abstract relation -/
def splitBy (r : σ → σ → Bool) (V : List σ) : List (List σ) :=
  V.foldl (fun WW v => ins r v WW) []

theorem step_eq_ins (r : σ → σ → Bool) (v : σ) (WW : List (List σ)) :
    (match WW.findIdx? (headRel r v) with
      | some i => WW.modify i (· ++ [v])
      | none => WW ++ [[v]]) = ins r v WW := by
  induction WW with
  | nil => rfl
  | cons W WW ih =>
    rw [List.findIdx?_cons]
    by_cases h : headRel r v W = true
    · simp only [h, if_true, ins, List.modify_zero_cons]
    · have h' : headRel r v W = false := by simpa using h
      simp only [h', Bool.false_eq_true, if_false, ins]
      rw [← ih]
      cases List.findIdx? (headRel r v) WW with
      | none => rfl
      | some i => simp only [Option.map_some, List.modify_succ_cons]

theorem splitBlock_eq (D : DFA σ τ) (VV : List (List σ)) (V : List σ) :
    D.splitBlock VV V = splitBy (D.sameSig VV) V := by
  unfold DFA.splitBlock splitBy
  congr 1
  funext WW v
  exact step_eq_ins (D.sameSig VV) v WW

structure IsEqv (r : σ → σ → Bool) : Prop where
  refl : ∀ x, r x x = true
  symm : ∀ x y, r x y = true → r y x = true
  trans : ∀ x y z, r x y = true → r y z = true → r x z = true

theorem mem_ins {r : σ → σ → Bool} {v : σ} {WW : List (List σ)} {x : σ} :
    (∃ W, W ∈ ins r v WW ∧ x ∈ W) ↔ (∃ W, W ∈ WW ∧ x ∈ W) ∨ x = v := by
  induction WW with
  | nil => simp [ins]
  | cons W WW ih =>
    simp only [ins]
    split
    · simp only [List.mem_cons, exists_eq_or_imp, List.mem_append, List.not_mem_nil, or_false]
      exact or_right_comm
    · simp only [List.mem_cons, exists_eq_or_imp, ih]
      exact or_assoc.symm

theorem headRel_eq {r : σ → σ → Bool} {v : σ} {W : List σ} (hne : W ≠ []) :
    ∃ w, w ∈ W ∧ headRel r v W = r v w := by
  cases W with
  | nil => exact absurd rfl hne
  | cons w W => exact ⟨w, List.mem_cons_self, rfl⟩

theorem IsEqv.false_of {r : σ → σ → Bool} (hr : IsEqv r) {x y z : σ} (h1 : r x y = true)
    (h2 : r y z = false) : r x z = false :=
  Bool.eq_false_iff.mpr fun h => Bool.false_ne_true (h2.symm.trans (hr.trans y x z (hr.symm x y h1) h))

theorem IsEqv.false_symm {r : σ → σ → Bool} (hr : IsEqv r) {x y : σ} (h : r x y = false) :
    r y x = false :=
  Bool.eq_false_iff.mpr fun h' => Bool.false_ne_true (h.symm.trans (hr.symm y x h'))

theorem _root_.Gamba.Classes.ins {r : σ → σ → Bool} (hr : IsEqv r) {WW : List (List σ)} (h : Classes r WW) (v : σ) :
    Classes r (ins r v WW) := by
  induction WW with
  | nil => exact classes_cons.mpr ⟨List.cons_ne_nil _ _, fun x hx y hy => by
      rw [List.mem_singleton.mp hx, List.mem_singleton.mp hy]; exact hr.refl v, nofun, h⟩
  | cons W WW ih =>
    obtain ⟨hne, hsame, hcross, htl⟩ := classes_cons.mp h
    obtain ⟨w, hw, he⟩ := headRel_eq (r := r) (v := v) hne
    rw [C04b.ins, he]
    split
    · -- `v` joins `W`: it is related to the head `w` of `W`, hence to all of `W` and to nothing later
      rename_i hvw
      have hxw : ∀ z, z ∈ W ++ [v] → r z w = true := by
        intro z hz
        rcases List.mem_append.mp hz with hz | hz
        · exact hsame z hz w hw
        · rw [List.mem_singleton.mp hz]; exact hvw
      refine classes_cons.mpr ⟨List.append_ne_nil_of_right_ne_nil _ (List.cons_ne_nil _ _),
        fun x hx y hy => hr.trans x w y (hxw x hx) (hr.symm y w (hxw y hy)), fun W' hW' x hx y hy => ?_, htl⟩
      exact hr.false_of (hxw x hx) (hcross W' hW' w hw y hy)
    · -- `v` is unrelated to the head of `W`, hence to all of `W`, and goes into the rest
      rename_i hvw
      rw [Bool.not_eq_true] at hvw
      refine classes_cons.mpr ⟨hne, hsame, fun W' hW' x hx y hy => ?_, ih htl⟩
      rcases mem_ins.mp ⟨W', hW', hy⟩ with ⟨W'', hW'', hy⟩ | rfl
      · exact hcross W'' hW'' x hx y hy
      · exact hr.false_of (hsame x hx w hw) (hr.false_symm hvw)

theorem _root_.Gamba.Classes.foldl {r : σ → σ → Bool} (hr : IsEqv r) (V : List σ) {WW : List (List σ)}
    (h : Classes r WW) : Classes r (V.foldl (fun WW v => C04b.ins r v WW) WW) := by
  induction V generalizing WW with
  | nil => exact h
  | cons v V ih => exact ih (h.ins hr v)

theorem mem_foldl_ins {r : σ → σ → Bool} (V : List σ) {WW : List (List σ)} {x : σ} :
    (∃ W, W ∈ V.foldl (fun WW v => C04b.ins r v WW) WW ∧ x ∈ W) ↔ (∃ W, W ∈ WW ∧ x ∈ W) ∨ x ∈ V := by
  induction V generalizing WW with
  | nil => simp
  | cons v V ih =>
    rw [List.foldl_cons, ih, mem_ins, List.mem_cons, or_assoc]

theorem splitBy_ok {r : σ → σ → Bool} (hr : IsEqv r) (V : List σ) : Classes r (splitBy r V) :=
  Classes.foldl hr V (Classes.nil r)

theorem mem_splitBy {r : σ → σ → Bool} (V : List σ) {x : σ} :
    (∃ W, W ∈ splitBy r V ∧ x ∈ W) ↔ x ∈ V := by
  unfold splitBy
  rw [mem_foldl_ins]
  simp

theorem splitBy_nil (r : σ → σ → Bool) : splitBy r ([] : List σ) = [] := rfl

theorem _root_.Gamba.Classes.pd {r : σ → σ → Bool} (hr : IsEqv r) {WW : List (List σ)} (h : Classes r WW) :
    WW.Pairwise (fun B C => ∀ q, q ∈ B → q ∉ C) := by
  refine h.pw.imp ?_
  intro B C hBC q hqB hqC
  have := hBC q hqB q hqC
  rw [hr.refl q] at this; cases this

theorem splitBy_length_pos {r : σ → σ → Bool} {V : List σ} (hV : V ≠ []) : 1 ≤ (splitBy r V).length := by
  obtain ⟨v, hv⟩ := List.exists_mem_of_ne_nil V hV
  obtain ⟨W, hW, _⟩ := (mem_splitBy (r := r) V).mpr hv
  exact List.length_pos_of_mem hW

theorem splitBy_length_one {r : σ → σ → Bool} {V : List σ} (h : (splitBy r V).length = 1) :
    ∃ W, splitBy r V = [W] ∧ ∀ x, x ∈ W ↔ x ∈ V := by
  obtain ⟨W, hW⟩ := List.length_eq_one_iff.mp h
  refine ⟨W, hW, fun x => ?_⟩
  rw [← mem_splitBy (r := r) V, hW]
  simp

theorem sameSig_iff (D : DFA σ τ) (VV : List (List σ)) (v w : σ) :
    D.sameSig VV v w = true ↔
      ∀ a, a ∈ D.Sigma → seq (blockOf VV (D.next v a)) (blockOf VV (D.next w a)) = true := by
  simp only [DFA.sameSig, List.all_eq_true]

theorem sameSig_eqv (D : DFA σ τ) (VV : List (List σ)) : IsEqv (D.sameSig VV) := by
  refine ⟨?_, ?_, ?_⟩
  · intro x
    rw [sameSig_iff]
    intro a _
    exact seq_refl _
  · intro x y h
    rw [sameSig_iff] at h ⊢
    intro a ha
    exact seq_symm (h a ha)
  · intro x y z h1 h2
    rw [sameSig_iff] at h1 h2 ⊢
    intro a ha
    exact seq_trans (h1 a ha) (h2 a ha)

/-- invariant of `quotientLoop`: the blocks (possibly some empty) partition `Q`, respect `F`, and states of
    different blocks are Nerode-inequivalent -/
structure QInv (D : DFA σ τ) (VV : List (List σ)) : Prop where
  sub : ∀ B, B ∈ VV → ∀ q, q ∈ B → q ∈ D.Q
  cover : ∀ q, q ∈ D.Q → ∃ B, B ∈ VV ∧ q ∈ B
  pd : VV.Pairwise (fun B C => ∀ q, q ∈ B → q ∉ C)
  fin : ∀ B, B ∈ VV → ∀ p, p ∈ B → ∀ q, q ∈ B → (p ∈ D.F ↔ q ∈ D.F)
  sep : ∀ B, B ∈ VV → ∀ C, C ∈ VV → ∀ p, p ∈ B → ∀ q, q ∈ C → D.Equiv p q → B = C

theorem QInv.disj {D : DFA σ τ} {VV : List (List σ)} (h : QInv D VV) :
    ∀ B C, B ∈ VV → C ∈ VV → ∀ q, q ∈ B → q ∈ C → B = C :=
  fun B C hB hC q hqB hqC => h.sep B hB C hC q hqB q hqC (DFA.Equiv.refl D q)

theorem QInv.init (D : DFA σ τ) (hv : D.valid = true) : QInv D [D.F, sdiff D.Q D.F] := by
  refine ⟨?_, ?_, ?_, ?_, ?_⟩
  · intro B hB q hq
    simp only [List.mem_cons, List.not_mem_nil, or_false] at hB
    rcases hB with rfl | rfl
    · exact DFA.valid_F hv hq
    · exact (mem_sdiff.mp hq).1
  · intro q hq
    by_cases hF : q ∈ D.F
    · exact ⟨D.F, List.mem_cons_self, hF⟩
    · exact ⟨sdiff D.Q D.F, List.mem_cons_of_mem _ List.mem_cons_self, mem_sdiff.mpr ⟨hq, hF⟩⟩
  · simp only [List.pairwise_cons, List.mem_cons, List.not_mem_nil, or_false, forall_eq,
      List.Pairwise.nil, and_true, false_imp_iff, implies_true]
    intro q hq hq'
    exact (mem_sdiff.mp hq').2 hq
  · intro B hB p hp q hq
    simp only [List.mem_cons, List.not_mem_nil, or_false] at hB
    rcases hB with rfl | rfl
    · exact ⟨fun _ => hq, fun _ => hp⟩
    · exact ⟨fun h => absurd h (mem_sdiff.mp hp).2, fun h => absurd h (mem_sdiff.mp hq).2⟩
  · intro B hB C hC p hp q hq he
    simp only [List.mem_cons, List.not_mem_nil, or_false] at hB hC
    rcases hB with rfl | rfl <;> rcases hC with rfl | rfl
    · rfl
    · exact absurd (he.fin.mp hp) (mem_sdiff.mp hq).2
    · exact absurd (he.fin.mpr hq) (mem_sdiff.mp hp).2
    · rfl

theorem QInv.sameSig_of_equiv {D : DFA σ τ} (hv : D.valid = true) {VV : List (List σ)} (h : QInv D VV)
    {p q : σ} (hp : p ∈ D.Q) (hq : q ∈ D.Q) (he : D.Equiv p q) : D.sameSig VV p q = true := by
  rw [sameSig_iff]
  intro a ha
  obtain ⟨h1, h2⟩ := blockOf_spec (h.cover _ (DFA.valid_next_mem hv hp ha))
  obtain ⟨h3, h4⟩ := blockOf_spec (h.cover _ (DFA.valid_next_mem hv hq ha))
  rw [h.sep _ h1 _ h3 _ h2 _ h4 (he.next ha)]
  exact seq_refl _

theorem QInv.blockOf_eq_of_sameSig {D : DFA σ τ} (hv : D.valid = true) {VV : List (List σ)} (h : QInv D VV)
    {p q : σ} (hp : p ∈ D.Q) (hq : q ∈ D.Q) (hs : D.sameSig VV p q = true) {a : τ} (ha : a ∈ D.Sigma) :
    blockOf VV (D.next p a) = blockOf VV (D.next q a) := by
  obtain ⟨h1, h2⟩ := blockOf_spec (h.cover _ (DFA.valid_next_mem hv hp ha))
  obtain ⟨h3, _⟩ := blockOf_spec (h.cover _ (DFA.valid_next_mem hv hq ha))
  have := (seq_iff.mp ((sameSig_iff D VV p q).mp hs a ha) _).mp h2
  exact h.disj _ _ h1 h3 _ h2 this

def refine (D : DFA σ τ) (VV : List (List σ)) : List (List σ) := VV.flatMap (D.splitBlock VV)

theorem mem_refine {D : DFA σ τ} {VV : List (List σ)} {W : List σ} :
    W ∈ refine D VV ↔ ∃ V, V ∈ VV ∧ W ∈ splitBy (D.sameSig VV) V := by
  simp only [refine, List.mem_flatMap, splitBlock_eq]

theorem refine_nonempty {D : DFA σ τ} {VV : List (List σ)} : ∀ W, W ∈ refine D VV → W ≠ [] := by
  intro W hW
  obtain ⟨V, _, hWV⟩ := mem_refine.mp hW
  exact (splitBy_ok (sameSig_eqv D VV) V).ne W hWV

theorem sub_of_mem_splitBy {r : σ → σ → Bool} {V W : List σ} (hW : W ∈ splitBy r V) {x : σ} (hx : x ∈ W) :
    x ∈ V := (mem_splitBy V).mp ⟨W, hW, hx⟩

theorem QInv.refine {D : DFA σ τ} (hv : D.valid = true) {VV : List (List σ)} (h : QInv D VV) :
    QInv D (refine D VV) := by
  have hr := sameSig_eqv D VV
  refine ⟨?_, ?_, ?_, ?_, ?_⟩
  · intro W hW q hq
    obtain ⟨V, hV, hWV⟩ := mem_refine.mp hW
    exact h.sub V hV q (sub_of_mem_splitBy hWV hq)
  · intro q hq
    obtain ⟨V, hV, hqV⟩ := h.cover q hq
    obtain ⟨W, hW, hqW⟩ := (mem_splitBy (r := D.sameSig VV) V).mpr hqV
    exact ⟨W, mem_refine.mpr ⟨V, hV, hW⟩, hqW⟩
  · unfold C04b.refine
    rw [List.pairwise_flatMap]
    refine ⟨?_, ?_⟩
    · intro V _
      rw [splitBlock_eq]
      exact (splitBy_ok hr V).pd hr
    · refine h.pd.imp ?_
      intro V V' hVV' W hW W' hW' q hqW hqW'
      rw [splitBlock_eq] at hW hW'
      exact hVV' q (sub_of_mem_splitBy hW hqW) (sub_of_mem_splitBy hW' hqW')
  · intro W hW p hp q hq
    obtain ⟨V, hV, hWV⟩ := mem_refine.mp hW
    exact h.fin V hV p (sub_of_mem_splitBy hWV hp) q (sub_of_mem_splitBy hWV hq)
  · intro W hW W' hW' p hp q hq he
    obtain ⟨V, hV, hWV⟩ := mem_refine.mp hW
    obtain ⟨V', hV', hWV'⟩ := mem_refine.mp hW'
    have hpV := sub_of_mem_splitBy hWV hp
    have hqV' := sub_of_mem_splitBy hWV' hq
    have hVV' : V = V' := h.sep V hV V' hV' p hpV q hqV' he
    subst hVV'
    exact (splitBy_ok hr V).eq_of_rel hr.symm hWV hWV' hp hq
      (h.sameSig_of_equiv hv (h.sub V hV p hpV) (h.sub V hV q hqV') he)

theorem equalSets_iff (A B : List (List σ)) :
    equalSets A B = true ↔
      (∀ x, x ∈ A → ∃ y, y ∈ B ∧ seq x y = true) ∧ (∀ x, x ∈ B → ∃ y, y ∈ A ∧ seq x y = true) := by
  simp only [equalSets, Bool.and_eq_true, List.all_eq_true, List.any_eq_true]

theorem nonempty_of_equalSets {D : DFA σ τ} {VV : List (List σ)}
    (he : equalSets VV (refine D VV) = true) : ∀ B, B ∈ VV → B ≠ [] := by
  intro B hB hnil
  subst hnil
  obtain ⟨X, hX, hs⟩ := ((equalSets_iff _ _).mp he).1 [] hB
  obtain ⟨x, hx⟩ := List.exists_mem_of_ne_nil X (refine_nonempty X hX)
  exact List.not_mem_nil ((seq_iff.mp hs x).mpr hx)

theorem stable_of_equalSets {D : DFA σ τ} {VV : List (List σ)}
    (he : equalSets VV (refine D VV) = true) :
    ∀ B, B ∈ VV → ∀ p, p ∈ B → ∀ q, q ∈ B → D.sameSig VV p q = true := by
  intro B hB p hp q hq
  obtain ⟨X, hX, hs⟩ := ((equalSets_iff _ _).mp he).1 B hB
  obtain ⟨V, hV, hXV⟩ := mem_refine.mp hX
  have hpX := (seq_iff.mp hs p).mp hp
  have hqX := (seq_iff.mp hs q).mp hq
  exact (splitBy_ok (sameSig_eqv D VV) V).same X hXV p hpX q hqX

theorem nerode_of_equalSets {D : DFA σ τ} (hv : D.valid = true) {VV : List (List σ)} (h : QInv D VV)
    (he : equalSets VV (refine D VV) = true) : D.IsNerode VV := by
  have hne := nonempty_of_equalSets he
  have hst := stable_of_equalSets he
  have hP : D.IsPartition VV := ⟨hne, h.sub, h.cover, h.disj⟩
  have hC : D.IsCongr VV := by
    refine ⟨hP, ?_, ?_⟩
    · intro B hB p q hp hq
      exact h.fin B hB p hp q hq
    · intro B hB p q hp hq a ha
      exact h.blockOf_eq_of_sameSig hv (h.sub B hB p hp) (h.sub B hB q hq) (hst B hB p hp q hq) ha
  exact hC.isNerode hv (fun B C hB hC p q hp hq he => h.sep B hB C hC p hp q hq he)

theorem refine_length (D : DFA σ τ) (VV : List (List σ)) :
    (refine D VV).length = (VV.map (fun V => (splitBy (D.sameSig VV) V).length)).sum := by
  unfold refine
  rw [List.length_flatMap]
  simp only [splitBlock_eq]

theorem length_le_refine {D : DFA σ τ} {VV : List (List σ)} (hne : ∀ B, B ∈ VV → B ≠ []) :
    VV.length ≤ (refine D VV).length := by
  rw [refine_length]
  exact length_le_sum_of_pos VV _ (fun V hV => splitBy_length_pos (hne V hV))

theorem length_lt_refine {D : DFA σ τ} {VV : List (List σ)} (hne : ∀ B, B ∈ VV → B ≠ [])
    (he : equalSets VV (refine D VV) = false) : VV.length < (refine D VV).length := by
  apply Classical.byContradiction
  intro hlt
  have hle : (refine D VV).length ≤ VV.length := by omega
  rw [refine_length] at hle
  have hone := eq_one_of_sum_le VV _ (fun V hV => splitBy_length_pos (hne V hV)) hle
  have : equalSets VV (refine D VV) = true := by
    rw [equalSets_iff]
    constructor
    · intro V hV
      obtain ⟨W, hW, hWV⟩ := splitBy_length_one (hone V hV)
      refine ⟨W, mem_refine.mpr ⟨V, hV, by rw [hW]; exact List.mem_cons_self⟩, ?_⟩
      exact seq_iff.mpr (fun x => (hWV x).symm)
    · intro X hX
      obtain ⟨V, hV, hXV⟩ := mem_refine.mp hX
      obtain ⟨W, hW, hWV⟩ := splitBy_length_one (hone V hV)
      rw [hW, List.mem_singleton] at hXV
      subst hXV
      exact ⟨V, hV, seq_iff.mpr hWV⟩
  rw [this] at he
  cases he

theorem QInv.length_le {D : DFA σ τ} {VV : List (List σ)} (h : QInv D VV) (hne : ∀ B, B ∈ VV → B ≠ []) :
    VV.length ≤ D.Q.length :=
  length_le_of_disjoint VV D.Q hne h.sub h.pd

theorem quotientLoop_succ (D : DFA σ τ) (fuel : Nat) (VV : List (List σ)) :
    D.quotientLoop (fuel + 1) VV =
      if equalSets VV (refine D VV) then .ok VV else D.quotientLoop fuel (refine D VV) := rfl

theorem quotientLoop_step {D : DFA σ τ} (hv : D.valid = true) (fuel : Nat) {VV : List (List σ)} (h : QInv D VV)
    (hgo : equalSets VV (refine D VV) = false →
      ∃ R, D.quotientLoop fuel (refine D VV) = .ok R ∧ D.IsNerode R ∧ QInv D R) :
    ∃ R, D.quotientLoop (fuel + 1) VV = .ok R ∧ D.IsNerode R ∧ QInv D R := by
  rw [quotientLoop_succ]
  cases he : equalSets VV (refine D VV) with
  | true => exact ⟨VV, if_pos rfl, nerode_of_equalSets hv h he, h⟩
  | false => rw [if_neg Bool.false_ne_true]; exact hgo he

/-- the loop from a partition without empty blocks: every non-final pass adds a block, and there are at most
    `|Q|` of them -/
theorem quotientLoop_ok_of_nonempty {D : DFA σ τ} (hv : D.valid = true) (fuel : Nat) (VV : List (List σ))
    (h : QInv D VV) (hne : ∀ B, B ∈ VV → B ≠ []) (hf : D.Q.length + 1 ≤ VV.length + fuel) :
    ∃ R, D.quotientLoop fuel VV = .ok R ∧ D.IsNerode R ∧ QInv D R := by
  induction fuel generalizing VV with
  | zero =>
    have := h.length_le hne
    omega
  | succ fuel ih =>
    refine quotientLoop_step hv fuel h fun he => ih _ (h.refine hv) refine_nonempty ?_
    have := length_lt_refine hne he
    omega

/-- the loop from any partition satisfying the invariant (empty blocks allowed): the first pass removes the
    empty blocks, so fuel `|Q| + 2` suffices -/
theorem quotientLoop_ok {D : DFA σ τ} (hv : D.valid = true) (fuel : Nat) (VV : List (List σ))
    (h : QInv D VV) (hf : D.Q.length + 2 ≤ fuel) :
    ∃ R, D.quotientLoop fuel VV = .ok R ∧ D.IsNerode R ∧ QInv D R := by
  cases fuel with
  | zero => omega
  | succ fuel =>
    exact quotientLoop_step hv fuel h fun _ =>
      quotientLoop_ok_of_nonempty hv fuel _ (h.refine hv) refine_nonempty (by omega)

theorem QInv.nodup {D : DFA σ τ} {VV : List (List σ)} (h : QInv D VV) (hne : ∀ B, B ∈ VV → B ≠ []) : VV.Nodup := by
  refine h.pd.imp_of_mem fun hB _ hBC e => ?_
  obtain ⟨p, hp⟩ := List.exists_mem_of_ne_nil _ (hne _ hB)
  exact hBC p hp (e ▸ hp)

theorem quotient_ok (D : DFA σ τ) (hv : D.valid = true) :
    ∃ R, D.quotient = .ok (D.ofBlocks R) ∧ D.IsNerode R ∧ R.Nodup := by
  obtain ⟨R, hR, hN, hI⟩ := quotientLoop_ok hv (D.Q.length + 2) _ (QInv.init D hv) (Nat.le_refl _)
  refine ⟨R, ?_, hN, hI.nodup hN.1.nonempty⟩
  rw [DFA.quotient, hR]
  exact D.checked_ofBlocks hv hN

end C04b
end Gamba
