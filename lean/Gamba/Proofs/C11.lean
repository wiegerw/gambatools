/- Gamba.Proofs.C11 — the executable TM simulator against `Gamba.Spec.TM`: `TM.step` is the spec's `TM.Step` while the head
   is on the tape, and it stays there; the bounded loop decides exactly at the first halting time within the budget
   (`haltLoop`, from any configuration); the recorded run consists of the iterates of `step` up to that time (`traceFrom`). -/
import Gamba.Spec.TM
namespace Gamba
variable {σ τ : Type} [DecidableEq σ] [DecidableEq τ]
set_option linter.unusedSectionVars false

theorem TM.valid_iff (T : TM σ τ) : T.valid = true ↔
    T.q0 ∈ T.Q ∧ T.qAccept ∈ T.Q ∧ T.qReject ∈ T.Q ∧ T.qReject ≠ T.qAccept ∧ T.blank ∉ T.Sigma ∧ T.blank ∈ T.Gamma ∧
      (∀ a, a ∈ T.Sigma → a ∈ T.Gamma) ∧
      ∀ e, e ∈ T.delta → e.1.1 ∈ T.Q ∧ e.1.2 ∈ T.Gamma ∧ e.2.1 ∈ T.Q ∧ e.2.2.1 ∈ T.Gamma := by
  simp only [TM.valid, Bool.and_eq_true, decide_eq_true_eq, ssubset_iff, List.all_eq_true, and_assoc]

theorem TM.valid_ne {T : TM σ τ} (hv : T.valid = true) : T.qReject ≠ T.qAccept := ((TM.valid_iff T).mp hv).2.2.2.1

theorem TM.verdict_eq_none_iff (T : TM σ τ) (q : σ) : T.verdict q = none ↔ T.halting q = false := by
  unfold TM.verdict TM.halting
  by_cases h1 : q = T.qAccept
  · simp only [if_pos h1, decide_eq_true h1, Bool.true_or, reduceCtorEq]
  · by_cases h2 : q = T.qReject
    · simp only [if_neg h1, if_pos h2, decide_eq_true h2, Bool.or_true, reduceCtorEq]
    · simp only [if_neg h1, if_neg h2, decide_eq_false h1, decide_eq_false h2, Bool.or_self]

theorem TM.halting_of_verdict (T : TM σ τ) {q : σ} {b : Bool} (h : T.verdict q = some b) :
    T.halting q = true := by
  cases hq : T.halting q with
  | true => rfl
  | false => rw [(T.verdict_eq_none_iff q).mpr hq] at h; cases h

theorem TM.verdict_isSome_of_halting (T : TM σ τ) {q : σ} (h : T.halting q = true) :
    ∃ b, T.verdict q = some b := by
  cases hv : T.verdict q with
  | some b => exact ⟨b, rfl⟩
  | none => rw [(T.verdict_eq_none_iff q).mp hv] at h; cases h

theorem TM.verdict_eq_true_iff (T : TM σ τ) (q : σ) : T.verdict q = some true ↔ q = T.qAccept := by
  unfold TM.verdict
  by_cases h1 : q = T.qAccept
  · simp only [if_pos h1]
    exact iff_of_true trivial h1
  · by_cases h2 : q = T.qReject
    · simp only [if_neg h1, if_pos h2, reduceCtorEq, Option.some.injEq]
      exact iff_of_false (fun h => h) h1
    · simp only [if_neg h1, if_neg h2, reduceCtorEq]
      exact iff_of_false (fun h => h) h1

theorem TM.verdict_eq_false_iff (T : TM σ τ) (hne : T.qReject ≠ T.qAccept) (q : σ) :
    T.verdict q = some false ↔ q = T.qReject := by
  unfold TM.verdict
  by_cases h1 : q = T.qAccept
  · subst h1
    simp only [if_true]
    constructor
    · intro h; cases h
    · intro h; exact absurd h.symm hne
  · by_cases h2 : q = T.qReject
    · simp only [if_neg h1, if_pos h2]
      exact iff_of_true trivial h2
    · simp only [if_neg h1, if_neg h2, reduceCtorEq]
      exact iff_of_false (fun h => h) h2

theorem TM.halting_qAccept (T : TM σ τ) : T.halting T.qAccept = true := by simp [TM.halting]
theorem TM.halting_qReject (T : TM σ τ) : T.halting T.qReject = true := by simp [TM.halting]

theorem TM.action_eq_getD (T : TM σ τ) (q : σ) (a : τ) :
    (T.delta.lookup (q, a)).getD (T.qReject, a, Dir.R) = T.action q a := by
  unfold TM.action; cases T.delta.lookup (q, a) <;> rfl

theorem TM.step_of_action (T : TM σ τ) (c : TMConfig σ τ) {q' : σ} {b : τ} {d : Dir} :
    T.action c.q (c.tape.getD c.head T.blank) = (q', b, d) →
    T.step c =
      { q := q',
        tape := if (match d with | .L => c.head - 1 | .R => c.head + 1) = (c.tape.set c.head b).length
                then c.tape.set c.head b ++ [T.blank] else c.tape.set c.head b,
        head := match d with | .L => c.head - 1 | .R => c.head + 1 } := by
  intro h
  simp only [TM.step, TM.action_eq_getD, h]
  cases d <;> rfl

theorem TM.getD_of_getElem? {tape : List τ} {h : Nat} {a bl : τ} (ha : tape[h]? = some a) :
    tape.getD h bl = a := by
  rw [List.getD_eq_getElem?_getD, ha]; rfl

theorem TM.Step_of_step (T : TM σ τ) (c : TMConfig σ τ) (hh : c.head < c.tape.length) :
    T.Step c (T.step c) := by
  obtain ⟨q, tape, h⟩ := c
  simp only at hh
  have ha : tape[h]? = some tape[h] := List.getElem?_eq_getElem hh
  rcases hact : T.action q tape[h] with ⟨q', b, d⟩
  rw [T.step_of_action ⟨q, tape, h⟩ (q' := q') (b := b) (d := d) (by simp only [TM.getD_of_getElem? ha, hact])]
  cases d with
  | L =>
    have : h - 1 ≠ (tape.set h b).length := by rw [List.length_set]; omega
    simp only [this, if_false]
    exact .left ha hact
  | R =>
    by_cases hlt : h + 1 < tape.length
    · have : h + 1 ≠ (tape.set h b).length := by rw [List.length_set]; omega
      simp only [this, if_false]
      exact .right ha hact hlt
    · have : h + 1 = (tape.set h b).length := by rw [List.length_set]; omega
      rw [if_pos this]
      exact .rightExtend ha hact (by omega)

theorem TM.step_of_Step (T : TM σ τ) {c c' : TMConfig σ τ} (hs : T.Step c c') : T.step c = c' := by
  cases hs with
  | @left q q' tape h a b ha hact =>
    have : h - 1 ≠ (tape.set h b).length := by
      rw [List.length_set]; have := (List.getElem?_eq_some_iff.mp ha).1; omega
    rw [T.step_of_action ⟨q, tape, h⟩ (q' := q') (b := b) (d := .L) (by simp only [TM.getD_of_getElem? ha, hact])]
    simp only [this, if_false]
  | @right q q' tape h a b ha hact hlt =>
    have : h + 1 ≠ (tape.set h b).length := by rw [List.length_set]; omega
    rw [T.step_of_action ⟨q, tape, h⟩ (q' := q') (b := b) (d := .R) (by simp only [TM.getD_of_getElem? ha, hact])]
    simp only [this, if_false]
  | @rightExtend q q' tape h a b ha hact heq =>
    have : h + 1 = (tape.set h b).length := by rw [List.length_set]; omega
    rw [T.step_of_action ⟨q, tape, h⟩ (q' := q') (b := b) (d := .R) (by simp only [TM.getD_of_getElem? ha, hact])]
    rw [if_pos this]

theorem TM.step_head_lt (T : TM σ τ) (c : TMConfig σ τ) (hh : c.head < c.tape.length) :
    (T.step c).head < (T.step c).tape.length := by
  have hs := T.Step_of_step c hh
  generalize T.step c = c' at hs
  cases hs <;> simp only [List.length_set, List.length_append, List.length_singleton] at hh ⊢ <;> omega

theorem TM.init_head_lt (T : TM σ τ) (w : List τ) : (T.init w).head < (T.init w).tape.length := by
  unfold TM.init
  cases w with
  | nil => simp
  | cons a w => simp

@[simp] theorem TM.init_q (T : TM σ τ) (w : List τ) : (T.init w).q = T.q0 := rfl

@[simp] theorem TM.stepN_zero (T : TM σ τ) (c : TMConfig σ τ) : T.stepN 0 c = c := rfl

theorem TM.stepN_succ (T : TM σ τ) (i : Nat) (c : TMConfig σ τ) :
    T.stepN (i + 1) c = T.stepN i (T.step c) := rfl

theorem TM.stepN_succ' (T : TM σ τ) (i : Nat) (c : TMConfig σ τ) :
    T.stepN (i + 1) c = T.step (T.stepN i c) := by
  induction i generalizing c with
  | zero => rfl
  | succ i ih => rw [TM.stepN_succ, ih, ← TM.stepN_succ]

theorem TM.stepN_head_lt (T : TM σ τ) (i : Nat) (c : TMConfig σ τ) (hh : c.head < c.tape.length) :
    (T.stepN i c).head < (T.stepN i c).tape.length := by
  induction i generalizing c with
  | zero => exact hh
  | succ i ih => rw [TM.stepN_succ]; exact ih _ (T.step_head_lt c hh)

/-- read the verdict in `c`, otherwise run the loop of `tm_accepts_word` from `c`: `accepts` from any configuration -/
def TM.haltLoop (T : TM σ τ) (k : Nat) (c : TMConfig σ τ) : Option Bool := (T.verdict c.q).or (T.runLoop k c)

theorem TM.accepts_eq_haltLoop (T : TM σ τ) (w : List τ) (k : Nat) : T.accepts w k = T.haltLoop k (T.init w) := by
  unfold TM.accepts TM.haltLoop
  rw [TM.init_q]
  cases T.verdict T.q0 <;> rfl

theorem TM.runLoop_zero (T : TM σ τ) (c : TMConfig σ τ) : T.runLoop 0 c = none := rfl

theorem TM.runLoop_succ (T : TM σ τ) (k : Nat) (c : TMConfig σ τ) :
    T.runLoop (k + 1) c = T.haltLoop k (T.step c) := by
  unfold TM.haltLoop
  rw [TM.runLoop]
  cases T.verdict (T.step c).q <;> rfl

theorem TM.haltLoop_zero (T : TM σ τ) (c : TMConfig σ τ) : T.haltLoop 0 c = T.verdict c.q :=
  Option.or_none

theorem TM.haltLoop_succ (T : TM σ τ) (k : Nat) (c : TMConfig σ τ) :
    T.haltLoop (k + 1) c = (T.verdict c.q).or (T.haltLoop k (T.step c)) := by
  rw [TM.haltLoop, TM.runLoop_succ]

theorem TM.haltLoop_eq_some_iff (T : TM σ τ) (k : Nat) (c : TMConfig σ τ) (b : Bool) :
    T.haltLoop k c = some b ↔
      ∃ i, i ≤ k ∧ T.verdict (T.stepN i c).q = some b ∧ ∀ j, j < i → T.halting (T.stepN j c).q = false := by
  induction k generalizing c with
  | zero =>
    rw [TM.haltLoop_zero]
    constructor
    · intro h
      exact ⟨0, Nat.le_refl _, h, fun j hj => absurd hj (Nat.not_lt_zero j)⟩
    · rintro ⟨i, hi, hv, _⟩
      cases Nat.le_zero.mp hi
      exact hv
  | succ k ih =>
    rw [TM.haltLoop_succ]
    cases hv : T.verdict c.q with
    | some b' =>
      rw [Option.some_or]
      constructor
      · intro h
        exact ⟨0, Nat.zero_le _, hv.trans h, fun j hj => absurd hj (Nat.not_lt_zero j)⟩
      · rintro ⟨i, _, hvi, hmin⟩
        cases i with
        | zero => exact hv.symm.trans hvi
        | succ i =>
          have h0 : T.halting c.q = false := hmin 0 (Nat.succ_pos i)
          rw [T.halting_of_verdict hv] at h0
          cases h0
    | none =>
      rw [Option.none_or, ih]
      constructor
      · rintro ⟨i, hi, hvi, hmin⟩
        refine ⟨i + 1, Nat.succ_le_succ hi, hvi, fun j hj => ?_⟩
        cases j with
        | zero => exact (T.verdict_eq_none_iff _).mp hv
        | succ j => exact hmin j (Nat.lt_of_succ_lt_succ hj)
      · rintro ⟨i, hi, hvi, hmin⟩
        cases i with
        | zero => rw [TM.stepN_zero, hv] at hvi; cases hvi
        | succ i => exact ⟨i, Nat.le_of_succ_le_succ hi, hvi, fun j hj => hmin (j + 1) (Nat.succ_lt_succ hj)⟩

/-- undecided: no halting state within `k` steps (otherwise the first one would have been decided) -/
theorem TM.haltLoop_eq_none_iff (T : TM σ τ) (k : Nat) (c : TMConfig σ τ) :
    T.haltLoop k c = none ↔ ∀ i, i ≤ k → T.halting (T.stepN i c).q = false := by
  rw [Option.eq_none_iff_forall_ne_some]
  constructor
  · intro h i
    induction i using Nat.strongRecOn with
    | ind i ih =>
      intro hi
      cases hq : T.halting (T.stepN i c).q with
      | false => rfl
      | true =>
        obtain ⟨b, hb⟩ := T.verdict_isSome_of_halting hq
        exact absurd ((T.haltLoop_eq_some_iff k c b).mpr ⟨i, hi, hb, fun j hj => ih j hj (by omega)⟩) (h b)
  · intro h b hb
    obtain ⟨i, hi, hv, _⟩ := (T.haltLoop_eq_some_iff k c b).mp hb
    have hh := h i hi
    rw [T.halting_of_verdict hv] at hh
    cases hh

theorem TM.accepts_eq_some_iff (T : TM σ τ) (w : List τ) (k : Nat) (b : Bool) :
    T.accepts w k = some b ↔
      ∃ i, i ≤ k ∧ T.verdict (T.stepN i (T.init w)).q = some b ∧
        ∀ j, j < i → T.halting (T.stepN j (T.init w)).q = false := by
  rw [TM.accepts_eq_haltLoop, TM.haltLoop_eq_some_iff]

/-- record `c`, and the loop of `tm_simulate_word` from `c` unless `c` is halting: `simulate` from any configuration -/
def TM.traceFrom (T : TM σ τ) (k : Nat) (c : TMConfig σ τ) : List (TMConfig σ τ) :=
  if T.halting c.q then [c] else c :: T.traceLoop k c

theorem TM.simulate_eq_traceFrom (T : TM σ τ) (w : List τ) (k : Nat) : T.simulate w k = T.traceFrom k (T.init w) := rfl

theorem TM.traceLoop_zero (T : TM σ τ) (c : TMConfig σ τ) : T.traceLoop 0 c = [] := rfl

theorem TM.traceLoop_succ (T : TM σ τ) (k : Nat) (c : TMConfig σ τ) :
    T.traceLoop (k + 1) c = T.traceFrom k (T.step c) := by
  rw [TM.traceLoop]; rfl

theorem TM.traceFrom_zero (T : TM σ τ) (c : TMConfig σ τ) : T.traceFrom 0 c = [c] := by
  unfold TM.traceFrom
  split <;> rfl

theorem TM.traceFrom_succ (T : TM σ τ) (k : Nat) (c : TMConfig σ τ) :
    T.traceFrom (k + 1) c = if T.halting c.q then [c] else c :: T.traceFrom k (T.step c) := by
  rw [TM.traceFrom, TM.traceLoop_succ]

theorem TM.traceFrom_spec (T : TM σ τ) (k : Nat) (c : TMConfig σ τ) :
    (T.traceFrom k c).head? = some c ∧ (T.traceFrom k c).length ≤ k + 1 ∧
    (∀ i, i < (T.traceFrom k c).length → (T.traceFrom k c)[i]? = some (T.stepN i c)) ∧
    (∀ i, i + 1 < (T.traceFrom k c).length → T.halting (T.stepN i c).q = false) := by
  have single : ∀ (c : TMConfig σ τ) k, [c].head? = some c ∧ [c].length ≤ k + 1 ∧
      (∀ i, i < [c].length → [c][i]? = some (T.stepN i c)) ∧
      (∀ i, i + 1 < [c].length → T.halting (T.stepN i c).q = false) := by
    refine fun c k => ⟨rfl, Nat.succ_le_succ (Nat.zero_le k), fun i hi => ?_, fun i hi => ?_⟩
    · cases Nat.lt_one_iff.mp hi; rfl
    · exact absurd hi (by simp)
  induction k generalizing c with
  | zero => rw [TM.traceFrom_zero]; exact single c 0
  | succ k ih =>
    rw [TM.traceFrom_succ]
    split
    · exact single c (k + 1)
    · rename_i hq
      obtain ⟨_, h2, h3, h4⟩ := ih (T.step c)
      refine ⟨rfl, Nat.succ_le_succ h2, fun i hi => ?_, fun i hi => ?_⟩
      · cases i with
        | zero => rfl
        | succ i => exact h3 i (Nat.lt_of_succ_lt_succ hi)
      · cases i with
        | zero => exact Bool.eq_false_iff.mpr hq
        | succ i => exact h4 i (Nat.lt_of_succ_lt_succ hi)

theorem TM.traceFrom_getLast (T : TM σ τ) (k : Nat) (c : TMConfig σ τ) :
    (T.traceFrom k c).getLast?.map (fun c => T.verdict c.q) = some (T.haltLoop k c) := by
  induction k generalizing c with
  | zero => rw [TM.traceFrom_zero, TM.haltLoop_zero]; rfl
  | succ k ih =>
    rw [TM.traceFrom_succ, TM.haltLoop_succ]
    cases hq : T.halting c.q with
    | true =>
      obtain ⟨b, hb⟩ := T.verdict_isSome_of_halting hq
      rw [if_pos rfl, hb]
      simp only [List.getLast?_singleton, Option.map_some, hb, Option.some_or]
    | false =>
      obtain ⟨l, hl⟩ := List.head?_eq_some_iff.mp (T.traceFrom_spec k (T.step c)).1
      rw [if_neg (by decide), (T.verdict_eq_none_iff c.q).mpr hq, Option.none_or, ← ih (T.step c), hl,
        List.getLast?_cons_cons]

/-! ### a concrete machine for the non-vacuity examples

`demoTM` first performs a left move at cell 0 (stays put), then walks right over `a`s and accepts at the
blank; a `b` has no transition, so the machine falls into the rejecting state. -/

def demoTM : TM String String where
  Q := ["s", "r", "acc", "rej"]
  Sigma := ["a", "b"]
  Gamma := ["a", "b", "_"]
  delta := [(("s", "a"), ("r", "a", Dir.L)), (("s", "_"), ("r", "_", Dir.L)),
            (("r", "a"), ("r", "a", Dir.R)), (("r", "_"), ("acc", "_", Dir.R))]
  q0 := "s"
  qAccept := "acc"
  qReject := "rej"
  blank := "_"

end Gamba
