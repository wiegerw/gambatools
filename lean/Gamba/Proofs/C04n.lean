/-
  Gamba.Proofs.C04n — helper lemmas for the minimisers WITH `print_state_set` names
  (`M.named = M.mapStates printStateSet`, what `dfa_minimize` / `dfa_quotient` / `dfa_hopfcroft` really return):
  for a DFA with CLEAN state names the naming is injective on the blocks of a Nerode partition, so every clause of
  the structured specifications transfers to the named automaton (`DFA.mapStates_*`, Proofs/C14a); and the concrete witness of the recorded defect
  `minimize-class-name-collision` (a state called `"a,b"` next to the class `{a, b}`).
-/
import Gamba.Proofs.MinBasic
import Gamba.Proofs.C14a
import Gamba.Proofs.C03n
namespace Gamba

/-- the automaton a minimiser returns, with `print_state_set` names -/
def DFA.named (M : DFA (List String) String) : DFA String String := M.mapStates printStateSet

theorem DFA.IsNerode.names_inj {D : DFA String String} {blocks : List (List String)} (hN : D.IsNerode blocks)
    (hn : ∀ q, q ∈ D.Q → CleanName q) :
    ∀ B C, B ∈ blocks → C ∈ blocks → printStateSet B = printStateSet C → B = C := fun B C hB hC h =>
  nerode_block_ext hN hB hC (printStateSet_mem_iff B C (fun q hq => hn q (hN.1.sub B hB q hq))
    (fun q hq => hn q (hN.1.sub C hC q hq)) h)

theorem DFA.named_of_nerode (D : DFA String String) (hn : ∀ q, q ∈ D.Q → CleanName q)
    (M : DFA (List String) String) (hMv : M.valid = true) (hS : M.Sigma = D.Sigma) (hN : D.IsNerode M.Q)
    (hL : ∀ w, (∀ a, a ∈ w → a ∈ D.Sigma) → (M.Accepts w ↔ D.Accepts w))
    (hD : ∀ B C, B ∈ M.Q → C ∈ M.Q → B ≠ C → M.Dist B C) :
    M.named.valid = true ∧ M.named.Sigma = D.Sigma ∧
      (∀ w, (∀ a, a ∈ w → a ∈ D.Sigma) → (M.named.Accepts w ↔ D.Accepts w)) ∧
      (∀ p q, p ∈ M.named.Q → q ∈ M.named.Q → p ≠ q → M.named.Dist p q) ∧
      (dedup M.named.Q).length = (dedup M.Q).length := by
  have hinj := hN.names_inj hn
  exact ⟨DFA.mapStates_valid' _ M hMv hinj, hS, fun w hw => (DFA.mapStates_accepts _ M hMv hinj w).trans (hL w hw),
    DFA.mapStates_pairwise_dist _ M hMv hinj hD, dedup_map_length printStateSet M.Q hinj⟩

namespace C04n

/-- witness found on the real library: `a ≡ b`, and a third state is called `"a,b"` -/
def badD : DFA String String :=
  { Q := ["a", "b", "a,b", "c"], Sigma := ["a", "b", "c"],
    delta := [(("c", "a"), "c"), (("c", "b"), "a,b"), (("c", "c"), "c"),
              (("a,b", "a"), "a"), (("a,b", "b"), "a,b"), (("a,b", "c"), "a"),
              (("a", "a"), "a"), (("a", "b"), "b"), (("a", "c"), "b"),
              (("b", "a"), "a"), (("b", "b"), "b"), (("b", "c"), "b")],
    q0 := "c", F := ["a,b"] }

def badM : DFA (List String) String :=
  { Q := [["a,b"], ["a", "b"], ["c"]], Sigma := ["a", "b", "c"],
    delta := [((["a,b"], "a"), ["a", "b"]), ((["a,b"], "b"), ["a,b"]), ((["a,b"], "c"), ["a", "b"]),
              ((["a", "b"], "a"), ["a", "b"]), ((["a", "b"], "b"), ["a", "b"]), ((["a", "b"], "c"), ["a", "b"]),
              ((["c"], "a"), ["c"]), ((["c"], "b"), ["a,b"]), ((["c"], "c"), ["c"])],
    q0 := ["c"], F := [["a,b"]] }

/-- what the library returns: the first two classes are both called `"{a,b}"` -/
def badNamed : DFA String String :=
  { Q := ["{a,b}", "{a,b}", "{c}"], Sigma := ["a", "b", "c"],
    delta := [(("{a,b}", "a"), "{a,b}"), (("{a,b}", "b"), "{a,b}"), (("{a,b}", "c"), "{a,b}"),
              (("{a,b}", "a"), "{a,b}"), (("{a,b}", "b"), "{a,b}"), (("{a,b}", "c"), "{a,b}"),
              (("{c}", "a"), "{c}"), (("{c}", "b"), "{a,b}"), (("{c}", "c"), "{c}")],
    q0 := "{c}", F := ["{a,b}"] }

theorem badD_valid : badD.valid = true := by decide
theorem badD_nodup : badD.Q.Nodup := by decide

theorem badD_quotient : badD.quotient = .ok badM := by rfl

theorem badM_named : badM.named = badNamed := by rw [DFA.named, printStateSet_eq_isort]; decide +kernel

theorem badNamed_valid : badNamed.valid = true := by decide

end C04n
end Gamba
