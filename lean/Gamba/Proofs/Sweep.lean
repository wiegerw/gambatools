/-
  Gamba.Proofs.Sweep — the `changed = True; while changed: changed = False; for r in rules: …` saturation loops
  (`CFG.nullableLoop`, `DFA.tableLoop`): a sweep appends `g r` to the list, in place, whenever a test `c` holds of the list
  so far, and raises a flag; the loop repeats the sweep until the flag stays down. For an invariant `Inv` of the appending
  step and a measure `μ` that the step lowers, the loop returns, within `μ + 1` sweeps, a list that satisfies `Inv`,
  contains the initial one and on which `c` holds of no rule (`sweepLoop_spec`).
-/
namespace Gamba

section
variable {α ρ β : Type}

def sweep (c : List α → ρ → Prop) [∀ l r, Decidable (c l r)] (g : ρ → α) (rules : List ρ) (acc : List α × Bool) :
    List α × Bool :=
  rules.foldl (fun acc r => if c acc.1 r then (acc.1 ++ [g r], true) else acc) acc

variable {c : List α → ρ → Prop} [∀ l r, Decidable (c l r)] {g : ρ → α} {Inv : List α → Prop} {μ : List α → Nat}

theorem sweep_spec (rules : List ρ)
    (hstep : ∀ l r, Inv l → r ∈ rules → c l r → Inv (l ++ [g r]) ∧ μ (l ++ [g r]) < μ l)
    (acc : List α × Bool) (hacc : Inv acc.1) :
    Inv (sweep c g rules acc).1 ∧ (∀ x, x ∈ acc.1 → x ∈ (sweep c g rules acc).1) ∧
    μ (sweep c g rules acc).1 ≤ μ acc.1 ∧
    ((sweep c g rules acc).2 = true → acc.2 = true ∨ μ (sweep c g rules acc).1 < μ acc.1) ∧
    ((sweep c g rules acc).2 = false →
      acc.2 = false ∧ (sweep c g rules acc).1 = acc.1 ∧ ∀ r, r ∈ rules → ¬ c acc.1 r) := by
  induction rules generalizing acc with
  | nil => exact ⟨hacc, fun _ h => h, Nat.le_refl _, Or.inl, fun h => ⟨h, rfl, nofun⟩⟩
  | cons r rules ih =>
    have ih := ih fun l r' hl hr' => hstep l r' hl (List.mem_cons_of_mem _ hr')
    rw [sweep, List.foldl_cons, ← sweep]
    by_cases hc : c acc.1 r
    · obtain ⟨hi, hlt⟩ := hstep acc.1 r hacc List.mem_cons_self hc
      rw [if_pos hc]
      obtain ⟨h1, h2, h3, _, h5⟩ := ih (acc.1 ++ [g r], true) hi
      exact ⟨h1, fun x hx => h2 x (List.mem_append_left _ hx), Nat.le_trans h3 (Nat.le_of_lt hlt),
        fun _ => Or.inr (Nat.lt_of_le_of_lt h3 hlt), fun h => nomatch (h5 h).1⟩
    · rw [if_neg hc]
      obtain ⟨h1, h2, h3, h4, h5⟩ := ih acc hacc
      exact ⟨h1, h2, h3, h4, fun h => ⟨(h5 h).1, (h5 h).2.1, List.forall_mem_cons.mpr ⟨hc, (h5 h).2.2⟩⟩⟩

/-- `loop` repeats the sweep while it raises the flag and returns `ret` of the list when it does not. At a call, have
    `hstep` proved beforehand: it fixes `c`, `g`, `Inv`, `μ`, and `hloop := fun _ _ => rfl` is cheap only once they are known. -/
theorem sweepLoop_spec {rules : List ρ}
    (hstep : ∀ l r, Inv l → r ∈ rules → c l r → Inv (l ++ [g r]) ∧ μ (l ++ [g r]) < μ l)
    {loop : Nat → List α → β} {ret : List α → β}
    (hloop : ∀ n l, loop (n + 1) l = if (sweep c g rules (l, false)).2 = true
      then loop n (sweep c g rules (l, false)).1 else ret (sweep c g rules (l, false)).1)
    (n : Nat) (l : List α) (hl : Inv l) (hn : μ l < n) :
    ∃ l', loop n l = ret l' ∧ Inv l' ∧ (∀ x, x ∈ l → x ∈ l') ∧ ∀ r, r ∈ rules → ¬ c l' r := by
  induction n generalizing l with
  | zero => exact absurd hn (Nat.not_lt_zero _)
  | succ n ih =>
    obtain ⟨hi, hsub, _, hlt, hfalse⟩ := sweep_spec rules hstep (l, false) hl
    rw [hloop]
    cases hf : (sweep c g rules (l, false)).2 with
    | false =>
      obtain ⟨_, h2, h3⟩ := hfalse hf
      rw [h2] at hi ⊢
      exact ⟨l, if_neg Bool.false_ne_true, hi, fun _ h => h, h3⟩
    | true =>
      obtain ⟨l', h1, h2, h3, h4⟩ := ih _ hi
        (Nat.lt_of_lt_of_le ((hlt hf).resolve_left Bool.false_ne_true) (Nat.le_of_lt_succ hn))
      exact ⟨l', (if_pos rfl).trans h1, h2, fun x hx => h3 x (hsub x hx), h4⟩

end
end Gamba
