/-
  Gamba.Proofs.C10a — helper lemmas for property C10 (part a): the PDA normal-form constructions
  (`PDA.toOneAccepting`, `PDA.toAcceptOnEmptyStack`, `SPDA.toPushPopS`) preserve the language.
  What a construction does to δ is said once, as `Adds d d' X` (`d'` is `d` with the transitions `X` added, Proofs/PDABasic).
  Each language proof is two uses of `PDA.Run.sim`; the relation says what a configuration of the constructed automaton stands
  for.  The loop of `toPushPopS` is described by a plan (`ppPlan`: the transitions in loop order, each non-push/pop one with
  the fresh state it is split through); its δ is the list of moves of the plan added to the empty dictionary.
-/
import Gamba.Proofs.C09
import Gamba.Proofs.C14a
import Gamba.Proofs.DecEq
namespace Gamba
namespace C10a
open C10b (wd)

section
variable {σ τ γ : Type} [DecidableEq σ] [DecidableEq τ] [DecidableEq γ]

theorem oneAcc_eq {P : PDA σ τ γ} {qa : σ} (hne : (dedup P.F).length ≠ 1) :
    P.toOneAccepting qa =
      { P with Q := sinsert P.Q qa
               delta := P.F.foldl (fun d q => addMove d (q, P.eps, P.epsG) (qa, P.epsG)) P.delta
               F := [qa] } := by
  unfold PDA.toOneAccepting
  rw [if_neg hne]

theorem oneAcc_id {P : PDA σ τ γ} {qa : σ} (h : (dedup P.F).length = 1) : P.toOneAccepting qa = P := by
  unfold PDA.toOneAccepting
  rw [if_pos h]

/-- the transitions that `toOneAccepting` adds: `f --ε,ε→ε--> qa` for the final states `f` -/
def oneAccT (P : PDA σ τ γ) (qa : σ) (k : σ × τ × γ) (t : σ × γ) : Prop :=
  ∃ f, f ∈ P.F ∧ k = (f, P.eps, P.epsG) ∧ t = (qa, P.epsG)

theorem oneAcc_adds (P : PDA σ τ γ) (qa : σ) (hne : (dedup P.F).length ≠ 1) :
    Adds P.delta (P.toOneAccepting qa).delta (oneAccT P qa) := by
  have h := (Adds.refl P.delta).foldl P.F (fun _ => False) (fun q => (q, P.eps, P.epsG)) fun _ => (qa, P.epsG)
  simp only [if_false] at h
  rw [oneAcc_eq hne]
  exact h.congr fun k t => by simp only [oneAccT, false_or, not_false_eq_true, true_and]

theorem oneAcc_valid (P : PDA σ τ γ) (hv : P.valid = true) (qa : σ) : (P.toOneAccepting qa).valid = true := by
  by_cases hne : (dedup P.F).length = 1
  · rw [oneAcc_id hne]; exact hv
  · have hA := oneAcc_adds P qa hne
    rw [oneAcc_eq hne] at hA ⊢
    rw [PDA_valid_iff]
    obtain ⟨h1, h2, h3, h4, h5⟩ := (PDA_valid_iff P).mp hv
    have hQ : ∀ q, q ∈ P.Q → q ∈ sinsert P.Q qa := fun q hq => mem_sinsert.mpr (Or.inl hq)
    have hqa : qa ∈ sinsert P.Q qa := mem_sinsert.mpr (Or.inr rfl)
    refine ⟨hQ _ h1, h2, h3, fun f hf => List.mem_singleton.mp hf ▸ hqa,
      hA.POK h5 hQ (fun x hx => hx) ?_⟩
    rintro k t ⟨f, hf, rfl, rfl⟩
    exact ⟨⟨hQ _ (h4 f hf), Or.inr rfl, Or.inr rfl⟩, hqa, Or.inr rfl⟩

theorem oneAcc_nodup (P : PDA σ τ γ) (hk : (P.delta.map (·.1)).Nodup) (qa : σ) :
    ((P.toOneAccepting qa).delta.map (·.1)).Nodup := by
  by_cases hne : (dedup P.F).length = 1
  · rw [oneAcc_id hne]; exact hk
  · exact (oneAcc_adds P qa hne).nodup hk

/-- language of a PDA whose transitions are those of `P` plus `f --ε,ε→ε--> qa` for the final states `f` of `P` -/
theorem oneAcc_lang (P P' : PDA σ τ γ) (qa : σ) (hv : P.valid = true) (hq : qa ∉ P.Q)
    (he : P'.eps = P.eps) (hG : P'.epsG = P.epsG) (h0 : P'.q0 = P.q0) (hF : P'.F = [qa])
    (hT : ∀ k t, dT P'.delta k t ↔ dT P.delta k t ∨ oneAccT P qa k t)
    (w : List τ) : P'.Accepts w ↔ P.Accepts w := by
  obtain ⟨hq0Q, _, _, hFQ, _⟩ := (PDA_valid_iff P).mp hv
  have move := @Move_congr _ _ _ _ _ _ P P' hG _ hT
  constructor
  · rintro ⟨f, st, hf, hr⟩
    rw [hF, List.mem_singleton] at hf
    rw [hf, h0] at hr
    -- `(qa, st)` stands for any `(f, st)` with `f` final: the added move is answered by staying
    obtain ⟨d, hd | ⟨_, hd, _⟩, hr'⟩ := hr.sim he
      (fun c d => (c.1 ∈ P.Q ∧ d = c) ∨ (c.1 = qa ∧ d.1 ∈ P.F ∧ d.2 = c.2)) (fun a c c1 d hm hc => by
        have hcQ : c.1 ∈ P.Q ∧ d = c := by
          refine hc.resolve_right fun h => hq (h.1 ▸ ?_)
          rcases move.mp hm with m | ⟨p, u, q, v, st, ⟨f, hf, ⟨⟩, _⟩, rfl, rfl⟩
          · exact (valid_Move hv m).1
          · exact hFQ _ hf
        rw [hcQ.2]
        rcases move.mp hm with m | ⟨p, u, q, v, st, ⟨f, hp, ⟨⟩, ⟨⟩⟩, rfl, rfl⟩
        · exact ⟨c1, Or.inl ⟨(valid_Move hv m).2, rfl⟩, m.run⟩
        · exact ⟨(p, _), Or.inr ⟨rfl, hp, rfl⟩, .stay P _⟩) (Or.inl ⟨hq0Q, rfl⟩)
    · exact absurd hd.1 hq
    · exact ⟨d.1, d.2, hd, hr'⟩
  · rintro ⟨f, st, hf, hr⟩
    refine ⟨qa, st, by rw [hF]; exact List.mem_singleton.mpr rfl, ?_⟩
    have hr' := hr.mono he.symm fun _ _ _ m => move.mpr (Or.inl m)
    have hx : P'.Move P.eps (f, st ++ P.stk P.epsG) (qa, st ++ P.stk P.epsG) :=
      move.mpr (Or.inr ⟨f, _, qa, _, st, ⟨f, hf, rfl, rfl⟩, rfl, rfl⟩)
    rw [PDA.stk_epsG, List.append_nil, ← he] at hx
    have := hr'.append hx.run
    rwa [C10b.wd_eps, List.append_nil, ← h0] at this

/-- the transitions that `toAcceptOnEmptyStack` adds: push the marker from `qi`, leave a final state for the drain state,
    pop a stack symbol there, pop the marker into `qa` -/
def esT (P : PDA σ τ γ) (bottom : γ) (qi qd qa : σ) (k : σ × τ × γ) (t : σ × γ) : Prop :=
  (k = (qi, P.eps, P.epsG) ∧ t = (P.q0, bottom)) ∨ (∃ f, f ∈ P.F ∧ k = (f, P.eps, P.epsG) ∧ t = (qd, P.epsG)) ∨
    (∃ u, u ∈ P.Gamma ∧ u ≠ bottom ∧ k = (qd, P.eps, u) ∧ t = (qd, P.epsG)) ∨
    (k = (qd, P.eps, bottom) ∧ t = (qa, P.epsG))

theorem es_adds (P : PDA σ τ γ) (bottom : γ) (qi qd qa : σ) :
    Adds P.delta (P.toAcceptOnEmptyStack bottom qi qd qa).delta (esT P bottom qi qd qa) := by
  have h := ((((Adds.refl P.delta).addMove (qi, P.eps, P.epsG) (P.q0, bottom)).foldl P.F (fun _ => False)
    (fun q => (q, P.eps, P.epsG)) fun _ => (qd, P.epsG)).foldl P.Gamma (fun u => u = bottom)
    (fun u => (qd, P.eps, u)) fun _ => (qd, P.epsG)).addMove (qd, P.eps, bottom) (qa, P.epsG)
  simp only [if_false] at h
  exact h.congr fun k t => by simp only [esT, false_or, not_false_eq_true, true_and, or_assoc, ne_eq]

theorem es_valid (P : PDA σ τ γ) (hv : P.valid = true) (bottom : γ) (qi qd qa : σ) (hbe : bottom ≠ P.epsG) :
    (P.toAcceptOnEmptyStack bottom qi qd qa).valid = true := by
  rw [PDA_valid_iff]
  obtain ⟨h1, h2, h3, h4, h5⟩ := (PDA_valid_iff P).mp hv
  have hA := es_adds P bottom qi qd qa
  simp only [PDA.toAcceptOnEmptyStack] at hA ⊢
  have hQ : ∀ q, q ∈ P.Q → q ∈ sinsert (sinsert (sinsert P.Q qi) qd) qa :=
    fun q hq => mem_sinsert.mpr (Or.inl (mem_sinsert.mpr (Or.inl (mem_sinsert.mpr (Or.inl hq)))))
  have hG : ∀ x, x ∈ P.Gamma → x ∈ sinsert P.Gamma bottom := fun x hx => mem_sinsert.mpr (Or.inl hx)
  have hqi : qi ∈ sinsert (sinsert (sinsert P.Q qi) qd) qa :=
    mem_sinsert.mpr (Or.inl (mem_sinsert.mpr (Or.inl (mem_sinsert.mpr (Or.inr rfl)))))
  have hqd : qd ∈ sinsert (sinsert (sinsert P.Q qi) qd) qa := mem_sinsert.mpr (Or.inl (mem_sinsert.mpr (Or.inr rfl)))
  have hqa : qa ∈ sinsert (sinsert (sinsert P.Q qi) qd) qa := mem_sinsert.mpr (Or.inr rfl)
  have hbG : bottom ∈ sinsert P.Gamma bottom := mem_sinsert.mpr (Or.inr rfl)
  refine ⟨hqi, h2, ?_, fun f hf => List.mem_singleton.mp hf ▸ hqa, hA.POK h5 hQ hG ?_⟩
  · simp only [mem_sinsert, not_or]
    exact ⟨h3, fun h => hbe h.symm⟩
  · rintro k t (⟨rfl, rfl⟩ | ⟨f, hf, rfl, rfl⟩ | ⟨u, hu, _, rfl, rfl⟩ | ⟨rfl, rfl⟩)
    · exact ⟨⟨hqi, Or.inr rfl, Or.inr rfl⟩, hQ _ h1, Or.inl hbG⟩
    · exact ⟨⟨hQ _ (h4 f hf), Or.inr rfl, Or.inr rfl⟩, hqd, Or.inr rfl⟩
    · exact ⟨⟨hqd, Or.inr rfl, Or.inl (hG _ hu)⟩, hqd, Or.inr rfl⟩
    · exact ⟨⟨hqd, Or.inr rfl, Or.inl hbG⟩, hqa, Or.inr rfl⟩

/-- what a configuration of the empty-stack automaton stands for: in `qi` nothing has happened yet; in a state of `P` the
    marker lies under the stack of `P`; in the drain state and in `qa` some accepting configuration of `P` has been left,
    the marker still lies under stack symbols of `P` resp. has just been popped -/
def esRel (P : PDA σ τ γ) (bottom : γ) (qi qd qa : σ) (c d : PConf σ γ) : Prop :=
  (c = (qi, []) ∧ d = (P.q0, [])) ∨
  (c.1 ∈ P.Q ∧ (c = (d.1, bottom :: d.2) ∧ ∀ x, x ∈ d.2 → x ∈ P.Gamma)) ∨
  (c.1 = qd ∧ (d.1 ∈ P.F ∧ ∃ s, c.2 = bottom :: s ∧ ∀ x, x ∈ s → x ∈ P.Gamma)) ∨
  (c = (qa, []) ∧ d.1 ∈ P.F)

/-- language of a PDA whose transitions are those of `P` plus the marker/drain transitions -/
theorem es_lang (P P' : PDA σ τ γ) (bottom : γ) (qi qd qa : σ) (hv : P.valid = true)
    (hb : bottom ∉ P.Gamma) (hbe : bottom ≠ P.epsG)
    (hqi : qi ∉ P.Q) (hqd : qd ∉ P.Q) (hqa : qa ∉ P.Q) (h1 : qi ≠ qd) (h2 : qi ≠ qa) (h3 : qd ≠ qa)
    (he : P'.eps = P.eps) (hG : P'.epsG = P.epsG) (h0 : P'.q0 = qi) (hF : P'.F = [qa])
    (hT : ∀ k t, dT P'.delta k t ↔ dT P.delta k t ∨ esT P bottom qi qd qa k t) :
    (∀ w, P'.Accepts w ↔ P.Accepts w) ∧
    (∀ w f st, f ∈ P'.F → P'.Run (P'.q0, []) w (f, st) → st = []) := by
  obtain ⟨hq0Q, _, hεG, hFQ, _⟩ := (PDA_valid_iff P).mp hv
  have move := @Move_congr _ _ _ _ _ _ P P' hG _ hT
  -- the disjuncts of `esRel` are told apart by the state
  have inQ : ∀ {c d}, esRel P bottom qi qd qa c d → c.1 ∈ P.Q →
      c = (d.1, bottom :: d.2) ∧ ∀ x, x ∈ d.2 → x ∈ P.Gamma := by
    rintro c d (⟨rfl, _⟩ | ⟨_, h⟩ | ⟨h, _⟩ | ⟨rfl, _⟩) hQ
    · exact absurd hQ hqi
    · exact h
    · exact absurd (h ▸ hQ) hqd
    · exact absurd hQ hqa
  have inQd : ∀ {c d}, esRel P bottom qi qd qa c d → c.1 = qd →
      d.1 ∈ P.F ∧ ∃ s, c.2 = bottom :: s ∧ ∀ x, x ∈ s → x ∈ P.Gamma := by
    rintro c d (⟨rfl, _⟩ | ⟨hQ, _⟩ | ⟨_, h⟩ | ⟨rfl, _⟩) hq
    · exact absurd hq h1
    · exact absurd (hq ▸ hQ) hqd
    · exact h
    · exact absurd hq.symm h3
  have step : ∀ a c c1 d, P'.Move a c c1 → esRel P bottom qi qd qa c d →
      ∃ d1, esRel P bottom qi qd qa c1 d1 ∧ P.Run d (wd P a) d1 := by
    intro a c c1 d hm hc
    rcases move.mp hm with m |
      ⟨p, u, q, v, st, ⟨⟨⟩, ⟨⟩⟩ | ⟨f, hf, ⟨⟩, ⟨⟩⟩ | ⟨x, hu, _, ⟨⟩, ⟨⟩⟩ | ⟨⟨⟩, ⟨⟩⟩, rfl, rfl⟩
    · -- a move of `P`, above the marker
      obtain ⟨rfl, hd⟩ := inQ hc (valid_Move hv m).1
      obtain ⟨s', hs', m'⟩ := Move_unframe hv hb m rfl
      exact ⟨(c1.1, s'), Or.inr (Or.inl ⟨(valid_Move hv m).2, Prod.ext rfl hs', Move_stack_Gamma hv m' hd⟩), m'.run⟩
    · -- the marker is pushed
      rcases hc with ⟨hc, rfl⟩ | ⟨hQ, _⟩ | ⟨hq, _⟩ | ⟨hc, _⟩
      · rw [PDA.stk_epsG, List.append_nil] at hc
        cases hc
        exact ⟨_, Or.inr (Or.inl ⟨hq0Q, by rw [PDA.stk_ne hbe]; rfl, fun x hx => by cases hx⟩), .stay P _⟩
      · exact absurd hQ hqi
      · exact absurd hq h1
      · exact absurd (congrArg Prod.fst hc) h2
    · -- an accepting configuration is left for the drain state
      obtain ⟨hcd, hd⟩ := inQ hc (hFQ _ hf)
      exact ⟨d, Or.inr (Or.inr (Or.inl ⟨rfl, congrArg Prod.fst hcd ▸ hf, d.2, congrArg Prod.snd hcd, hd⟩)), .stay P _⟩
    · -- a stack symbol of `P` is drained
      obtain ⟨hdF, s, hs, hGs⟩ := inQd hc rfl
      obtain ⟨s', rfl, rfl⟩ := marker_split hb (Or.inl hu) hs.symm
      exact ⟨d, Or.inr (Or.inr (Or.inl ⟨rfl, hdF, s', by rw [PDA.stk_epsG, List.append_nil],
        fun x hx => hGs x (List.mem_append_left _ hx)⟩)), .stay P _⟩
    · -- the marker is popped: nothing of `P` was left above it
      obtain ⟨hdF, s, hs, hGs⟩ := inQd hc rfl
      rw [PDA.stk_ne hbe] at hs
      cases st with
      | nil => exact ⟨d, Or.inr (Or.inr (Or.inr ⟨by rw [PDA.stk_epsG]; rfl, hdF⟩)), .stay P _⟩
      | cons x st =>
        rw [List.cons_append, List.cons.injEq] at hs
        exact absurd (hGs _ (hs.2 ▸ List.mem_append_right _ (List.mem_singleton.mpr rfl))) hb
  -- a computation from `qi` to `qa` stands for an accepting computation of `P`, and ends with the empty stack
  have lemC : ∀ w st, P'.Run (qi, []) w (qa, st) → st = [] ∧ P.Accepts w := by
    intro w st hr
    obtain ⟨d, ⟨hc, _⟩ | ⟨hQ, _⟩ | ⟨hq, _⟩ | ⟨hc, hdF⟩, hr'⟩ := hr.sim he _ step (Or.inl ⟨rfl, rfl⟩)
    · exact absurd (congrArg Prod.fst hc).symm h2
    · exact absurd hQ hqa
    · exact absurd hq.symm h3
    · exact ⟨congrArg Prod.snd hc, d.1, d.2, hdF, hr'⟩
  have xrun : ∀ {p u q v} (st : List γ), esT P bottom qi qd qa (p, P.eps, u) (q, v) →
      P'.Run (p, st ++ P.stk u) [] (q, st ++ P.stk v) := fun st hx =>
    .eps (by rw [he]; exact move.mpr (Or.inr ⟨_, _, _, _, st, hx, rfl, rfl⟩)) (.nil _)
  have drain : ∀ (st pre : List γ), (∀ x, x ∈ st → x ∈ P.Gamma) → P'.Run (qd, pre ++ st.reverse) [] (qd, pre) := by
    intro st
    induction st with
    | nil => intro pre _; simpa using PDA.Run.nil _
    | cons x st ih =>
      intro pre hst
      have hx := hst x List.mem_cons_self
      have r := xrun (pre ++ st.reverse) (Or.inr (Or.inr (Or.inl ⟨x, hx, fun h => hb (h ▸ hx), rfl, rfl⟩)))
      simp only [PDA.stk_epsG, PDA.stk_ne (fun h => hεG (h ▸ hx)), List.append_nil] at r
      simpa using r.append (ih pre (fun y hy => hst y (List.mem_cons_of_mem _ hy)))
  have hqa' : qa ∈ P'.F := by rw [hF]; exact List.mem_singleton.mpr rfl
  refine ⟨fun w => ⟨?_, ?_⟩, ?_⟩
  · rintro ⟨f, st, hf, hr⟩
    rw [hF, List.mem_singleton] at hf
    rw [hf, h0] at hr
    exact (lemC w st hr).2
  · rintro ⟨f, st, hf, hr⟩
    refine ⟨qa, [], hqa', ?_⟩
    rw [h0]
    have r1 := xrun [] (Or.inl ⟨rfl, rfl⟩)
    have r2 : P'.Run (P.q0, [bottom]) w (f, [bottom] ++ st) :=
      (hr.frame [bottom]).mono he.symm (fun _ _ _ m => move.mpr (Or.inl m))
    have r3 := xrun ([bottom] ++ st) (Or.inr (Or.inl ⟨f, hf, rfl, rfl⟩))
    have hst : ∀ x, x ∈ st → x ∈ P.Gamma :=
      hr.inv (I := fun c => ∀ x, x ∈ c.2 → x ∈ P.Gamma) (fun _ _ _ m => Move_stack_Gamma hv m) (fun x hx => by cases hx)
    have r4 : P'.Run (qd, [bottom] ++ st) [] (qd, [bottom]) := by
      have := drain st.reverse [bottom] (fun x hx => hst x (List.mem_reverse.mp hx))
      rwa [List.reverse_reverse] at this
    have r5 := xrun [] (Or.inr (Or.inr (Or.inr ⟨rfl, rfl⟩)))
    simp only [PDA.stk_epsG, PDA.stk_ne hbe, List.append_nil, List.nil_append] at r1 r3 r5
    simpa using (((r1.append r2).append r3).append r4).append r5
  · intro w f st hf hr
    rw [hF, List.mem_singleton] at hf
    rw [hf, h0] at hr
    exact (lemC w st hr).1

/-- push or pop, exactly one symbol -/
def isPP (P : PDA σ τ γ) (u v : γ) : Prop := (u = P.epsG ∧ v ≠ P.epsG) ∨ (u ≠ P.epsG ∧ v = P.epsG)

/-- what the first half of a split transition pushes: the dummy for a no-op, nothing for a replace -/
def midSym (P : PDA σ τ γ) (dummy u : γ) : γ := if u = P.epsG then dummy else P.epsG

/-- what the push/pop loop adds for a planned transition: itself, or its two halves through the intermediate state -/
def ppMoves (P : PDA σ τ γ) (dummy : γ) : ((σ × τ × γ) × (σ × γ)) × Option σ → List ((σ × τ × γ) × (σ × γ))
  | (kt, none) => [kt]
  | (kt, some m) => [(kt.1, (m, midSym P dummy kt.1.2.2)), ((m, P.eps, midSym P dummy kt.1.2.2), kt.2)]

/-- `pl` lists the transitions of `P`, some of them with a private new state; `P'` has the moves `ppMoves` makes of them -/
structure Split (P P' : PDA σ τ γ) (dummy : γ) (pl : List (((σ × τ × γ) × (σ × γ)) × Option σ)) : Prop where
  trans : ∀ k t, (∃ o, ((k, t), o) ∈ pl) ↔ dT P.delta k t
  fresh : ∀ x m, x ∈ pl → x.2 = some m → m ∉ P.Q
  inj : ∀ x y m, x ∈ pl → y ∈ pl → x.2 = some m → y.2 = some m → x = y
  dT : ∀ k t, dT P'.delta k t ↔ ∃ x, x ∈ pl ∧ (k, t) ∈ ppMoves P dummy x

theorem pp_runs {P P' : PDA σ τ γ} {dummy : γ} {pl : List (((σ × τ × γ) × (σ × γ)) × Option σ)}
    (h : Split P P' dummy pl) (hv : P.valid = true) (he : P'.eps = P.eps) (hG : P'.epsG = P.epsG) :
    (∀ c w c', P.Run c w c' → P'.Run c w c') ∧
    ∀ c w c'', P'.Run c w c'' → c.1 ∈ P.Q → c''.1 ∈ P.Q → P.Run c w c'' := by
  have hstk : ∀ x, P'.stk x = P.stk x := PDA.stk_congr hG
  have mk : ∀ {p a u q v} st, Gamba.dT P'.delta (p, a, u) (q, v) → P'.Move a (p, st ++ P.stk u) (q, st ++ P.stk v) :=
    fun st ht => PDA.move_iff.mpr ⟨_, _, _, _, st, ht, by rw [hstk], by rw [hstk]⟩
  constructor
  · -- a move of `P` is one move of `P'`, or the two halves it was split into
    intro c w c' hr
    obtain ⟨_, rfl, hr'⟩ := hr.sim he.symm Eq (fun a c c1 d hm hc => by
      subst hc
      refine ⟨c1, rfl, ?_⟩
      obtain ⟨p, u, q, v, st, ht, rfl, rfl⟩ := PDA.move_iff.mp hm
      obtain ⟨_ | m, hx⟩ := (h.trans _ _).mpr ht
      · exact (mk st ((h.dT _ _).mpr ⟨_, hx, List.mem_singleton.mpr rfl⟩)).run
      · have r1 := (mk st ((h.dT _ _).mpr ⟨_, hx, List.mem_cons_self⟩)).run
        have r2 := (mk st ((h.dT _ _).mpr ⟨_, hx, List.mem_cons_of_mem _ (List.mem_singleton.mpr rfl)⟩)).run
        rw [← he, C10b.wd_eps] at r2
        simpa using r1.append r2) rfl
    exact hr'
  · -- an intermediate state stands for the target of the transition it splits, the second half is answered by staying
    intro c w c'' hr hc hc''
    obtain ⟨d, hd | ⟨k, t, st, hM, _⟩, hr'⟩ := hr.sim he
      (fun c d => (c.1 ∈ P.Q ∧ d = c) ∨ ∃ k t st, ((k, t), some c.1) ∈ pl ∧ c.2 = st ++ P.stk (midSym P dummy k.2.2) ∧
        d = (t.1, st ++ P.stk t.2)) (fun a c c1 d hm hcd => by
      obtain ⟨p', u', q', v', st, ht, rfl, rfl⟩ := PDA.move_iff.mp hm
      simp only [hstk] at hcd ⊢
      obtain ⟨⟨⟨⟨p, a0, u⟩, ⟨q, v⟩⟩, _ | m⟩, hx, hmem⟩ := (h.dT _ _).mp ht
      · cases List.mem_singleton.mp hmem
        have htP := (h.trans _ _).mp ⟨_, hx⟩
        have hQ := PDA.Trans.valid hv htP
        obtain ⟨_, rfl⟩ := hcd.resolve_right fun ⟨k, t, _, hM, _⟩ => h.fresh _ _ hM rfl hQ.1
        exact ⟨_, Or.inl ⟨hQ.2.2.2.1, rfl⟩, (PDA.move_iff.mpr ⟨_, _, _, _, st, htP, rfl, rfl⟩).run⟩
      · have htP := (h.trans _ _).mp ⟨_, hx⟩
        have hQ := PDA.Trans.valid hv htP
        rcases List.mem_cons.mp hmem with h1 | h1
        · cases h1
          obtain ⟨_, rfl⟩ := hcd.resolve_right fun ⟨k, t, _, hM2, _⟩ => h.fresh _ _ hM2 rfl hQ.1
          exact ⟨(q, st ++ P.stk v), Or.inr ⟨_, _, st, hx, rfl, rfl⟩, (PDA.move_iff.mpr ⟨_, _, _, _, st, htP, rfl, rfl⟩).run⟩
        · cases List.mem_singleton.mp h1
          obtain ⟨k2, t2, st2, hM2, h1, rfl⟩ := hcd.resolve_left fun hc => h.fresh _ _ hx rfl hc.1
          cases h.inj _ _ _ hM2 hx rfl rfl
          cases List.append_cancel_right h1
          exact ⟨_, Or.inl ⟨hQ.2.2.2.1, rfl⟩, .stay P _⟩) (Or.inl ⟨hc, rfl⟩)
    · exact hd.2 ▸ hr'
    · exact absurd hc'' (h.fresh _ _ hM rfl)

end

theorem freshSymbol_not_mem {G : List String} {b : String} (h : freshSymbol G = .ok b) : b ∉ G := by
  unfold freshSymbol at h
  split at h
  · rename_i s hs
    cases h
    have := List.find?_some hs
    simpa using this
  · cases h

/-- the last three clauses are there for `C10c.normalize_spec`: names made by `freshState` from these hints have no `'` -/
theorem esS_eq {P P' : SPDA} (h : P.toAcceptOnEmptyStackS = .ok P') :
    ∃ b qi qd qa, freshSymbol P.Gamma = .ok b ∧ P' = P.toAcceptOnEmptyStack b qi qd qa ∧
      qi ∉ P.Q ∧ qd ∉ sinsert P.Q qi ∧ qa ∉ sinsert (sinsert P.Q qi) qd ∧
      (∃ Q, qi = freshState Q "q_initial") ∧ (∃ Q, qd = freshState Q "q_drain") ∧ ∃ Q, qa = freshState Q "q_accept" := by
  simp only [SPDA.toAcceptOnEmptyStackS, Except.bind_eq_ok', Except.pure_eq_ok] at h
  obtain ⟨b, hb, h⟩ := h
  exact ⟨b, _, _, _, hb, h.symm, freshState_not_mem _ _, freshState_not_mem _ _, freshState_not_mem _ _,
    ⟨_, rfl⟩, ⟨_, rfl⟩, ⟨_, rfl⟩⟩

theorem esS_spec (P : SPDA) (hv : P.valid = true) (hk : (P.delta.map (·.1)).Nodup)
    (hε : freshSymbol P.Gamma ≠ .ok P.epsG) (P' : SPDA) (h : P.toAcceptOnEmptyStackS = .ok P') :
    P'.valid = true ∧ (P'.delta.map (·.1)).Nodup ∧ (∀ w, P'.Accepts w ↔ P.Accepts w) ∧
    (∀ w f st, f ∈ P'.F → P'.Run (P'.q0, []) w (f, st) → st = []) := by
  obtain ⟨b, qi, qd, qa, hb, rfl, hqi, hqd, hqa, _⟩ := esS_eq h
  simp only [mem_sinsert, not_or] at hqd hqa
  have hbe : b ≠ P.epsG := by
    intro hbe; rw [hbe] at hb; exact hε hb
  obtain ⟨r4, r5⟩ := es_lang P (P.toAcceptOnEmptyStack b qi qd qa) b qi qd qa hv (freshSymbol_not_mem hb) hbe hqi hqd.1
    hqa.1.1 (fun h => hqd.2 h.symm) (fun h => hqa.1.2 h.symm) (fun h => hqa.2 h.symm) rfl rfl rfl rfl
    (es_adds P b qi qd qa).dT
  exact ⟨es_valid P hv b qi qd qa hbe, (es_adds P b qi qd qa).nodup hk, r4, r5⟩

abbrev SK := String × String × String
abbrev ST := String × String

instance (P : SPDA) (u v : String) : Decidable (isPP P u v) := by unfold isPP; infer_instance

/-- one transition `(k, t)` of the loop body of `pda_to_push_pop_in_place` -/
def ppStep1 (P : SPDA) (dummy : String) (k : SK) (acc : PPAcc) (t : ST) : PPAcc :=
  if isPP P k.2.2 t.2 then
    { acc with delta := addMove acc.delta k t }
  else
    { Q := acc.Q ++ [freshState acc.Q "M"],
      delta := addMove (addMove acc.delta k (freshState acc.Q "M", midSym P dummy k.2.2))
        (freshState acc.Q "M", P.eps, midSym P dummy k.2.2) t }

/-- the two non-push/pop branches of the loop body, which `midSym` folds into one -/
theorem ppStep1_mk (P : SPDA) (p a u q v : String) (acc : PPAcc) :
    ppStep1 P "∅" (p, a, u) acc (q, v) =
      if (u = P.epsG ∧ v ≠ P.epsG) ∨ (u ≠ P.epsG ∧ v = P.epsG) then
        { acc with delta := addMove acc.delta (p, a, u) (q, v) }
      else if u = P.epsG ∧ v = P.epsG then
        { Q := acc.Q ++ [freshState acc.Q "M"],
          delta := addMove (addMove acc.delta (p, a, P.epsG) (freshState acc.Q "M", "∅"))
            (freshState acc.Q "M", P.eps, "∅") (q, P.epsG) }
      else
        { Q := acc.Q ++ [freshState acc.Q "M"],
          delta := addMove (addMove acc.delta (p, a, u) (freshState acc.Q "M", P.epsG))
            (freshState acc.Q "M", P.eps, P.epsG) (q, v) } := by
  unfold ppStep1 midSym isPP
  by_cases hu : u = P.epsG
  · by_cases hv : v = P.epsG
    · subst hu hv
      simp only [ne_eq, not_true_eq_false, and_false, and_true, or_self, if_false, if_true]
    · simp only [hu, hv, ne_eq, not_false_eq_true, and_self, not_true_eq_false, or_false, if_true]
  · by_cases hv : v = P.epsG
    · simp only [hu, hv, ne_eq, not_true_eq_false, not_false_eq_true, and_self, or_true, if_true]
    · simp only [hu, hv, ne_eq, not_false_eq_true, and_true, and_false, or_self, if_false]

/-- the transitions in the order of the loop; a transition that is neither push nor pop gets the state `M<i>` that is fresh
    for the states so far -/
def ppPlan (P : SPDA) : List String → List (SK × ST) → List ((SK × ST) × Option String)
  | _, [] => []
  | Q, kt :: L =>
    if isPP P kt.1.2.2 kt.2.2 then (kt, none) :: ppPlan P Q L
    else (kt, some (freshState Q "M")) :: ppPlan P (Q ++ [freshState Q "M"]) L

theorem foldl_ppStep1 (P : SPDA) (dummy : String) (L : List (SK × ST)) (acc : PPAcc) :
    L.foldl (fun acc kt => ppStep1 P dummy kt.1 acc kt.2) acc =
      { Q := acc.Q ++ (ppPlan P acc.Q L).filterMap (·.2),
        delta := addMoves acc.delta ((ppPlan P acc.Q L).flatMap (ppMoves P dummy)) } := by
  induction L generalizing acc with
  | nil => simp [ppPlan, addMoves]
  | cons kt L ih =>
    rw [List.foldl_cons, ih, ppPlan, ppStep1]
    by_cases hpp : isPP P kt.1.2.2 kt.2.2
    · rw [if_pos hpp, if_pos hpp]
      rfl
    · rw [if_neg hpp, if_neg hpp]
      simp only [List.filterMap_cons, List.flatMap_cons, ppMoves, List.append_assoc, List.cons_append, List.nil_append,
        addMoves_cons]

theorem ppPlan_fst (P : SPDA) (Q : List String) (L : List (SK × ST)) : (ppPlan P Q L).map (·.1) = L := by
  induction L generalizing Q with
  | nil => rfl
  | cons kt L ih =>
    rw [ppPlan]
    split <;> simp only [List.map_cons, ih]

theorem ppPlan_none_iff (P : SPDA) {Q : List String} {L : List (SK × ST)} {x : (SK × ST) × Option String}
    (hx : x ∈ ppPlan P Q L) : x.2 = none ↔ isPP P x.1.1.2.2 x.1.2.2 := by
  induction L generalizing Q with
  | nil => cases hx
  | cons kt L ih =>
    rw [ppPlan] at hx
    split at hx
    · rename_i hpp
      rcases List.mem_cons.mp hx with rfl | hx
      · exact iff_of_true rfl hpp
      · exact ih hx
    · rename_i hpp
      rcases List.mem_cons.mp hx with rfl | hx
      · exact iff_of_false (fun h => nomatch h) hpp
      · exact ih hx

theorem ppPlan_some (P : SPDA) {Q : List String} {L : List (SK × ST)} {x : (SK × ST) × Option String} {m : String}
    (hx : x ∈ ppPlan P Q L) (hm : x.2 = some m) : ∃ Q', (∀ q, q ∈ Q → q ∈ Q') ∧ m = freshState Q' "M" := by
  induction L generalizing Q with
  | nil => cases hx
  | cons kt L ih =>
    rw [ppPlan] at hx
    split at hx
    · rcases List.mem_cons.mp hx with rfl | hx
      · cases hm
      · exact ih hx
    · rcases List.mem_cons.mp hx with rfl | hx
      · exact ⟨Q, fun _ h => h, (Option.some.inj hm).symm⟩
      · obtain ⟨Q', hQ, h⟩ := ih hx
        exact ⟨Q', fun q hq => hQ q (List.mem_append_left _ hq), h⟩

theorem ppPlan_fresh (P : SPDA) {Q : List String} {L : List (SK × ST)} {x : (SK × ST) × Option String} {m : String}
    (hx : x ∈ ppPlan P Q L) (hm : x.2 = some m) : m ∉ Q := by
  obtain ⟨Q', hQ, rfl⟩ := ppPlan_some P hx hm
  exact fun h => freshState_not_mem Q' "M" (hQ _ h)

theorem ppPlan_inj (P : SPDA) {Q : List String} {L : List (SK × ST)} :
    ∀ x y m, x ∈ ppPlan P Q L → y ∈ ppPlan P Q L → x.2 = some m → y.2 = some m → x = y := by
  induction L generalizing Q with
  | nil => exact fun _ _ _ hx => (nomatch hx)
  | cons kt L ih =>
    rw [ppPlan]
    split
    · intro x y m hx hy hxm hym
      rcases List.mem_cons.mp hx with rfl | hx
      · cases hxm
      · rcases List.mem_cons.mp hy with rfl | hy
        · cases hym
        · exact ih x y m hx hy hxm hym
    · have later : ∀ x, x ∈ ppPlan P (Q ++ [freshState Q "M"]) L → x.2 ≠ some (freshState Q "M") :=
        fun x hx hm => ppPlan_fresh P hx hm (List.mem_append_right _ (List.mem_singleton.mpr rfl))
      intro x y m hx hy hxm hym
      rcases List.mem_cons.mp hx with rfl | hx <;> rcases List.mem_cons.mp hy with rfl | hy
      · rfl
      · cases hxm
        exact absurd hym (later y hy)
      · cases hym
        exact absurd hxm (later x hx)
      · exact ih x y m hx hy hxm hym

theorem isPP_midSym {P : SPDA} {dummy u v : String} (hd : dummy ≠ P.epsG) (hpp : ¬ isPP P u v) :
    (midSym P dummy u ∈ P.Gamma ++ [dummy] ∨ midSym P dummy u = P.epsG) ∧ isPP P u (midSym P dummy u) ∧
      isPP P (midSym P dummy u) v := by
  unfold midSym
  by_cases hu : u = P.epsG
  · rw [if_pos hu]
    exact ⟨Or.inl (List.mem_append_right _ (List.mem_singleton.mpr rfl)), Or.inl ⟨hu, hd⟩,
      Or.inr ⟨hd, Classical.byContradiction fun hv => hpp (Or.inl ⟨hu, hv⟩)⟩⟩
  · rw [if_neg hu]
    exact ⟨Or.inr rfl, Or.inr ⟨hu, rfl⟩, Or.inl ⟨rfl, fun hv => hpp (Or.inr ⟨hu, hv⟩)⟩⟩

def ppPlanned (P : SPDA) (dummy : String) (pl : List ((SK × ST) × Option String)) : SPDA :=
  { P with Q := P.Q ++ pl.filterMap (·.2), Gamma := P.Gamma ++ [dummy],
           delta := addMoves [] (pl.flatMap (ppMoves P dummy)) }

/-- the PDA rebuilt by `pda_to_push_pop_in_place` from `P` (after the single-accepting-state step) -/
def ppResult (P : SPDA) (dummy : String) : SPDA := ppPlanned P dummy (ppPlan P P.Q (transList P.delta))

theorem toPushPopS_eq (P0 : SPDA) :
    P0.toPushPopS = if "∅" ∈ P0.toOneAcceptingS.Gamma then .error .assertion else
      .ok (ppResult P0.toOneAcceptingS "∅") := by
  have hfold := foldl_ppStep1 P0.toOneAcceptingS "∅" (transList P0.toOneAcceptingS.delta)
    { Q := P0.toOneAcceptingS.Q, delta := [] }
  simp only [transList, List.foldl_flatMap, List.foldl_map] at hfold
  unfold SPDA.toPushPopS ppResult ppPlanned transList
  simp only [← ppStep1_mk]
  simp only [Prod.eta, hfold]

theorem ppResult_spec (P : SPDA) (dummy : String) (hv : P.valid = true) (hk : (P.delta.map (·.1)).Nodup)
    (hd : dummy ≠ P.epsG) :
    (ppResult P dummy).valid = true ∧ ((ppResult P dummy).delta.map (·.1)).Nodup ∧
    (ppResult P dummy).isPushPop = true ∧
    (∀ c w c', (ppResult P dummy).Run c w c' → c.1 ∈ P.Q → c'.1 ∈ P.Q → P.Run c w c') ∧
    ∀ w, (ppResult P dummy).Accepts w ↔ P.Accepts w := by
  obtain ⟨hq0, hεS, hεG, hFQ, _⟩ := (PDA_valid_iff P).mp hv
  unfold ppResult
  have hfst := ppPlan_fst P P.Q (transList P.delta)
  have hnone := @ppPlan_none_iff P P.Q (transList P.delta)
  have hfresh := @ppPlan_fresh P P.Q (transList P.delta)
  have hinj := @ppPlan_inj P P.Q (transList P.delta)
  generalize ppPlan P P.Q (transList P.delta) = pl at hfst hnone hfresh hinj ⊢
  have hA : Adds [] (ppPlanned P dummy pl).delta fun k t => (k, t) ∈ pl.flatMap (ppMoves P dummy) := .of_nil _
  have hsplit : Split P (ppPlanned P dummy pl) dummy pl := by
    refine ⟨fun k t => ?_, fun x m => hfresh, hinj, fun k t => ?_⟩
    · rw [← mem_transList hk, ← hfst, List.mem_map]
      exact ⟨fun ⟨o, ho⟩ => ⟨_, ho, rfl⟩, fun ⟨x, hx, hxe⟩ => ⟨x.2, hxe ▸ hx⟩⟩
    · rw [hA.dT_nil, List.mem_flatMap]
  have inQ : ∀ q, q ∈ P.Q → q ∈ (ppPlanned P dummy pl).Q := fun q hq => List.mem_append_left _ hq
  have inG : ∀ x, x ∈ P.Gamma → x ∈ P.Gamma ++ [dummy] := fun x hx => List.mem_append_left _ hx
  -- every transition built has its key and target over the new states and stack symbols, and pushes or pops
  have hM : ∀ k t, (k, t) ∈ pl.flatMap (ppMoves P dummy) →
      ((k.1 ∈ (ppPlanned P dummy pl).Q ∧ (k.2.1 ∈ P.Sigma ∨ k.2.1 = P.eps) ∧
        (k.2.2 ∈ P.Gamma ++ [dummy] ∨ k.2.2 = P.epsG)) ∧
        t.1 ∈ (ppPlanned P dummy pl).Q ∧ (t.2 ∈ P.Gamma ++ [dummy] ∨ t.2 = P.epsG)) ∧ isPP P k.2.2 t.2 := by
    intro k t hm
    obtain ⟨⟨⟨⟨p, a, u⟩, ⟨q, v⟩⟩, o⟩, hx, hm⟩ := List.mem_flatMap.mp hm
    have hQ := PDA.Trans.valid hv ((hsplit.trans _ _).mp ⟨o, hx⟩)
    have hkey := (⟨inQ _ hQ.1, hQ.2.1, hQ.2.2.1.imp (inG _) id⟩ :
      p ∈ (ppPlanned P dummy pl).Q ∧ (a ∈ P.Sigma ∨ a = P.eps) ∧ (u ∈ P.Gamma ++ [dummy] ∨ u = P.epsG))
    have htgt := (⟨inQ _ hQ.2.2.2.1, hQ.2.2.2.2.imp (inG _) id⟩ :
      q ∈ (ppPlanned P dummy pl).Q ∧ (v ∈ P.Gamma ++ [dummy] ∨ v = P.epsG))
    cases o with
    | none =>
      cases List.mem_singleton.mp hm
      exact ⟨⟨hkey, htgt⟩, (hnone hx).mp rfl⟩
    | some m0 =>
      obtain ⟨hxG, hpp1, hpp2⟩ := isPP_midSym hd (fun h => nomatch (hnone hx).mpr h)
      have hm0 : m0 ∈ (ppPlanned P dummy pl).Q := List.mem_append_right _ (List.mem_filterMap.mpr ⟨_, hx, rfl⟩)
      rcases List.mem_cons.mp hm with hm | hm
      · cases hm
        exact ⟨⟨hkey, hm0, hxG⟩, hpp1⟩
      · cases List.mem_singleton.mp hm
        exact ⟨⟨⟨hm0, Or.inr rfl, hxG⟩, htgt⟩, hpp2⟩
  obtain ⟨fwd, bwd⟩ := pp_runs hsplit hv rfl rfl
  refine ⟨?_, hA.nodup List.nodup_nil, ?_, bwd, fun w => ⟨?_, ?_⟩⟩
  · rw [PDA_valid_iff]
    refine ⟨inQ _ hq0, hεS, ?_, fun f hf => inQ _ (hFQ f hf),
      hA.POK (fun e he => nomatch he) inQ inG fun k t hx => (hM k t hx).1⟩
    simp only [ppPlanned, List.mem_append, List.mem_singleton, not_or]
    exact ⟨hεG, fun h => hd h.symm⟩
  · unfold PDA.isPushPop
    simp only [List.all_eq_true, Bool.or_eq_true, Bool.and_eq_true, decide_eq_true_eq]
    exact fun e he t ht => (((hA.mem e he).2 t ht).elim (fun ⟨_, h, _⟩ => nomatch h) (hM _ _)).2
  · rintro ⟨f, st, hf, hr⟩
    exact ⟨f, st, hf, bwd _ _ _ hr hq0 (hFQ f hf)⟩
  · rintro ⟨f, st, hf, hr⟩
    exact ⟨f, st, hf, fwd _ _ _ hr⟩

theorem oneAcc_epsG (P : SPDA) : P.toOneAcceptingS.epsG = P.epsG ∧ P.toOneAcceptingS.Gamma = P.Gamma := by
  unfold SPDA.toOneAcceptingS PDA.toOneAccepting
  split <;> exact ⟨rfl, rfl⟩

/-! ### concrete automata for the non-vacuity examples of Props/C10a and Props/C10c -/

/-- accepts `a` with the non-empty stack `[x]`: the witness of the repaired defect -/
def exNE : SPDA :=
  { Q := ["q0", "q1"], Sigma := ["a"], Gamma := ["x"], delta := [(("q0", "a", "eps"), [("q1", "x")])],
    q0 := "q0", F := ["q1"], eps := "eps", epsG := "eps" }

theorem exNE_valid : exNE.valid = true := by decide +kernel

theorem exNE_keys : (exNE.delta.map (·.1)).Nodup := by decide +kernel

/-- two accepting states (one with an outgoing move), a no-op and a replace transition -/
def exNO : SPDA :=
  { Q := ["q0", "q1", "q2"], Sigma := ["a"], Gamma := ["x", "y"],
    delta := [(("q0", "a", "eps"), [("q1", "x"), ("q0", "eps")]), (("q1", "eps", "x"), [("q2", "y")])],
    q0 := "q0", F := ["q1", "q2"], eps := "eps", epsG := "eps" }

/-- `exNE` with `$` as its ε -/
def exDollar : SPDA :=
  { Q := ["q0", "q1"], Sigma := ["a"], Gamma := ["x"], delta := [(("q0", "a", "$"), [("q1", "x")])],
    q0 := "q0", F := ["q1"], eps := "$", epsG := "$" }

/-- `exNE` with `∅` as its ε -/
def exEmptySet : SPDA :=
  { Q := ["q0", "q1"], Sigma := ["a"], Gamma := ["x"], delta := [(("q0", "a", "∅"), [("q1", "x")])],
    q0 := "q0", F := ["q1"], eps := "∅", epsG := "∅" }

theorem exNE_run : exNE.Run (exNE.q0, []) ["a"] ("q1", ["x"]) :=
  .sym (by decide) (PDA.Move_of_mem_moves (by decide) (by decide)) (.nil _)

theorem exNE_accepts : exNE.Accepts ["a"] := ⟨"q1", ["x"], by decide, exNE_run⟩

theorem exNE_emptyStackS : exNE.toAcceptOnEmptyStackS = .ok
    { Q := ["q0", "q1", "q_initial1", "q_drain1", "q_accept1"], Sigma := ["a"], Gamma := ["x", "$"],
      delta := [(("q0", "a", "eps"), [("q1", "x")]),
                (("q_initial1", "eps", "eps"), [("q0", "$")]),
                (("q1", "eps", "eps"), [("q_drain1", "eps")]),
                (("q_drain1", "eps", "x"), [("q_drain1", "eps")]),
                (("q_drain1", "eps", "$"), [("q_accept1", "eps")])],
      q0 := "q_initial1", F := ["q_accept1"], eps := "eps", epsG := "eps" } := by decide +kernel

theorem exNE_marker : freshSymbol exNE.Gamma ≠ .ok exNE.epsG := by
  have h : freshSymbol exNE.Gamma = .ok "$" := rfl
  rw [h]
  intro h'
  exact absurd (Except.ok.inj h') (by decide)

theorem exNO_pushPopS : exNO.toPushPopS = .ok
    { Q := ["q0", "q1", "q2", "q_accept1", "M1", "M2", "M3", "M4"], Sigma := ["a"], Gamma := ["x", "y", "∅"],
      delta := [(("q0", "a", "eps"), [("q1", "x"), ("M1", "∅")]),
                (("M1", "eps", "∅"), [("q0", "eps")]),
                (("q1", "eps", "x"), [("M2", "eps")]),
                (("M2", "eps", "eps"), [("q2", "y")]),
                (("q1", "eps", "eps"), [("M3", "∅")]),
                (("M3", "eps", "∅"), [("q_accept1", "eps")]),
                (("q2", "eps", "eps"), [("M4", "∅")]),
                (("M4", "eps", "∅"), [("q_accept1", "eps")])],
      q0 := "q0", F := ["q_accept1"], eps := "eps", epsG := "eps" } := by decide +kernel

end C10a
end Gamba
