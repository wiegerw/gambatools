/-
  Gamba.Proofs.C02cfg — helper lemmas for the exactness of the bounded enumerator
  `CFG.wordsUpTo` on grammars in Chomsky normal form.

  * `IterN r k a b` : `b` is reachable from `a` in exactly `k` steps of `r`;
  * `Step2 G f g`   : `g` is obtained from the form `f` by rewriting one variable with a rule of length two;
  * `MW G f w`      : `w` is obtained from the form `f` (variables only) by replacing every variable by the
                       terminal of one of its terminal rules;
  * `mem_wordsLoop` : what the loop computes; its forms stay all-variable (`AllVar`), and on those the model's
                       `replace` / `make_words` are `Step2` / `MW`;
  * `cnf_gen_iff_steps` : in a CNF grammar `A` generates `w ≠ []` iff `|w| - 1` steps of `Step2` lead from `[A]` to a
                       form `f` with `MW G f w`;
  * `mem_wordsUpTo_cnf` : `wordsUpTo` on a CNF grammar in these terms (read by Props/C02cfg).
-/
import Gamba.Proofs.CFGBasic
namespace Gamba
namespace CFG

variable {G : CFG}

inductive IterN {α : Type} (r : α → α → Prop) : Nat → α → α → Prop
  | refl (a : α) : IterN r 0 a a
  | head {k : Nat} {a b c : α} : r a b → IterN r k b c → IterN r (k + 1) a c

theorem iterN_zero_iff {α : Type} {r : α → α → Prop} {a c : α} : IterN r 0 a c ↔ a = c := by
  constructor
  · intro h; cases h; rfl
  · rintro rfl; exact .refl _

theorem iterN_succ_iff {α : Type} {r : α → α → Prop} {k : Nat} {a c : α} :
    IterN r (k + 1) a c ↔ ∃ b, r a b ∧ IterN r k b c := by
  constructor
  · intro h; cases h with
    | head h1 h2 => exact ⟨_, h1, h2⟩
  · rintro ⟨b, h1, h2⟩; exact .head h1 h2

theorem IterN.cast {α : Type} {r : α → α → Prop} {k k' : Nat} {a c : α} (h : IterN r k a c)
    (hk : k = k') : IterN r k' a c := hk ▸ h

theorem IterN.trans {α : Type} {r : α → α → Prop} {k l : Nat} {a b c : α}
    (h1 : IterN r k a b) (h2 : IterN r l b c) : IterN r (l + k) a c := by
  induction h1 with
  | refl _ => exact h2
  | head hs _ ih => exact .head hs (ih h2)

theorem IterN.map {α : Type} {r : α → α → Prop} (φ : α → α) (hφ : ∀ a b, r a b → r (φ a) (φ b))
    {k : Nat} {a c : α} (h : IterN r k a c) : IterN r k (φ a) (φ c) := by
  induction h with
  | refl _ => exact .refl _
  | head hs _ ih => exact .head (hφ _ _ hs) ih

theorem mem_r2 {A : String} {rhs : List Sym} : rhs ∈ G.r2 A ↔ G.HasRule A rhs ∧ rhs.length = 2 := by
  simp only [r2, HasRule, List.mem_map, List.mem_filter, Bool.and_eq_true, decide_eq_true_eq]
  constructor
  · rintro ⟨r, ⟨hr, hl, hlen⟩, rfl⟩; exact ⟨⟨r, hr, hl, rfl⟩, hlen⟩
  · rintro ⟨⟨r, hr, hl, rfl⟩, hlen⟩; exact ⟨r, ⟨hr, hl, hlen⟩, rfl⟩

theorem mem_r1 (hc : G.isChomsky = true) {A a : String} : a ∈ G.r1 A ↔ G.HasRule A [.t a] := by
  simp only [r1, List.mem_map, List.mem_filter, Bool.and_eq_true, decide_eq_true_eq]
  constructor
  · rintro ⟨r, ⟨hr, hl, hlen⟩, hn⟩
    have hR : G.HasRule A r.rhs := ⟨r, hr, hl, rfl⟩
    rcases cnf_rule hc hR with ⟨h, _⟩ | ⟨b, h⟩ | ⟨B, C, h, _⟩
    · rw [h] at hlen; simp at hlen
    · rw [h] at hn hR
      simp only [Sym.name] at hn
      subst hn; exact hR
    · rw [h] at hlen; simp at hlen
  · rintro ⟨r, hr, hl, hrhs⟩
    exact ⟨r, ⟨hr, hl, by rw [hrhs]; rfl⟩, by rw [hrhs]; rfl⟩

def AllVar (f : List Sym) : Prop := ∀ x, x ∈ f → ∃ A, x = Sym.v A

theorem allVar_single (A : String) : AllVar [Sym.v A] := List.forall_mem_singleton.mpr ⟨A, rfl⟩

inductive Step2 (G : CFG) : List Sym → List Sym → Prop
  | mk {A : String} {rhs pre post : List Sym} : G.HasRule A rhs → rhs.length = 2 →
      Step2 G (pre ++ .v A :: post) (pre ++ rhs ++ post)

theorem mem_replaceOne {x y : List Sym} :
    y ∈ G.replaceOne x ↔
      ∃ pre s post rhs, x = pre ++ s :: post ∧ rhs ∈ G.r2 s.name ∧ y = pre ++ rhs ++ post := by
  simp only [replaceOne, List.mem_flatMap, List.mem_range]
  constructor
  · rintro ⟨j, hj, hy⟩
    rw [List.getElem?_eq_getElem hj] at hy
    simp only [List.mem_map] at hy
    obtain ⟨rhs, hrhs, rfl⟩ := hy
    refine ⟨x.take j, x[j], x.drop (j + 1), rhs, ?_, hrhs, rfl⟩
    rw [← List.drop_eq_getElem_cons hj, List.take_append_drop]
  · rintro ⟨pre, s, post, rhs, rfl, hrhs, rfl⟩
    refine ⟨pre.length, by simp, ?_⟩
    have h1 : (pre ++ s :: post)[pre.length]? = some s := by simp
    rw [h1]
    simp only [List.mem_map]
    refine ⟨rhs, hrhs, ?_⟩
    have h2 : (pre ++ s :: post).take pre.length = pre := by simp
    have h3 : (pre ++ s :: post).drop (pre.length + 1) = post := by simp
    rw [h2, h3]

theorem replaceOne_iff_step2 {f g : List Sym} (hf : AllVar f) :
    g ∈ G.replaceOne f ↔ Step2 G f g := by
  rw [mem_replaceOne]
  constructor
  · rintro ⟨pre, s, post, rhs, rfl, hrhs, rfl⟩
    obtain ⟨A, rfl⟩ := hf s (by simp)
    obtain ⟨hr, hlen⟩ := mem_r2.mp hrhs
    exact .mk hr hlen
  · rintro ⟨hr, hlen⟩
    exact ⟨_, _, _, _, rfl, mem_r2.mpr ⟨hr, hlen⟩, rfl⟩

theorem Step2.length {f g : List Sym} (h : Step2 G f g) : g.length = f.length + 1 := by
  cases h with
  | mk _ hlen => simp only [List.length_append, List.length_cons, hlen]; omega

theorem Step2.allVar (hc : G.isChomsky = true) {f g : List Sym} (hf : AllVar f) (h : Step2 G f g) :
    AllVar g := by
  cases h with
  | @mk A rhs pre post hr hlen =>
    obtain ⟨hpre, hpost⟩ := List.forall_mem_append.mp hf
    have hpost := (List.forall_mem_cons.mp hpost).2
    refine List.forall_mem_append.mpr ⟨List.forall_mem_append.mpr ⟨hpre, ?_⟩, hpost⟩
    rcases cnf_rule hc hr with ⟨h, _⟩ | ⟨b, h⟩ | ⟨B, C, h, _⟩
    · subst h; simp at hlen
    · subst h; simp at hlen
    · subst h
      exact List.forall_mem_cons.mpr ⟨⟨B, rfl⟩, allVar_single C⟩

theorem Step2.gen {f g : List Sym} {w : List String} (h : Step2 G f g) (hg : G.Gen g w) :
    G.Gen f w := by
  cases h with
  | mk hr _ => exact gen_of_step (.mk hr) hg

theorem Step2.append_left (pre : List Sym) {f g : List Sym} (h : Step2 G f g) :
    Step2 G (pre ++ f) (pre ++ g) := by
  cases h with
  | @mk A rhs p post hr hlen =>
    have := Step2.mk (G := G) (pre := pre ++ p) (post := post) hr hlen
    simpa only [List.append_assoc] using this

theorem Step2.append_right (post : List Sym) {f g : List Sym} (h : Step2 G f g) :
    Step2 G (f ++ post) (g ++ post) := by
  cases h with
  | @mk A rhs p q hr hlen =>
    have := Step2.mk (G := G) (pre := p) (post := q ++ post) hr hlen
    simpa only [List.append_assoc, List.cons_append] using this

theorem iterN_step2_length {k : Nat} {f g : List Sym} (h : IterN (Step2 G) k f g) :
    g.length = f.length + k := by
  induction h with
  | refl _ => rfl
  | head hs _ ih => rw [ih, hs.length]; omega

inductive MW (G : CFG) : List Sym → List String → Prop
  | nil : MW G [] []
  | cons {A a : String} {f : List Sym} {w : List String} :
      G.HasRule A [.t a] → MW G f w → MW G (.v A :: f) (a :: w)

theorem MW.length {f : List Sym} {w : List String} (h : MW G f w) : w.length = f.length := by
  induction h with
  | nil => rfl
  | cons _ _ ih => simp [ih]

theorem MW.gen {f : List Sym} {w : List String} (h : MW G f w) : G.Gen f w := by
  induction h with
  | nil => exact .nil
  | @cons A a f w hr _ ih =>
    have : G.Gen (.v A :: f) ([a] ++ w) := .v hr (gen_t_iff.mpr rfl) ih
    simpa using this

theorem MW.append {f1 f2 : List Sym} {w1 w2 : List String} (h1 : MW G f1 w1) (h2 : MW G f2 w2) :
    MW G (f1 ++ f2) (w1 ++ w2) := by
  induction h1 with
  | nil => simpa using h2
  | cons hr _ ih => exact .cons hr ih

theorem mw_nil_iff {w : List String} : MW G [] w ↔ w = [] := by
  constructor
  · intro h; cases h; rfl
  · rintro rfl; exact .nil

theorem mw_cons_iff {A : String} {f : List Sym} {w : List String} :
    MW G (.v A :: f) w ↔ ∃ a w', w = a :: w' ∧ G.HasRule A [.t a] ∧ MW G f w' := by
  constructor
  · intro h; cases h with
    | cons hr h' => exact ⟨_, _, rfl, hr, h'⟩
  · rintro ⟨a, w', rfl, hr, h'⟩; exact .cons hr h'

theorem mem_makeWords (hc : G.isChomsky = true) {f : List Sym} (hf : AllVar f) {w : List String} :
    w ∈ G.makeWords f ↔ f ≠ [] ∧ MW G f w := by
  induction f generalizing w with
  | nil => simp [makeWords]
  | cons x xs ih =>
    obtain ⟨⟨A, rfl⟩, hxs⟩ := List.forall_mem_cons.mp hf
    cases xs with
    | nil =>
      simp only [makeWords, List.mem_map, Sym.name, ne_eq, reduceCtorEq, not_false_eq_true, true_and,
        mw_cons_iff, mw_nil_iff, mem_r1 hc]
      constructor
      · rintro ⟨a, hr, rfl⟩; exact ⟨a, [], rfl, hr, rfl⟩
      · rintro ⟨a, w', rfl, hr, rfl⟩; exact ⟨a, hr, rfl⟩
    | cons y ys =>
      have ih' := fun {w} => ih (w := w) hxs
      simp only [makeWords, List.mem_flatMap, List.mem_map, Sym.name, ne_eq, reduceCtorEq,
        not_false_eq_true, true_and, mem_r1 hc]
      rw [mw_cons_iff]
      constructor
      · rintro ⟨a, hr, w', hw', rfl⟩
        exact ⟨a, w', rfl, hr, (ih'.mp hw').2⟩
      · rintro ⟨a, w', rfl, hr, hw'⟩
        exact ⟨a, hr, w', ih'.mpr ⟨by simp, hw'⟩, rfl⟩

theorem mem_wordsLoop (hc : G.isChomsky = true) (k : Nat) (W : List (List Sym)) (words : List (List String))
    (hW : ∀ f, f ∈ W → AllVar f) (w : List String) :
    w ∈ G.wordsLoop k W words ↔
      w ∈ words ∨ ∃ j f0 f, 1 ≤ j ∧ j ≤ k ∧ f0 ∈ W ∧ IterN (Step2 G) j f0 f ∧ MW G f w := by
  induction k generalizing W words with
  | zero =>
    simp only [wordsLoop]
    constructor
    · exact Or.inl
    · rintro (h | ⟨j, _, _, h1, h2, _⟩)
      · exact h
      · omega
  | succ k ih =>
    have hstep : ∀ {f0 f1}, f0 ∈ W → (f1 ∈ G.replaceOne f0 ↔ Step2 G f0 f1) :=
      fun h0 => replaceOne_iff_step2 (hW _ h0)
    have hmw : ∀ {f0 f1}, f0 ∈ W → Step2 G f0 f1 → (w ∈ G.makeWords f1 ↔ MW G f1 w) := by
      intro f0 f1 h0 hs
      rw [mem_makeWords hc (hs.allVar hc (hW _ h0))]
      refine and_iff_right fun e => ?_
      have := hs.length
      rw [e] at this
      cases this
    have hW' : ∀ f, f ∈ dedup (W.flatMap G.replaceOne) → AllVar f := by
      intro f hf
      obtain ⟨f0, h0, h1⟩ := List.mem_flatMap.mp (mem_dedup.mp hf)
      exact ((hstep h0).mp h1).allVar hc (hW f0 h0)
    rw [wordsLoop, ih _ _ hW']
    simp only [mem_sunion, mem_sunions, List.mem_map, mem_dedup, List.mem_flatMap]
    constructor
    · rintro ((h | ⟨l, ⟨f1, ⟨f0, hf0, hf1⟩, rfl⟩, hw⟩) | ⟨j, f1, f, hj1, hjk, ⟨f0, hf0, hf1⟩, hit, hw⟩)
      · exact Or.inl h
      · have hs := (hstep hf0).mp hf1
        exact Or.inr ⟨1, f0, f1, Nat.le_refl _, by omega, hf0, .head hs (.refl _), (hmw hf0 hs).mp hw⟩
      · exact Or.inr ⟨j + 1, f0, f, by omega, by omega, hf0, .head ((hstep hf0).mp hf1) hit, hw⟩
    · rintro (h | ⟨j, f0, f, hj1, hjk, hf0, hit, hw⟩)
      · exact Or.inl (Or.inl h)
      · obtain ⟨j', rfl⟩ : ∃ j', j = j' + 1 := ⟨j - 1, by omega⟩
        obtain ⟨f1, hs, hit'⟩ := iterN_succ_iff.mp hit
        cases j' with
        | zero =>
          rw [iterN_zero_iff.mp hit'] at hs
          exact Or.inl (Or.inr ⟨_, ⟨f, ⟨f0, hf0, (hstep hf0).mpr hs⟩, rfl⟩, (hmw hf0 hs).mpr hw⟩)
        | succ j'' =>
          exact Or.inr ⟨j'' + 1, f1, f, by omega, by omega, ⟨f0, hf0, (hstep hf0).mpr hs⟩, hit', hw⟩

theorem iterN_step2_gen {k : Nat} {f g : List Sym} {w : List String}
    (h : IterN (Step2 G) k f g) (hg : G.Gen g w) : G.Gen f w := by
  induction h with
  | refl _ => exact hg
  | head hs _ ih => exact hs.gen (ih hg)

/-- completeness: a variable that generates a non-empty word `u` reaches, in `|u| - 1` binary
    rewritings, a form of `|u|` variables from which `u` is obtained by terminal rules -/
theorem cnf_gen_v_steps (hc : G.isChomsky = true) (m : Nat) :
    ∀ (A : String) (u : List String), u.length ≤ m → u ≠ [] → G.Gen [.v A] u →
      ∃ k f, k + 1 = u.length ∧ IterN (Step2 G) k [.v A] f ∧ MW G f u := by
  induction m with
  | zero =>
    intro A u hlen hne
    exact absurd (List.length_eq_zero_iff.mp (Nat.le_zero.mp hlen)) hne
  | succ m ih =>
    intro A u hlen hne hgen
    rcases (cnf_gen_v_iff hc).mp hgen with ⟨h, _⟩ | ⟨a, rfl, hr⟩ | ⟨B, C, u1, u2, hr, h1, h2, rfl, hu1, hu2⟩
    · exact absurd h hne
    · exact ⟨0, [.v A], rfl, .refl _, .cons hr .nil⟩
    · have l1 := List.length_pos_iff.mpr hu1
      have l2 := List.length_pos_iff.mpr hu2
      rw [List.length_append] at hlen
      obtain ⟨k1, f1, hk1, it1, mw1⟩ := ih B u1 (by omega) hu1 h1
      obtain ⟨k2, f2, hk2, it2, mw2⟩ := ih C u2 (by omega) hu2 h2
      have s0 : Step2 G [.v A] [.v B, .v C] := by
        have := Step2.mk (G := G) (pre := []) (post := []) hr rfl
        simpa using this
      have s1 : IterN (Step2 G) k1 [.v B, .v C] (f1 ++ [.v C]) :=
        it1.map (· ++ [Sym.v C]) fun _ _ hs => hs.append_right _
      have s2 : IterN (Step2 G) k2 (f1 ++ [.v C]) (f1 ++ f2) :=
        it2.map (f1 ++ ·) fun _ _ hs => hs.append_left f1
      refine ⟨k2 + k1 + 1, f1 ++ f2, ?_, .head s0 (s1.trans s2), mw1.append mw2⟩
      rw [List.length_append]; omega

theorem cnf_gen_iff_steps (hc : G.isChomsky = true) {A : String} {w : List String} (hw : w ≠ []) :
    G.Gen [.v A] w ↔ ∃ k f, k + 1 = w.length ∧ IterN (Step2 G) k [.v A] f ∧ MW G f w := by
  constructor
  · exact cnf_gen_v_steps hc w.length A w (Nat.le_refl _) hw
  · rintro ⟨k, f, _, hit, hmw⟩
    exact iterN_step2_gen hit hmw.gen

theorem mem_wordsUpTo_cnf (hc : G.isChomsky = true) (n : Nat) (w : List String) :
    w ∈ G.wordsUpTo n ↔
      (w = [] ∧ G.HasRule G.S []) ∨
      ∃ k f, k + 1 ≤ n ∧ IterN (Step2 G) k [.v G.S] f ∧ MW G f w := by
  have hS := allVar_single G.S
  have hw0 : ∀ w : List String,
      (w ∈ if (G.R.any fun r => decide (r.lhs = G.S) && r.rhs.isEmpty) = true then [([] : List String)] else []) ↔
        (w = [] ∧ G.HasRule G.S []) := by
    intro w
    split
    · rename_i h; simp [any_eps_rule_iff.mp h]
    · rename_i h
      have : ¬ G.HasRule G.S [] := fun h' => h (any_eps_rule_iff.mpr h')
      simp [this]
  unfold wordsUpTo
  simp only [hc, if_true]
  rw [mem_wordsLoop hc _ _ _ fun f hf => List.mem_singleton.mp hf ▸ hS]
  cases n with
  | zero =>
    have h0 : ¬ (0 ≥ 1) := by omega
    simp only [h0, if_false, hw0]
    constructor
    · rintro (h | ⟨j, _, _, h1, h2, _⟩)
      · exact Or.inl h
      · omega
    · rintro (h | ⟨k, _, hk, _⟩)
      · exact Or.inl h
      · omega
  | succ m =>
    have h1 : m + 1 ≥ 1 := by omega
    simp only [h1, if_true, mem_sunion, mem_dedup, hw0, Nat.add_sub_cancel, List.mem_singleton]
    constructor
    · rintro ((h | h) | ⟨j, f0, f, hj1, hjm, rfl, hit, hw⟩)
      · exact Or.inl h
      · exact Or.inr ⟨0, [.v G.S], by omega, .refl _, ((mem_makeWords hc hS).mp h).2⟩
      · exact Or.inr ⟨j, f, by omega, hit, hw⟩
    · rintro (h | ⟨k, f, hk, hit, hmw⟩)
      · exact Or.inl (Or.inl h)
      · cases k with
        | zero =>
          rw [← iterN_zero_iff.mp hit] at hmw
          exact Or.inl (Or.inr ((mem_makeWords hc hS).mpr ⟨by simp, hmw⟩))
        | succ k' => exact Or.inr ⟨k' + 1, [.v G.S], f, by omega, by omega, rfl, hit, hmw⟩

theorem wordsUpTo_toChomsky (hn : G.isChomsky = false) (hC : (G.toChomsky).isChomsky = true) (n : Nat) :
    G.wordsUpTo n = (G.toChomsky).wordsUpTo n := by
  unfold wordsUpTo
  simp only [hn, hC, if_true, Bool.false_eq_true, if_false]

end CFG
end Gamba
