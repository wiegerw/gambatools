/-
  Gamba.Proofs.C12h — helper lemmas for `Gamba.Model.CheckAll` (the language checkers for every formalism,
  `check_number_of_nfa_states`, `check_cfg_accepts`, `check_cfg_rejects`): the semantic membership predicate
  `CheckAll.Sem` and the conditions under which an enumeration is exact, `langOfText` unpacked kind by kind (and, for dfa / nfa / cfg, when it
  fails), its exactness for all kinds at once, the pairs of languages that reach `compare_languages`, and one specification of the two
  grammar checkers `check_cfg_accepts` / `check_cfg_rejects` (`cfgCheck`).
-/
import Gamba.Model.CheckAll
import Gamba.Proofs.C12e
import Gamba.Proofs.C12enum
import Gamba.Proofs.C12ex
import Gamba.Proofs.C16b
import Gamba.Props.C02cfg
import Gamba.Props.C02pda
import Gamba.Props.C11
import Gamba.Proofs.C16c
namespace Gamba
open Parse

namespace CheckAll

/-- "the text parses as kind `k`, `w` has length ≤ `len`, and the parsed object accepts / generates / matches `w`".
    DFA, NFA, PDA: the Spec-level acceptance predicates (`DFA.Accepts`, `NFA.Accepts`, `PDA.Accepts`: acceptance by final
    state); regular expression: `Regexp.Lang`; grammar: `CFG.Lang`; TM: `w` is over the input alphabet and the machine
    halts in its accepting state within `e.tmBudget` steps (`TM.accepts w budget = some true`, which `tm_accepts_true_iff`
    of C11 characterises by `TM.HaltsAt`).  The alphabet clause is needed for TMs only: a valid DFA / NFA / PDA accepts
    no word with a foreign symbol, a TM may. -/
def Sem (k : Kind) (text : String) (e : Env) (len : Nat) (w : List String) : Prop :=
  match k with
  | .dfa => ∃ A, parseDfa text.toList = .ok A ∧ w.length ≤ len ∧ A.Accepts w
  | .nfa => ∃ A, parseNfa text.toList = .ok A ∧ w.length ≤ len ∧ A.Accepts w
  | .pda => ∃ P, parsePda text.toList = .ok P ∧ w.length ≤ len ∧ P.Accepts w
  | .tm => ∃ T, parseTm text.toList = .ok T ∧ w.length ≤ len ∧ (∀ a, a ∈ w → a ∈ T.Sigma) ∧
      T.accepts w e.tmBudget = some true
  | .cfg => ∃ G eps, CfgText.parseSimpleCfg text.toList = .ok (G, eps) ∧ w.length ≤ len ∧ G.Lang w
  | .regexp => ∃ r, RegexpText.parseSimple text = some r ∧ w.length ≤ len ∧ r.Lang w

/-- the side condition under which `cfg_words_up_to_n` is exact for the parsed grammar (the one `cfg_words_exact`,
    `cfgLanguageWords_text_sound`, `chomsky_text_lang` carry): the grammar is in Chomsky normal form, or none of its
    terminals is a variable name (or the fresh start variable) -/
def CfgSide (text : String) : Prop :=
  ∀ G eps, CfgText.parseSimpleCfg text.toList = .ok (G, eps) →
    G.isChomsky = true ∨ ∀ a, a ∈ G.Sigma → a ∉ G.V ∧ a ≠ CFG.freshVariable G.V "S"

/-- no ε-closure of the PDA enumeration up to `len` was truncated by the iteration limit -/
def PdaUntruncated (text : String) (e : Env) (len : Nat) : Prop :=
  ∀ P, parsePda text.toList = .ok P → (P.wordsUpTo e.pdaLimit e.sched len).2 = false

/-- the condition under which the enumeration of kind `k` is exact: none for DFA, NFA, TM, regular expression -/
def Exact (k : Kind) (text : String) (e : Env) (len : Nat) : Prop :=
  match k with
  | .pda => PdaUntruncated text e len
  | .cfg => CfgSide text
  | _ => True

end CheckAll

namespace C12h
open CheckText CheckAll

/-- the PDA enumerator as an `Enum` (Proofs/C12enum), when no ε-closure was truncated; a grammar's is `cfg_words_exact_side`,
    a machine's `tm_words_exact` as they stand -/
theorem _root_.Gamba.PDA.enum {P : SPDA} (hk : (P.delta.map (·.1)).Nodup) (hv : P.valid = true) {limit : Nat} {s : Sched} {n : Nat}
    (ht : (P.wordsUpTo limit s n).2 = false) : Enum n P.Accepts (P.wordsUpTo limit s n).1 :=
  Enum.congr (pda_words_exact P hk hv limit s n ht) fun _ => and_iff_right_of_imp (PDA.Accepts.over hv)

theorem languageWords_dfa_eq (a ws : String) (e : Env) (len m : Nat) :
    languageWords .dfa a ws e len m = dfaLanguageWords a ws len m := by
  unfold languageWords langOfText dfaLanguageWords
  cases parseDfa a.toList <;> rfl

section
variable {α ε : Type}

theorem mapM_tag_ok_of_forall {f : α → Except ε Bool} {l : List α} (h : ∀ w, w ∈ l → ∃ b, f w = .ok b) :
    ∃ r, l.mapM (fun w => (f w).map fun b => (w, b)) = .ok r := by
  refine mapM_ok_of_forall fun w hw => ?_
  obtain ⟨b, hb⟩ := h w hw
  exact ⟨(w, b), by simp only [hb]; rfl⟩

end

/-- the common core of the two checkers: the listed words whose verdict is `pol` -/
def failuresOf (r : List (List String × Bool)) (pol : Bool) : List (List String) :=
  (r.filter fun p => bif pol then p.2 else !p.2).map (·.1)

theorem mem_failuresOf {r : List (List String × Bool)} {pol : Bool} {w : List String} :
    w ∈ failuresOf r pol ↔ (w, pol) ∈ r := by
  unfold failuresOf
  simp only [List.mem_map, List.mem_filter]
  constructor
  · rintro ⟨⟨w, b⟩, ⟨hp, hb⟩, rfl⟩
    cases pol <;> cases b <;> first | exact hp | cases hb
  · intro h
    exact ⟨(w, pol), ⟨h, by cases pol <;> rfl⟩, rfl⟩

/-- the two checkers at once: `pol = false` for `check_cfg_accepts` (the failures are the rejected words), `pol = true` for
    `check_cfg_rejects` -/
def cfgCheck (pol : Bool) (cfg ws : String) : Verdict × List (List String) :=
  match CfgText.parseSimpleCfg cfg.toList with
  | .ok (G, _) =>
    match (parseWordList ws).mapM (fun w => (G.accepts w).map fun b => (w, b)) with
    | .ok r => (ofBool (failuresOf r pol).isEmpty, failuresOf r pol)
    | .error _ => (.error, [])
  | .error _ => (.error, [])

theorem cfgCheck_spec (pol : Bool) (cfg ws : String) :
    (cfgCheck pol cfg ws = (.error, []) ∧
      ((∃ e, CfgText.parseSimpleCfg cfg.toList = .error e) ∨ ∃ G eps, CfgText.parseSimpleCfg cfg.toList = .ok (G, eps) ∧
        ∃ w, w ∈ parseWordList ws ∧ ∃ e, G.accepts w = .error e)) ∨
    ∃ G eps F, CfgText.parseSimpleCfg cfg.toList = .ok (G, eps) ∧ cfgCheck pol cfg ws = (ofBool F.isEmpty, F) ∧
      (∀ w, w ∈ parseWordList ws → ∃ b, G.accepts w = .ok b) ∧
      ∀ w, w ∈ F ↔ w ∈ parseWordList ws ∧ G.accepts w = .ok pol := by
  unfold cfgCheck
  cases hp : CfgText.parseSimpleCfg cfg.toList with
  | error e => exact Or.inl ⟨rfl, Or.inl ⟨e, rfl⟩⟩
  | ok Ge =>
    obtain ⟨G, eps⟩ := Ge
    cases hm : (parseWordList ws).mapM (fun w => (G.accepts w).map fun b => (w, b)) with
    | error e => exact Or.inl ⟨by simp only [hm], Or.inr ⟨G, eps, rfl, mapM_tag_error hm⟩⟩
    | ok r =>
      obtain ⟨i1, i2⟩ := mapM_tag_spec hm
      refine Or.inr ⟨G, eps, failuresOf r pol, rfl, by simp only [hm], fun w hw => ?_, fun w => ?_⟩
      · obtain ⟨b, hb⟩ := i1 w hw
        exact ⟨b, (i2 _ hb).2⟩
      · rw [mem_failuresOf]
        refine ⟨fun hb => i2 _ hb, fun ⟨hl, hf⟩ => ?_⟩
        obtain ⟨b, hb⟩ := i1 w hl
        have := (i2 _ hb).2
        rw [hf] at this
        cases this
        exact hb

/-- `cfgCheck false` is `check_cfg_accepts`, `cfgCheck true` is `check_cfg_rejects`, by unfolding (done by hand: a bare `rfl`
    has the elaborator compare the nested matches of two definitions, at twice the cost) -/
theorem cfgAccepts_eq_check (cfg ws : String) : cfgAccepts cfg ws = cfgCheck false cfg ws := by
  unfold cfgAccepts cfgCheck failuresOf
  simp only [cond_false]
  rfl

theorem cfgRejects_eq_check (cfg ws : String) : cfgRejects cfg ws = cfgCheck true cfg ws := by
  unfold cfgRejects cfgCheck failuresOf
  simp only [cond_true]
  rfl

theorem cfgCheck_ok_iff (pol : Bool) (cfg ws : String) :
    (cfgCheck pol cfg ws).1 = .ok ↔ ∃ G eps, CfgText.parseSimpleCfg cfg.toList = .ok (G, eps) ∧
      ∀ w, w ∈ parseWordList ws → G.accepts w = .ok (!pol) := by
  rcases cfgCheck_spec pol cfg ws with ⟨hv, herr⟩ | ⟨G, eps, F, hp, hv, htot, hF⟩
  · rw [hv]
    refine ⟨fun h => (nomatch h), ?_⟩
    rintro ⟨G, eps, h, hall⟩
    rcases herr with ⟨e, he⟩ | ⟨G', eps', hp, w, hw, e, he⟩
    · rw [h] at he; cases he
    · rw [h] at hp
      cases hp
      rw [hall w hw] at he
      cases he
  · rw [hv]
    show ofBool _ = .ok ↔ _
    rw [C12c.ofBool_ok_iff, List.isEmpty_iff]
    constructor
    · intro hemp
      refine ⟨G, eps, hp, fun w hw => ?_⟩
      obtain ⟨b, hb⟩ := htot w hw
      have hne : b ≠ pol := by
        rintro rfl
        have := (hF w).mpr ⟨hw, hb⟩
        rw [hemp] at this
        cases this
      rw [hb]
      cases b <;> cases pol <;> first | rfl | exact absurd rfl hne
    · rintro ⟨G', eps', h, hall⟩
      rw [hp] at h
      cases h
      apply List.eq_nil_iff_forall_not_mem.mpr
      intro w hw
      obtain ⟨hl, hf⟩ := (hF w).mp hw
      rw [hall w hl] at hf
      cases pol <;> cases hf

theorem cfgCheck_failures_iff (pol : Bool) (cfg ws : String) (w : List String) :
    w ∈ (cfgCheck pol cfg ws).2 ↔ (cfgCheck pol cfg ws).1 ≠ .error ∧
      ∃ G eps, CfgText.parseSimpleCfg cfg.toList = .ok (G, eps) ∧ w ∈ parseWordList ws ∧ G.accepts w = .ok pol := by
  rcases cfgCheck_spec pol cfg ws with ⟨hv, _⟩ | ⟨G, eps, F, hp, hv, _, hF⟩
  · rw [hv]
    exact ⟨fun h => (nomatch h), fun h => absurd rfl h.1⟩
  · rw [hv]
    show w ∈ F ↔ ofBool _ ≠ .error ∧ _
    rw [hF]
    constructor
    · intro h
      exact ⟨C12c.ofBool_error _, G, eps, hp, h⟩
    · rintro ⟨_, G', eps', h, hl⟩
      rw [hp] at h
      cases h
      exact hl

theorem cfgCheck_error_iff (pol : Bool) (cfg ws : String) :
    (cfgCheck pol cfg ws).1 = .error ↔ (∃ e, CfgText.parseSimpleCfg cfg.toList = .error e) ∨
      ∃ G eps, CfgText.parseSimpleCfg cfg.toList = .ok (G, eps) ∧ ∃ w, w ∈ parseWordList ws ∧ ∃ e, G.accepts w = .error e := by
  rcases cfgCheck_spec pol cfg ws with ⟨hv, herr⟩ | ⟨G, eps, F, hp, hv, htot, _⟩
  · rw [hv]
    exact ⟨fun _ => herr, fun _ => rfl⟩
  · rw [hv]
    show ofBool _ = .error ↔ _
    refine ⟨fun h => absurd h (C12c.ofBool_error _), ?_⟩
    rintro (⟨e, he⟩ | ⟨G', eps', h, w, hw, e, he⟩)
    · rw [hp] at he; cases he
    · rw [hp] at h
      cases h
      obtain ⟨b, hb⟩ := htot w hw
      rw [he] at hb
      cases hb

theorem cfgCheck_ok_iff_nil (pol : Bool) (cfg ws : String) :
    (cfgCheck pol cfg ws).1 = .ok ↔ (cfgCheck pol cfg ws).1 ≠ .error ∧ (cfgCheck pol cfg ws).2 = [] := by
  rcases cfgCheck_spec pol cfg ws with ⟨hv, _⟩ | ⟨G, eps, F, _, hv, _, _⟩
  · rw [hv]
    exact ⟨fun h => (nomatch h), fun h => absurd rfl h.1⟩
  · rw [hv]
    show ofBool _ = .ok ↔ ofBool _ ≠ .error ∧ F = []
    rw [C12c.ofBool_ok_iff, List.isEmpty_iff]
    exact ⟨fun h => ⟨C12c.ofBool_error _, h⟩, fun h => h.2⟩

theorem languageWordsLangs_some {k : CheckAll.Kind} {answer wordList : String} {e : Env} {len : Nat} {A1 A2 : CheckCex.Lang}
    (h : languageWordsLangs k answer wordList e len = some (A1, A2)) :
    ∃ nQ, langOfText k answer e len = some (nQ, A1) ∧ A2 = parseWordList wordList := by
  unfold languageWordsLangs at h
  cases h1 : langOfText k answer e len with
  | none => rw [h1] at h; cases h
  | some p =>
    obtain ⟨nQ, L⟩ := p
    rw [h1] at h
    cases h
    exact ⟨nQ, rfl, rfl⟩

theorem languageFileLangs_some {k rk : CheckAll.Kind} {answer refText : String} {e : Env} {len : Nat} {A1 A2 : CheckCex.Lang}
    (h : languageFileLangs k rk answer refText e len = some (A1, A2)) :
    ∃ n1 n2, langOfText k answer e len = some (n1, A1) ∧ langOfText rk refText e len = some (n2, A2) := by
  unfold languageFileLangs at h
  cases h1 : langOfText k answer e len with
  | none => rw [h1] at h; cases h
  | some p1 =>
    obtain ⟨n1, L1⟩ := p1
    cases h2 : langOfText rk refText e len with
    | none => rw [h1, h2] at h; cases h
    | some p2 =>
      obtain ⟨n2, L2⟩ := p2
      rw [h1, h2] at h
      cases h
      exact ⟨n1, n2, rfl, rfl⟩

theorem genuine_lists {A1 A2 : List (List String)} {w : List String} {b : Bool}
    (h : compareLanguages A1 A2 = some (w, b)) :
    (b = true → w ∈ A1 ∧ w ∉ A2 ∧ ∀ v, v ∈ A1 → v ∉ A2 → w.length ≤ v.length) ∧
    (b = false → w ∈ A2 ∧ w ∉ A1 ∧ (∀ v, v ∈ A2 → v ∉ A1 → w.length ≤ v.length) ∧ ∀ v, v ∈ A1 → v ∈ A2) := by
  cases b with
  | true => exact ⟨fun _ => compare_extra A1 A2 w h, fun hb => Bool.noConfusion hb⟩
  | false => exact ⟨fun hb => Bool.noConfusion hb, fun _ => compare_missing A1 A2 w h⟩

theorem langOfText_dfa_some {text : String} {e : Env} {len nQ : Nat} {L : CheckCex.Lang}
    (h : langOfText .dfa text e len = some (nQ, L)) :
    ∃ A, parseDfa text.toList = .ok A ∧ nQ = (dedup A.Q).length ∧ L = A.wordsUpTo len := by
  simp only [langOfText] at h
  split at h
  · rename_i A hp; cases h; exact ⟨A, hp, rfl, rfl⟩
  · cases h

theorem langOfText_nfa_some {text : String} {e : Env} {len nQ : Nat} {L : CheckCex.Lang}
    (h : langOfText .nfa text e len = some (nQ, L)) :
    ∃ A, parseNfa text.toList = .ok A ∧ nQ = (dedup A.Q).length ∧ A.wordsUpTo e.sched len = .ok L := by
  simp only [langOfText] at h
  split at h
  · rename_i A hp
    split at h
    · rename_i L' hL; cases h; exact ⟨A, hp, rfl, hL⟩
    · cases h
  · cases h

theorem langOfText_pda_some {text : String} {e : Env} {len nQ : Nat} {L : CheckCex.Lang}
    (h : langOfText .pda text e len = some (nQ, L)) :
    ∃ P, parsePda text.toList = .ok P ∧ nQ = (dedup P.Q).length ∧ L = (P.wordsUpTo e.pdaLimit e.sched len).1 := by
  simp only [langOfText] at h
  split at h
  · rename_i P hp; cases h; exact ⟨P, hp, rfl, rfl⟩
  · cases h

theorem langOfText_tm_some {text : String} {e : Env} {len nQ : Nat} {L : CheckCex.Lang}
    (h : langOfText .tm text e len = some (nQ, L)) :
    ∃ T, parseTm text.toList = .ok T ∧ nQ = (dedup T.Q).length ∧ L = T.wordsUpTo len e.tmBudget := by
  simp only [langOfText] at h
  split at h
  · rename_i T hp; cases h; exact ⟨T, hp, rfl, rfl⟩
  · cases h

theorem langOfText_cfg_some {text : String} {e : Env} {len nQ : Nat} {L : CheckCex.Lang}
    (h : langOfText .cfg text e len = some (nQ, L)) :
    ∃ G eps, CfgText.parseSimpleCfg text.toList = .ok (G, eps) ∧ nQ = 0 ∧ L = G.wordsUpTo len := by
  simp only [langOfText] at h
  split at h
  · rename_i G eps hp; cases h; exact ⟨G, eps, hp, rfl, rfl⟩
  · cases h

theorem langOfText_regexp_some {text : String} {e : Env} {len nQ : Nat} {L : CheckCex.Lang}
    (h : langOfText .regexp text e len = some (nQ, L)) :
    ∃ r, RegexpText.parseSimple text = some r ∧ nQ = 0 ∧ L = r.wordsUpTo len := by
  simp only [langOfText] at h
  split at h
  · rename_i r hp; cases h; exact ⟨r, hp, rfl, rfl⟩
  · cases h

/-! For dfa, nfa, cfg `langOfText` fails exactly when the parser does (what the verdicts of the kind-specific checkers of
    `CheckText` need; the NFA enumeration cannot fail on a parser result). -/

theorem langOfText_dfa_of_parse {text : String} {A : DFA String String} (hp : parseDfa text.toList = .ok A) (e : Env)
    (len : Nat) : langOfText .dfa text e len = some ((dedup A.Q).length, A.wordsUpTo len) := by
  simp only [langOfText, hp]

theorem langOfText_cfg_of_parse {text : String} {G : CFG} {eps : String}
    (hp : CfgText.parseSimpleCfg text.toList = .ok (G, eps)) (e : Env) (len : Nat) :
    langOfText .cfg text e len = some (0, G.wordsUpTo len) := by
  simp only [langOfText, hp]

theorem langOfText_nfa_of_parse {text : String} {A : NFA String String} (hp : parseNfa text.toList = .ok A) {e : Env}
    {len : Nat} {L : CheckCex.Lang} (hL : A.wordsUpTo e.sched len = .ok L) :
    langOfText .nfa text e len = some ((dedup A.Q).length, L) := by
  simp only [langOfText, hp, hL]

theorem langOfText_nfa_isSome {text : String} {A : NFA String String} (hp : parseNfa text.toList = .ok A)
    (e : Env) (len : Nat) : ∃ L, langOfText .nfa text e len = some ((dedup A.Q).length, L) := by
  obtain ⟨L, hL, _⟩ := nfa_words_exact A (parsedNfa_of hp).valid e.sched len
  exact ⟨L, langOfText_nfa_of_parse hp hL⟩

theorem langOfText_dfa_none {text : String} {e : Env} {len : Nat} :
    langOfText .dfa text e len = none ↔ ∃ e', parseDfa text.toList = .error e' := by
  cases hp : parseDfa text.toList with
  | error e' => simp only [langOfText, hp, Except.error.injEq, exists_eq']
  | ok A => simp only [langOfText_dfa_of_parse hp, reduceCtorEq, exists_false]

theorem langOfText_nfa_none {text : String} {e : Env} {len : Nat} :
    langOfText .nfa text e len = none ↔ ∃ e', parseNfa text.toList = .error e' := by
  cases hp : parseNfa text.toList with
  | error e' => simp only [langOfText, hp, Except.error.injEq, exists_eq']
  | ok A =>
    obtain ⟨L, hL⟩ := langOfText_nfa_isSome hp e len
    simp only [hL, reduceCtorEq, exists_false]

theorem langOfText_cfg_none {text : String} {e : Env} {len : Nat} :
    langOfText .cfg text e len = none ↔ ∃ e', CfgText.parseSimpleCfg text.toList = .error e' := by
  cases hp : CfgText.parseSimpleCfg text.toList with
  | error e' => simp only [langOfText, hp, Except.error.injEq, exists_eq']
  | ok Ge => simp only [langOfText_cfg_of_parse (eps := Ge.2) hp, reduceCtorEq, exists_false]

theorem langOfText_pda_sound {text : String} {e : Env} {len nQ : Nat} {L : CheckCex.Lang}
    (h : langOfText .pda text e len = some (nQ, L)) (w : List String) (hw : w ∈ L) : Sem .pda text e len w := by
  obtain ⟨P, hp, rfl, rfl⟩ := langOfText_pda_some h
  obtain ⟨vP, kP⟩ := parsedPda_of hp
  obtain ⟨h1, _, h3⟩ := pda_words_sound P kP vP e.pdaLimit e.sched len w hw
  exact ⟨P, hp, h1, h3⟩

/-- all kinds at once, under the exactness condition of the kind: in each case the enumerator of the parsed object is
    exact (`dfa_words_exact`, …), and the parse result is unique -/
theorem langOfText_exact {k : CheckAll.Kind} {text : String} {e : Env} {len nQ : Nat} {L : CheckCex.Lang}
    (h : langOfText k text e len = some (nQ, L)) (hx : Exact k text e len) (w : List String) :
    w ∈ L ↔ Sem k text e len w := by
  cases k with
  | dfa =>
    obtain ⟨A, hp, rfl, rfl⟩ := langOfText_dfa_some h
    simp only [Sem, hp, Except.ok.injEq, exists_eq_left', DFA.enum (parsedDfa_of hp).valid len w]
  | nfa =>
    obtain ⟨A, hp, rfl, hL⟩ := langOfText_nfa_some h
    simp only [Sem, hp, Except.ok.injEq, exists_eq_left', NFA.enum (parsedNfa_of hp).valid hL w]
  | pda =>
    obtain ⟨P, hp, rfl, rfl⟩ := langOfText_pda_some h
    simp only [Sem, hp, Except.ok.injEq, exists_eq_left',
      PDA.enum (parsedPda_of hp).keys (parsedPda_of hp).valid (hx P hp) w]
  | tm =>
    obtain ⟨T, hp, rfl, rfl⟩ := langOfText_tm_some h
    simp only [Sem, hp, Except.ok.injEq, exists_eq_left', tm_words_exact T len e.tmBudget w]
  | cfg =>
    obtain ⟨G, eps, hp, rfl, rfl⟩ := langOfText_cfg_some h
    have p := CfgText.parsedCfg_of hp
    simp only [Sem, hp, Except.ok.injEq, Prod.mk.injEq, cfg_words_exact_side p.valid p.start (hx G eps hp) len w]
    exact ⟨fun h => ⟨G, eps, ⟨rfl, rfl⟩, h⟩, fun ⟨_, _, ⟨rfl, rfl⟩, h⟩ => h⟩
  | regexp =>
    obtain ⟨r, hp, rfl, rfl⟩ := langOfText_regexp_some h
    simp only [Sem, hp, Option.some.injEq, exists_eq_left', regexp_words_exact r len w]

theorem exact_of_ne {k : CheckAll.Kind} (h1 : k ≠ .pda) (h2 : k ≠ .cfg) (text : String) (e : Env) (len : Nat) :
    Exact k text e len := by
  cases k <;> first | exact True.intro | exact absurd rfl h1 | exact absurd rfl h2

theorem Sem.length_le {k : CheckAll.Kind} {text : String} {e : Env} {len : Nat} {w : List String}
    (h : Sem k text e len w) : w.length ≤ len := by
  cases k with
  | dfa => obtain ⟨_, _, hl, _⟩ := h; exact hl
  | nfa => obtain ⟨_, _, hl, _⟩ := h; exact hl
  | pda => obtain ⟨_, _, hl, _⟩ := h; exact hl
  | tm => obtain ⟨_, _, hl, _⟩ := h; exact hl
  | cfg => obtain ⟨_, _, _, hl, _⟩ := h; exact hl
  | regexp => obtain ⟨_, _, hl, _⟩ := h; exact hl

/-- soundness needs no side condition except for grammars: every enumerated word is in the semantic language -/
theorem langOfText_sound {k : CheckAll.Kind} (hk : k ≠ .cfg) {text : String} {e : Env} {len nQ : Nat} {L : CheckCex.Lang}
    (h : langOfText k text e len = some (nQ, L)) (w : List String) (hw : w ∈ L) : Sem k text e len w := by
  cases k with
  | pda => exact langOfText_pda_sound h w hw
  | cfg => exact absurd rfl hk
  | _ => exact (langOfText_exact h True.intro w).mp hw

/-! ### concrete instances of the side conditions (for the non-vacuity examples) -/

theorem exAnBn_side : CfgSide "S -> aSb | ε" := by
  intro G eps hp
  rw [C12e.exAnBn_parse] at hp
  cases hp
  exact Or.inr (by decide)

/-- `p -a,ε→A-> p`, `p -b,A→ε-> q`, accepting `q` (by final state, any stack): the words `aⁱb`, i ≥ 1 -/
def exPda : SPDA :=
  { Q := ["p", "q"], Sigma := ["a", "b"], Gamma := ["A"],
    delta := [(("p", "a", "ε"), [("p", "A")]), (("p", "b", "A"), [("q", "ε")])], q0 := "p", F := ["q"], eps := "ε",
    epsG := "ε" }

theorem exPda_parse : parsePda "initial p\nfinal q\np p a,εA\np q b,Aε".toList = .ok exPda := by
  rw [String.toList_ofList]; decide +kernel

theorem exPda_untruncated : PdaUntruncated "initial p\nfinal q\np p a,εA\np q b,Aε" {} 3 := by
  intro P hp
  rw [exPda_parse] at hp
  cases hp
  decide +kernel

/-- the machine that runs right over `a`s and accepts on the first blank: `a*` -/
def exTm : TM String String :=
  { Q := ["p", "accept", "reject"], Sigma := ["a"], Gamma := ["a", "_"],
    delta := [(("p", "a"), "p", "a", Dir.R), (("p", "_"), "accept", "_", Dir.R)], q0 := "p", qAccept := "accept",
    qReject := "reject", blank := "_" }

theorem exTm_parse : parseTm "initial p\np p aa,R\np accept __,R".toList = .ok exTm := by
  rw [String.toList_ofList]; decide +kernel

/-! the enumerations of three example texts, evaluated once; the test vectors of Props/C12h, C13h rewrite the checkers with them -/

theorem exDfa_lang : langOfText .dfa "initial p\nfinal q\np q a\np p b\nq q a\nq p b" {} 2 = some (2, [["a"], ["a", "a"], ["b", "a"]]) := by
  rw [langOfText, C12ex.endsA_parse]; decide +kernel
theorem exPda_lang : langOfText .pda "initial p\nfinal q\np p a,εA\np q b,Aε" {} 3 = some (2, [["a", "b"], ["a", "a", "b"]]) := by
  rw [langOfText, exPda_parse]; decide +kernel
theorem exRegexp_lang : langOfText .regexp "a(b+c)*" {} 2 = some (0, [["a"], ["a", "b"], ["a", "c"]]) := by
  decide +kernel

end C12h
end Gamba
