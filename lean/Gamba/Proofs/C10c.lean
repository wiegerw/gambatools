/-
  Gamba.Proofs.C10c — helper lemmas for property C10 (part c): the end-to-end correctness of the model of
  `pda_to_cfg` (`SPDA.toCfg` = empty-stack normalisation, push/pop normalisation, Sipser's triple construction).
  * names: `pdaVar p q = p ++ "'" ++ q` determines `(p, q)` when `p` has no `'` (`C10b.pdaVar_inj_quoteFree`), and the names
    made by `freshState` from a quote-free hint are quote-free;
  * the push/pop normalisation preserves computations between old states together with their stacks
    (`C10a.ppResult_spec`), hence "accepts only with the empty stack" survives it.
-/
import Gamba.Proofs.C10a
import Gamba.Proofs.C10b
namespace Gamba
namespace C10c

open C10a

def NoQ (s : String) : Prop := '\'' ∉ s.toList

instance (s : String) : Decidable (NoQ s) := by unfold NoQ; infer_instance

theorem noQ_append {s t : String} (hs : NoQ s) (ht : NoQ t) : NoQ (s ++ t) := by
  unfold NoQ at *
  rw [String.toList_append, List.mem_append]
  exact fun h => h.elim hs ht

theorem noQ_toString (n : Nat) : NoQ (toString n) := by
  show '\'' ∉ (Nat.repr n).toList
  rw [Nat.toList_repr]
  intro h
  have := Nat.isDigit_of_mem_toDigits (by decide) (by decide) h
  exact absurd this (by decide)

theorem noQ_freshState (Q : List String) {hint : String} (h : NoQ hint) : NoQ (freshState Q hint) := by
  obtain ⟨j, hj⟩ := freshState_eq Q hint
  rw [hj]
  exact noQ_append h (noQ_toString j)

theorem pdaVar_inj {p q p' q' : String} (hp : NoQ p) (hp' : NoQ p') (h : pdaVar p q = pdaVar p' q') :
    p = p' ∧ q = q' :=
  C10b.pdaVar_inj_quoteFree hp hp' h

/-- the intermediate states are called `M<i>`: no quote -/
theorem ppResult_noQ (P : SPDA) (dummy : String) (h : ∀ q, q ∈ P.Q → NoQ q) :
    ∀ q, q ∈ (ppResult P dummy).Q → NoQ q := by
  intro q hq
  rcases List.mem_append.mp hq with hq | hq
  · exact h q hq
  · obtain ⟨x, hx, hm⟩ := List.mem_filterMap.mp hq
    obtain ⟨_, _, rfl⟩ := ppPlan_some P hx hm
    exact noQ_freshState _ (by decide)

theorem oneAccS_id {P : SPDA} (h : (dedup P.F).length = 1) : P.toOneAcceptingS = P := oneAcc_id h

/-- everything the triple construction needs holds for the normalised automaton -/
theorem normalize_spec (P : SPDA) (hv : P.valid = true) (hk : (P.delta.map (·.1)).Nodup) (heq : P.epsG = P.eps)
    (hε : freshSymbol P.Gamma ≠ .ok P.epsG) (hd : P.epsG ≠ "∅") (hnames : ∀ q, q ∈ P.Q → NoQ q)
    (P' : SPDA) (h : P.normalizeForCfg = .ok P') :
    ∃ qa, P'.F = [qa] ∧ P'.valid = true ∧ (P'.delta.map (·.1)).Nodup ∧ P'.isPushPop = true ∧ P'.VarInj ∧
      P'.epsG = P'.eps ∧ (∀ w st, P'.Run (P'.q0, []) w (qa, st) → st = []) ∧ ∀ w, P'.Accepts w ↔ P.Accepts w := by
  simp only [SPDA.normalizeForCfg, Bool.false_eq_true, if_false, Except.bind_eq_ok'] at h
  obtain ⟨P1, h1, h⟩ := h
  obtain ⟨hv1, hk1, hl1, hes1⟩ := esS_spec P hv hk hε P1 h1
  obtain ⟨b, qi, qd, qa, hb, hP1, _, _, _, ⟨_, hqi⟩, ⟨_, hqd⟩, ⟨_, hqa⟩⟩ := esS_eq h1
  have nqi : NoQ qi := hqi ▸ noQ_freshState _ (by decide)
  have nqd : NoQ qd := hqd ▸ noQ_freshState _ (by decide)
  have nqa : NoQ qa := hqa ▸ noQ_freshState _ (by decide)
  have hF1 : P1.F = [qa] := by rw [hP1]; rfl
  have he1 : P1.eps = P.eps := by rw [hP1]; rfl
  have hG1 : P1.epsG = P.epsG := by rw [hP1]; rfl
  have hQ1 : ∀ q, q ∈ P1.Q → NoQ q := by
    intro q hq
    rw [hP1] at hq
    simp only [PDA.toAcceptOnEmptyStack, mem_sinsert] at hq
    rcases hq with ((hq | rfl) | rfl) | rfl
    · exact hnames q hq
    · exact nqi
    · exact nqd
    · exact nqa
  have hded : (dedup P1.F).length = 1 := by rw [hF1]; simp [dedup]
  have heq1 : P1.epsG = P1.eps := by rw [he1, hG1]; exact heq
  have hes1' : ∀ w st, P1.Run (P1.q0, []) w (qa, st) → st = [] :=
    fun w st hr => hes1 w qa st (by rw [hF1]; exact List.mem_singleton.mpr rfl) hr
  simp only [ne_eq, hded, not_true_eq_false, if_false] at h
  by_cases hpp : P1.isPushPop = true
  · rw [if_pos hpp] at h
    cases h
    exact ⟨qa, hF1, hv1, hk1, hpp, C10b.varInj_of_quoteFree _ hQ1, heq1, hes1', hl1⟩
  · rw [if_neg hpp, toPushPopS_eq, oneAccS_id hded] at h
    split at h
    · cases h
    · cases h
      have hd' : "∅" ≠ P1.epsG := by rw [hG1]; exact fun h => hd h.symm
      obtain ⟨r1, r4, r2, r5, r3⟩ := ppResult_spec P1 "∅" hv1 hk1 hd'
      obtain ⟨hq0Q, _, _, hFQ, _⟩ := (PDA_valid_iff P1).mp hv1
      refine ⟨qa, hF1, r1, r4, r2, C10b.varInj_of_quoteFree _ (ppResult_noQ P1 "∅" hQ1), heq1, ?_, fun w => (r3 w).trans (hl1 w)⟩
      intro w st hr
      exact hes1' w st (r5 _ _ _ hr hq0Q (hFQ qa (by rw [hF1]; exact List.mem_singleton.mpr rfl)))

theorem toCfg_eq {P : SPDA} {G : CFG} (h : P.toCfg = .ok G) :
    ∃ P' qa l, P.normalizeForCfg = .ok P' ∧ P'.F = qa :: l ∧ G = P'.tripleCfg qa := by
  simp only [SPDA.toCfg, Except.bind_eq_ok'] at h
  obtain ⟨P', hn, h⟩ := h
  cases hF : P'.F with
  | nil => rw [hF] at h; cases h
  | cons qa l =>
    rw [hF] at h
    exact ⟨P', qa, l, hn, hF, (Except.pure_eq_ok.mp h).symm⟩

/-! ### the concrete automaton for the non-vacuity example of Props/C10c -/

/-- the normal form of `C10a.exNE` (`q0 --a,ε→x--> q1`, `F = [q1]`): marker `$`, drain state, and the no-op move
    `q1 --ε,ε→ε--> q_drain1` split through `M1` -/
def exNEnorm : SPDA :=
  { Q := ["q0", "q1", "q_initial1", "q_drain1", "q_accept1", "M1"], Sigma := ["a"], Gamma := ["x", "$", "∅"],
    delta := [(("q0", "a", "eps"), [("q1", "x")]),
              (("q_initial1", "eps", "eps"), [("q0", "$")]),
              (("q1", "eps", "eps"), [("M1", "∅")]),
              (("M1", "eps", "∅"), [("q_drain1", "eps")]),
              (("q_drain1", "eps", "x"), [("q_drain1", "eps")]),
              (("q_drain1", "eps", "$"), [("q_accept1", "eps")])],
    q0 := "q_initial1", F := ["q_accept1"], eps := "eps", epsG := "eps" }

theorem exNE_normalize : exNE.normalizeForCfg = .ok exNEnorm := by decide +kernel

theorem exNE_toCfg : exNE.toCfg = .ok (exNEnorm.tripleCfg "q_accept1") := by
  unfold SPDA.toCfg
  rw [exNE_normalize]
  rfl

end C10c
end Gamba
