/-
  Gamba.Proofs.C12enum — the notion behind every language comparison of the checkers: a list that ENUMERATES a predicate
  up to a length bound.  `compare_languages` only sees two lists; what a checker's verdict or reported word means for the
  parsed objects always comes from two facts of this form, one per side.
-/
import Gamba.Model.CheckCex
import Gamba.Props.C14c
import Gamba.Props.C02reg
import Gamba.Props.C05
namespace Gamba

namespace C12a

theorem compare_isNone_iff {τ : Type} [DecidableEq τ] (A1 A2 : List (List τ)) :
    (compareLanguages A1 A2).isNone = true ↔ ∀ w, w ∈ A1 ↔ w ∈ A2 := by
  rw [Option.isNone_iff_eq_none]
  exact compare_none_iff A1 A2

theorem compare_refl {τ : Type} [DecidableEq τ] (A : List (List τ)) : (compareLanguages A A).isNone = true :=
  (compare_isNone_iff A A).mpr fun _ => Iff.rfl

theorem compare_congr {τ : Type} [DecidableEq τ] {A1 A1' A2 A2' : List (List τ)} (h1 : ∀ w, w ∈ A1' ↔ w ∈ A1)
    (h2 : ∀ w, w ∈ A2' ↔ w ∈ A2) : (compareLanguages A1' A2').isNone = (compareLanguages A1 A2).isNone := by
  rw [Bool.eq_iff_iff, compare_isNone_iff, compare_isNone_iff]
  constructor
  · intro h w; rw [← h1, ← h2]; exact h w
  · intro h w; rw [h1, h2]; exact h w

end C12a

def Enum {τ : Type} (n : Nat) (P : List τ → Prop) (L : List (List τ)) : Prop := ∀ w, w ∈ L ↔ w.length ≤ n ∧ P w

namespace Enum
variable {τ : Type} {n : Nat} {P P1 P2 : List τ → Prop} {L L1 L2 M : List (List τ)}

theorem congr (h : Enum n P L) (hp : ∀ w, P w ↔ P1 w) : Enum n P1 L := fun w => by rw [h w, hp w]

theorem same_iff (h1 : Enum n P1 L1) (h2 : Enum n P2 L2) :
    (∀ w, w ∈ L1 ↔ w ∈ L2) ↔ ∀ w, w.length ≤ n → (P1 w ↔ P2 w) := by
  constructor
  · intro h w hl
    have := h w
    rw [h1 w, h2 w] at this
    exact and_congr_right_iff.mp this hl
  · intro h w
    rw [h1 w, h2 w]
    exact and_congr_right_iff.mpr (h w)

theorem list_iff (h1 : Enum n P L) :
    (∀ w, w ∈ L ↔ w ∈ M) ↔ (∀ w, w.length ≤ n → (P w ↔ w ∈ M)) ∧ ∀ w, w ∈ M → w.length ≤ n := by
  constructor
  · intro h
    refine ⟨fun w hl => ?_, fun w hm => ((h1 w).mp ((h w).mpr hm)).1⟩
    rw [← h w, h1 w]
    exact (and_iff_right hl).symm
  · rintro ⟨ha, hb⟩ w
    rw [h1 w]
    exact ⟨fun ⟨hl, hp⟩ => (ha w hl).mp hp, fun hm => ⟨hb w hm, (ha w (hb w hm)).mpr hm⟩⟩

theorem isNone_iff [DecidableEq τ] (h1 : Enum n P1 L1) (h2 : Enum n P2 L2) :
    (compareLanguages L1 L2).isNone = true ↔ ∀ w, w.length ≤ n → (P1 w ↔ P2 w) :=
  (C12a.compare_isNone_iff L1 L2).trans (same_iff h1 h2)

/-- the reported word of `compare_languages` on two enumerations: within the bound, in exactly one of the two languages
    (polarity `true`: the first), of minimal length among such words; "missing" only when nothing is extra -/
theorem genuine [DecidableEq τ] (h1 : Enum n P1 L1) (h2 : Enum n P2 L2) {w : List τ} {b : Bool}
    (h : compareLanguages L1 L2 = some (w, b)) :
    w.length ≤ n ∧
    (b = true → P1 w ∧ ¬ P2 w ∧ ∀ v, v.length ≤ n → P1 v → ¬ P2 v → w.length ≤ v.length) ∧
    (b = false → P2 w ∧ ¬ P1 w ∧ (∀ v, v.length ≤ n → P2 v → ¬ P1 v → w.length ≤ v.length) ∧
      ∀ v, v.length ≤ n → P1 v → P2 v) := by
  cases b with
  | true =>
    obtain ⟨m1, m2, mn⟩ := compare_extra L1 L2 w h
    have hw := (h1 w).mp m1
    refine ⟨hw.1, fun _ => ⟨hw.2, fun hp => m2 ((h2 w).mpr ⟨hw.1, hp⟩), fun v hl p1 p2 => ?_⟩, fun hb => Bool.noConfusion hb⟩
    exact mn v ((h1 v).mpr ⟨hl, p1⟩) (fun hc => p2 ((h2 v).mp hc).2)
  | false =>
    obtain ⟨m1, m2, mn, ms⟩ := compare_missing L1 L2 w h
    have hw := (h2 w).mp m1
    refine ⟨hw.1, fun hb => Bool.noConfusion hb,
      fun _ => ⟨hw.2, fun hp => m2 ((h1 w).mpr ⟨hw.1, hp⟩), fun v hl p2 p1 => ?_, fun v hl p1 => ?_⟩⟩
    · exact mn v ((h2 v).mpr ⟨hl, p2⟩) (fun hc => p1 ((h1 v).mp hc).2)
    · exact ((h2 v).mp (ms v ((h1 v).mpr ⟨hl, p1⟩))).2

end Enum

/-! The enumerators of the library.  No alphabet clause: a valid automaton accepts no foreign symbol. -/

theorem DFA.enum {σ : Type} [DecidableEq σ] {D : DFA σ String} (hv : D.valid = true) (n : Nat) :
    Enum n D.Accepts (D.wordsUpTo n) :=
  Enum.congr (dfa_words_exact D hv n) fun _ => and_iff_right_of_imp (DFA.Accepts.over hv)

theorem NFA.enum {N : NFA String String} (hv : N.valid = true) {s : Sched} {n : Nat} {L : List (List String)}
    (hL : N.wordsUpTo s n = .ok L) : Enum n N.Accepts L := by
  obtain ⟨L', e, m⟩ := nfa_words_exact N hv s n
  cases hL.symm.trans e
  exact Enum.congr m fun _ => and_iff_right_of_imp (NFA.Accepts.over hv)

theorem DFA.enum_reverse {D : DFA String String} (hv : D.valid = true) (n : Nat) :
    Enum n (fun w => D.Accepts w.reverse) (langReverse (D.wordsUpTo n)) := fun w => by
  rw [langReverse_spec, DFA.enum hv n, List.length_reverse]

theorem Regexp.enum (r : Regexp String) (n : Nat) : Enum n r.Lang (r.wordsUpTo n) := regexp_words_exact r n

open Classical in
theorem Enum.product {n : Nat} {P1 P2 : List String → Prop} {L1 L2 : List (List String)} (h1 : Enum n P1 L1)
    (h2 : Enum n P2 L2) (t : ProductType) :
    Enum n (fun w => t.accept (decide (P1 w)) (decide (P2 w)) = true) (CheckCex.expectedProduct t L1 L2) := fun w => by
  cases t with
  | union =>
    simp only [CheckCex.expectedProduct, langUnion_spec, h1 w, h2 w, ProductType.accept, Bool.or_eq_true, decide_eq_true_eq]
    exact and_or_left.symm
  | intersection =>
    simp only [CheckCex.expectedProduct, langInter_spec, h1 w, h2 w, ProductType.accept, Bool.and_eq_true, decide_eq_true_eq]
    exact and_and_left.symm
  | symmetricDifference =>
    simp only [CheckCex.expectedProduct, langSymDiff_spec, h1 w, h2 w, ProductType.accept,
      Bool.or_eq_true, Bool.and_eq_true, Bool.not_eq_true', decide_eq_true_eq, decide_eq_false_iff_not]
    constructor
    · rintro (⟨⟨a, b⟩, c⟩ | ⟨c, a, b⟩)
      · exact ⟨a, Or.inl ⟨b, fun hc => c ⟨a, hc⟩⟩⟩
      · exact ⟨a, Or.inr ⟨fun hc => c ⟨a, hc⟩, b⟩⟩
    · rintro ⟨a, ⟨b, c⟩ | ⟨b, c⟩⟩
      · exact Or.inl ⟨⟨a, b⟩, fun hc => c hc.2⟩
      · exact Or.inr ⟨fun hc => b hc.2, a, c⟩

/-- `Enum.genuine` when the expected side is an arbitrary word list `M`, which may hold words longer than the bound: such a
    word is "missing" whether or not it satisfies `P` -/
theorem Enum.genuine_list {n : Nat} {P : List String → Prop} {L M : List (List String)} (h1 : Enum n P L)
    {w : List String} {b : Bool} (h : compareLanguages L M = some (w, b)) :
    (b = true → w.length ≤ n ∧ P w ∧ w ∉ M ∧ ∀ v, v.length ≤ n → P v → v ∉ M → w.length ≤ v.length) ∧
    (b = false → w ∈ M ∧ (n < w.length ∨ ¬ P w) ∧
      (∀ v, v ∈ M → (n < v.length ∨ ¬ P v) → w.length ≤ v.length) ∧
      ∀ v, v.length ≤ n → P v → v ∈ M) := by
  cases b with
  | true =>
    obtain ⟨m1, m2, mn⟩ := compare_extra L M w h
    have hw := (h1 w).mp m1
    exact ⟨fun _ => ⟨hw.1, hw.2, m2, fun v hl p1 p2 => mn v ((h1 v).mpr ⟨hl, p1⟩) p2⟩, fun hb => Bool.noConfusion hb⟩
  | false =>
    obtain ⟨m1, m2, mn, ms⟩ := compare_missing L M w h
    have key : ∀ v, (n < v.length ∨ ¬ P v) ↔ v ∉ L := by
      intro v
      rw [h1 v]
      constructor
      · rintro (hl | hp) ⟨h3, h4⟩
        · omega
        · exact hp h4
      · intro hn
        by_cases hl : v.length ≤ n
        · exact Or.inr (fun hp => hn ⟨hl, hp⟩)
        · exact Or.inl (by omega)
    exact ⟨fun hb => Bool.noConfusion hb, fun _ => ⟨m1, (key w).mpr m2, fun v hv hd => mn v hv ((key v).mp hd),
      fun v hl p1 => ms v ((h1 v).mpr ⟨hl, p1⟩)⟩⟩

end Gamba
