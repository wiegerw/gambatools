/-
  Gamba.Proofs.C10b — Sipser's Lemma 2.27 for the model of the triple construction (`SPDA.tripleCfg`):
  for a PDA in push/pop form the variable `A_pq` generates exactly the words that take the PDA from
  `(p, [])` to `(q, [])`.  Both directions go through the balanced computations `Bal` (`gen_iff_bal`, `Bal.run`, `Bal.of_run`).
-/
import Gamba.Proofs.CFGBasic
import Gamba.Proofs.PDABasic
namespace Gamba

/-- names `p'q` are unambiguous on the state set -/
def SPDA.VarInj (P : SPDA) : Prop :=
  ∀ p q p' q', p ∈ P.Q → q ∈ P.Q → p' ∈ P.Q → q' ∈ P.Q → pdaVar p q = pdaVar p' q' → p = p' ∧ q = q'

namespace C10b

/-- the apostrophe that `pdaVar` puts between the two names is the first one when the first name has none -/
theorem pdaVar_inj_quoteFree {p q p' q' : String} (hp : '\'' ∉ p.toList) (hp' : '\'' ∉ p'.toList)
    (h : pdaVar p q = pdaVar p' q') : p = p' ∧ q = q' := by
  have h' := congrArg String.toList h
  simp only [pdaVar, String.toList_append] at h'
  have hq : "'".toList = ['\''] := by decide
  rw [hq, List.append_assoc, List.append_assoc] at h'
  obtain ⟨h1, h2⟩ := append_sep_inj _ _ _ _ _ hp hp' h'
  exact ⟨String.toList_inj.mp h1, String.toList_inj.mp h2⟩

theorem varInj_of_quoteFree (P : SPDA) (h : ∀ q, q ∈ P.Q → '\'' ∉ q.toList) : P.VarInj :=
  fun _ _ _ _ hp _ hp' _ he => pdaVar_inj_quoteFree (h _ hp) (h _ hp') he

section generic
variable {σ τ γ : Type} [DecidableEq σ] [DecidableEq τ] [DecidableEq γ]

theorem trans_pp {P : PDA σ τ γ} (hpp : P.isPushPop = true) {p q : σ} {a : τ} {u v : γ} (h : PDA.Trans P p a u q v) :
    (u = P.epsG ∧ v ≠ P.epsG) ∨ (u ≠ P.epsG ∧ v = P.epsG) := by
  obtain ⟨T, hm, ht⟩ := dT.mem h
  simp only [PDA.isPushPop, List.all_eq_true, Bool.or_eq_true, Bool.and_eq_true, decide_eq_true_eq] at hpp
  exact hpp _ hm _ ht

theorem move_push {P : PDA σ τ γ} {p q : σ} {a : τ} {v : γ}
    (h : P.Trans p a P.epsG q v) (hv : v ≠ P.epsG) (st : List γ) : P.Move a (p, st) (q, st ++ [v]) :=
  PDA.move_iff.mpr ⟨p, _, q, v, st, h, by simp [PDA.stk], by simp [PDA.stk, hv]⟩

theorem move_pop {P : PDA σ τ γ} {p q : σ} {a : τ} {u : γ}
    (h : P.Trans p a u q P.epsG) (hu : u ≠ P.epsG) (st : List γ) : P.Move a (p, st ++ [u]) (q, st) :=
  PDA.move_iff.mpr ⟨p, u, q, _, st, h, by simp [PDA.stk, hu], by simp [PDA.stk]⟩

theorem move_cases {P : PDA σ τ γ} (hv : P.valid = true) (hpp : P.isPushPop = true) {a : τ} {p q : σ}
    {st st' : List γ} (h : P.Move a (p, st) (q, st')) :
    (∃ v, PDA.Trans P p a P.epsG q v ∧ v ≠ P.epsG ∧ v ∈ P.Gamma ∧ st' = st ++ [v]) ∨
    (∃ u, PDA.Trans P p a u q P.epsG ∧ u ≠ P.epsG ∧ u ∈ P.Gamma ∧ st = st' ++ [u]) := by
  obtain ⟨p', u, q', v, s0, ht, hc, hc'⟩ := PDA.move_iff.mp h
  cases hc
  cases hc'
  obtain ⟨_, _, hu, _, hv'⟩ := ht.valid hv
  rcases trans_pp hpp ht with ⟨rfl, hne⟩ | ⟨hne, rfl⟩
  · left
    exact ⟨v, ht, hne, hv'.resolve_right hne, by simp [PDA.stk, hne]⟩
  · right
    exact ⟨u, ht, hne, hu.resolve_right hne, by simp [PDA.stk, hne]⟩

/-! ### balanced computations

The notion behind Sipser's Lemma 2.27: `Bal P p w q` is what the grammar variable `A_pq` generates (rule by rule), and every
computation from `(p, [])` to `(q, [])` has this shape. -/

/-- empty; or a push, a balanced computation, the pop of the pushed symbol, and a balanced rest -/
inductive Bal (P : PDA σ τ γ) : σ → List τ → σ → Prop
  | nil (p : σ) : Bal P p [] p
  | wrap {p r s q q' : σ} {a b : τ} {x : γ} {w w' : List τ} :
      P.Trans p a P.epsG r x → x ≠ P.epsG → Bal P r w s → P.Trans s b x q P.epsG → Bal P q w' q' →
      Bal P p (wd P a ++ w ++ wd P b ++ w') q'

theorem Bal.run {P : PDA σ τ γ} {p q : σ} {w : List τ} (h : Bal P p w q) :
    ∀ st, P.Run (p, st) w (q, st) := by
  induction h with
  | nil p => exact fun st => .nil _
  | wrap h1 hx _ h2 _ ih1 ih2 =>
    intro st
    have := run_of_move (move_push h1 hx st) ((ih1 (st ++ [_])).append (run_of_move (move_pop h2 hx st) (ih2 st)))
    simpa only [List.append_assoc] using this

theorem Bal.append {P : PDA σ τ γ} {p r q : σ} {u v : List τ} (h1 : Bal P p u r) (h2 : Bal P r v q) :
    Bal P p (u ++ v) q := by
  induction h1 with
  | nil p => exact h2
  | wrap t1 hx b1 t2 _ _ ih2 =>
    rw [List.append_assoc]
    exact .wrap t1 hx b1 t2 (ih2 h2)

/-- a computation that ends with the empty stack, by its shape: above each symbol of the stack (`rs` lists it from the
    top) a balanced computation and then the pop of that symbol; at the end a balanced computation -/
def Down (P : PDA σ τ γ) : σ → List γ → List τ → σ → Prop
  | p, [], w, q => Bal P p w q
  | p, x :: rs, w, q =>
    ∃ s b q' w1 w2, w = w1 ++ wd P b ++ w2 ∧ Bal P p w1 s ∧ P.Trans s b x q' P.epsG ∧ Down P q' rs w2 q

/-- a push in front: the symbol is popped again after the first balanced part, and the two grow together -/
theorem Down.push {P : PDA σ τ γ} {p r q : σ} {a : τ} {x : γ} {rs : List γ} {w : List τ}
    (ht : P.Trans p a P.epsG r x) (hx : x ≠ P.epsG) (h : Down P r (x :: rs) w q) : Down P p rs (wd P a ++ w) q := by
  obtain ⟨s, b, q', w1, w2, rfl, b1, hpop, hd⟩ := h
  cases rs with
  | nil =>
    show Bal P p _ q
    simpa only [List.append_assoc] using Bal.wrap ht hx b1 hpop hd
  | cons y rs =>
    obtain ⟨s2, b2, q2, w3, w4, rfl, b3, hpop2, hd2⟩ := hd
    exact ⟨s2, b2, q2, _, w4, by simp only [List.append_assoc], .wrap ht hx b1 hpop b3, hpop2, hd2⟩

theorem Down.step {P : PDA σ τ γ} (hv : P.valid = true) (hpp : P.isPushPop = true) {a : τ} {p q q'' : σ}
    {st st' : List γ} {w : List τ} (hm : P.Move a (p, st) (q, st')) (h : Down P q st'.reverse w q'') :
    Down P p st.reverse (wd P a ++ w) q'' := by
  rcases move_cases hv hpp hm with ⟨v, ht, hne, _, rfl⟩ | ⟨u, ht, _, _, rfl⟩
  · rw [List.reverse_append] at h
    exact Down.push ht hne h
  · rw [List.reverse_append]
    exact ⟨p, a, q, [], w, rfl, .nil p, ht, h⟩

theorem Down.of_run {P : PDA σ τ γ} (hv : P.valid = true) (hpp : P.isPushPop = true) {c c' : PConf σ γ}
    {w : List τ} (hr : P.Run c w c') : c'.2 = [] → Down P c.1 c.2.reverse w c'.1 := by
  induction hr with
  | nil c => exact fun h => by rw [h]; exact .nil _
  | eps hm _ ih => exact fun h => by simpa only [wd_eps, List.nil_append] using Down.step hv hpp hm (ih h)
  | sym ha hm _ ih => exact fun h => by simpa only [wd_ne ha, List.singleton_append] using Down.step hv hpp hm (ih h)

theorem Bal.of_run {P : PDA σ τ γ} (hv : P.valid = true) (hpp : P.isPushPop = true) {p q : σ} {w : List τ}
    (hr : P.Run (p, []) w (q, [])) : Bal P p w q :=
  Down.of_run hv hpp hr rfl

end generic

/-- the terminal form of an input symbol (`term` in `tripleRules`) -/
def termForm (P : SPDA) (a : String) : List Sym := (wd P a).map Sym.t

def rhsSym (x : Bool × String) : Sym := if x.1 then Sym.v x.2 else Sym.t x.2

theorem hasRule_raw (P : SPDA) (qa A : String) (rhs : List Sym) :
    (P.tripleCfg qa).HasRule A rhs ↔ ∃ r, r ∈ P.tripleRules ∧ r.1 = A ∧ r.2.map rhsSym = rhs := by
  unfold CFG.HasRule SPDA.tripleCfg
  simp only [List.mem_map]
  constructor
  · rintro ⟨_, ⟨⟨r, i⟩, hmem, rfl⟩, rfl, rfl⟩
    exact ⟨r, List.fst_mem_of_mem_zipIdx hmem, rfl, rfl⟩
  · rintro ⟨r, hr, rfl, rfl⟩
    obtain ⟨i, hi⟩ := List.getElem?_of_mem hr
    exact ⟨_, ⟨(r, i), List.mk_mem_zipIdx_iff_getElem?.mpr hi, rfl⟩, rfl, rfl⟩

theorem map_term (P : SPDA) (a : String) :
    (if a = P.eps then [] else [(false, a)]).map rhsSym = termForm P a := by
  unfold termForm wd
  split <;> simp [rhsSym]

theorem hasRule_iff (P : SPDA) (hk : (P.delta.map (·.1)).Nodup) (qa A : String) (rhs : List Sym) :
    (P.tripleCfg qa).HasRule A rhs ↔
      (∃ u p a r s b q v, u ∈ P.Gamma ∧ PDA.Trans P p a P.eps r u ∧ PDA.Trans P s b u q v ∧ u ≠ P.eps ∧
          A = pdaVar p q ∧ rhs = termForm P a ++ [.v (pdaVar r s)] ++ termForm P b) ∨
      (∃ p q r, p ∈ P.Q ∧ q ∈ P.Q ∧ r ∈ P.Q ∧ A = pdaVar p q ∧ rhs = [.v (pdaVar p r), .v (pdaVar r q)]) ∨
      (∃ p, p ∈ P.Q ∧ A = pdaVar p p ∧ rhs = []) := by
  rw [hasRule_raw]
  unfold SPDA.tripleRules
  simp only [List.mem_append, List.mem_flatMap, List.mem_map, List.mem_filter, decide_eq_true_eq]
  constructor
  · rintro ⟨x, hx, rfl, rfl⟩
    rcases hx with (⟨u, hu, t1, ⟨⟨⟨e1, he1, t1', ht1', rfl⟩, h1⟩, h2⟩, t2, ⟨⟨⟨e2, he2, t2', ht2', rfl⟩, h3⟩, h4⟩, rfl⟩ |
      ⟨p, hp, q, hq, r, hr, rfl⟩) | ⟨p, hp, rfl⟩
    · left
      obtain ⟨⟨p, a, u1⟩, T1⟩ := e1
      obtain ⟨⟨s, b, u2⟩, T2⟩ := e2
      obtain ⟨r, v1⟩ := t1'
      obtain ⟨q, v2⟩ := t2'
      simp only at h1 h2 h3 h4 ht1' ht2'
      subst h1 h2 h4
      refine ⟨_, p, a, r, s, b, q, v2, hu, dT.of_mem hk he1 ht1', dT.of_mem hk he2 ht2', h3, rfl, ?_⟩
      simp only [List.map_append, map_term, List.map_cons, List.map_nil, rhsSym, if_true]
    · right; left
      exact ⟨p, q, r, hp, hq, hr, rfl, by simp [rhsSym]⟩
    · right; right
      exact ⟨p, hp, rfl, rfl⟩
  · rintro (⟨u, p, a, r, s, b, q, v, hu, h1, h2, hne, rfl, rfl⟩ |
      ⟨p, q, r, hp, hq, hr, rfl, rfl⟩ | ⟨p, hp, rfl, rfl⟩)
    · obtain ⟨T1, he1, ht1⟩ := dT.mem h1
      obtain ⟨T2, he2, ht2⟩ := dT.mem h2
      refine ⟨_, .inl (.inl ⟨u, hu, (p, a, P.eps, r, u), ⟨⟨⟨_, he1, _, ht1, rfl⟩, rfl⟩, rfl⟩,
        (s, b, u, q, v), ⟨⟨⟨_, he2, _, ht2, rfl⟩, hne⟩, rfl⟩, rfl⟩), rfl, ?_⟩
      simp only [List.map_append, map_term, List.map_cons, List.map_nil, rhsSym, if_true]
    · exact ⟨_, .inl (.inr ⟨p, hp, q, hq, r, hr, rfl⟩), rfl, by simp [rhsSym]⟩
    · exact ⟨_, .inr ⟨p, hp, rfl⟩, rfl, rfl⟩

theorem rule_eps (P : SPDA) (hk : (P.delta.map (·.1)).Nodup) (qa p : String) (hp : p ∈ P.Q) :
    (P.tripleCfg qa).HasRule (pdaVar p p) [] :=
  (hasRule_iff P hk qa _ _).mpr (.inr (.inr ⟨p, hp, rfl, rfl⟩))

theorem rule_split (P : SPDA) (hk : (P.delta.map (·.1)).Nodup) (qa p q r : String) (hp : p ∈ P.Q) (hq : q ∈ P.Q)
    (hr : r ∈ P.Q) : (P.tripleCfg qa).HasRule (pdaVar p q) [.v (pdaVar p r), .v (pdaVar r q)] :=
  (hasRule_iff P hk qa _ _).mpr (.inr (.inl ⟨p, q, r, hp, hq, hr, rfl, rfl⟩))

/-- `A_pq → a A_rs b` for a push `p --a, ε→u--> r` and a pop `s --b, u→ε--> q` -/
theorem rule_pushpop (P : SPDA) (hk : (P.delta.map (·.1)).Nodup) (qa u p a r s b q v : String) (hu : u ∈ P.Gamma)
    (h1 : PDA.Trans P p a P.eps r u) (h2 : PDA.Trans P s b u q v) (hne : u ≠ P.eps) :
    (P.tripleCfg qa).HasRule (pdaVar p q) (termForm P a ++ [.v (pdaVar r s)] ++ termForm P b) :=
  (hasRule_iff P hk qa _ _).mpr (.inl ⟨u, p, a, r, s, b, q, v, hu, h1, h2, hne, rfl, rfl⟩)

/-! ### soundness: what a sentential form generates, read as balanced computations -/

def SymBal (P : SPDA) : Sym → List String → Prop
  | .t a, w => w = [a]
  | .v A, w => ∀ p q, p ∈ P.Q → q ∈ P.Q → A = pdaVar p q → Bal P p w q

def FormBal (P : SPDA) : List Sym → List String → Prop
  | [], w => w = []
  | x :: f, w => ∃ u w', w = u ++ w' ∧ SymBal P x u ∧ FormBal P f w'

theorem formBal_termForm {P : SPDA} {a : String} {f : List Sym} {w : List String} (h : FormBal P (termForm P a ++ f) w) :
    ∃ w', w = wd P a ++ w' ∧ FormBal P f w' := by
  by_cases he : a = P.eps
  · simp only [termForm, wd, if_pos he, List.map_nil, List.nil_append] at h ⊢
    exact ⟨w, rfl, h⟩
  · simp only [termForm, wd, if_neg he, List.map_cons, List.map_nil, List.cons_append, List.nil_append] at h ⊢
    obtain ⟨u, w', rfl, h1, h2⟩ := h
    cases h1
    exact ⟨w', rfl, h2⟩

/-- each rule of the triple grammar is a way to build a balanced computation -/
theorem rule_bal (P : SPDA) (hv : P.valid = true) (hk : (P.delta.map (·.1)).Nodup) (hpp : P.isPushPop = true)
    (hinj : P.VarInj) (qa : String) {A : String} {rhs : List Sym} {u : List String}
    (hr : (P.tripleCfg qa).HasRule A rhs) (hf : FormBal P rhs u) : SymBal P (.v A) u := by
  intro p q hp hq hA
  rcases (hasRule_iff P hk qa A rhs).mp hr with
    ⟨x, p', a, r, s, b, q', v, hx, ht1, ht2, hne, rfl, rfl⟩ | ⟨p', q', r, hp', hq', hr', rfl, rfl⟩ |
      ⟨p', hp', rfl, rfl⟩
  · obtain ⟨hp', _, _, hr', _⟩ := ht1.valid hv
    obtain ⟨hs', _, _, hq', _⟩ := ht2.valid hv
    obtain ⟨rfl, rfl⟩ := hinj _ _ _ _ hp' hq' hp hq hA
    rw [List.append_assoc] at hf
    obtain ⟨w1, rfl, hf1⟩ := formBal_termForm hf
    obtain ⟨u1, w2, rfl, hs, hf2⟩ := hf1
    rw [← List.append_nil (termForm P b)] at hf2
    obtain ⟨w3, rfl, hf3⟩ := formBal_termForm hf2
    obtain rfl : _ = [] := hf3
    have hxe : x ≠ P.epsG := PDA.valid_epsG hv hx
    have hpush : PDA.Trans P p' a P.epsG r x := by
      rcases trans_pp hpp ht1 with ⟨h1, _⟩ | ⟨_, h2⟩
      · rw [← h1]; exact ht1
      · exact absurd h2 hxe
    have hpop : PDA.Trans P s b x q' P.epsG := by
      rcases trans_pp hpp ht2 with ⟨h1, _⟩ | ⟨_, h2⟩
      · exact absurd h1 hxe
      · rw [← h2]; exact ht2
    simpa only [List.append_assoc] using Bal.wrap hpush hxe (hs r s hr' hs' rfl) hpop (.nil q')
  · obtain ⟨rfl, rfl⟩ := hinj _ _ _ _ hp' hq' hp hq hA
    obtain ⟨u1, w1, rfl, hs1, hf1⟩ := hf
    obtain ⟨u2, w2, rfl, hs2, hf2⟩ := hf1
    obtain rfl : _ = [] := hf2
    rw [List.append_nil]
    exact (hs1 _ _ hp' hr' rfl).append (hs2 _ _ hr' hq' rfl)
  · obtain ⟨rfl, rfl⟩ := hinj _ _ _ _ hp' hp' hp hq hA
    obtain rfl : _ = [] := hf
    exact .nil _

theorem gen_formBal (P : SPDA) (hv : P.valid = true) (hk : (P.delta.map (·.1)).Nodup) (hpp : P.isPushPop = true)
    (hinj : P.VarInj) (qa : String) {f : List Sym} {w : List String} (h : (P.tripleCfg qa).Gen f w) :
    FormBal P f w := by
  induction h with
  | nil => exact rfl
  | @t a ss w _ ih => exact ⟨[a], w, rfl, rfl, ih⟩
  | v hr _ _ ih1 ih2 => exact ⟨_, _, rfl, rule_bal P hv hk hpp hinj qa hr ih1, ih2⟩

theorem gen_termForm (P : SPDA) (G : CFG) (a : String) : G.Gen (termForm P a) (wd P a) := CFG.gen_map_t _

theorem gen_of_bal (P : SPDA) (hv : P.valid = true) (hk : (P.delta.map (·.1)).Nodup) (heq : P.epsG = P.eps)
    (qa : String) {p q : String} {w : List String} (h : Bal P p w q) :
    p ∈ P.Q → q ∈ P.Q → (P.tripleCfg qa).Gen [.v (pdaVar p q)] w := by
  induction h with
  | nil p =>
    exact fun hp _ => CFG.gen_v_iff.mpr ⟨[], rule_eps P hk qa p hp, .nil⟩
  | @wrap p r s q q' a b x w w' t1 hx _ t2 _ ih1 ih2 =>
    intro hp hq'
    obtain ⟨_, _, _, hr, hxG⟩ := t1.valid hv
    obtain ⟨hs, _, _, hq, _⟩ := t2.valid hv
    have g3 : (P.tripleCfg qa).Gen [.v (pdaVar p q)] (wd P a ++ w ++ wd P b) :=
      CFG.gen_v_iff.mpr ⟨_, rule_pushpop P hk qa x p a r s b q P.epsG (hxG.resolve_right hx) (heq ▸ t1) t2 (heq ▸ hx),
        CFG.gen_append (CFG.gen_append (gen_termForm P _ a) (ih1 hr hs)) (gen_termForm P _ b)⟩
    exact CFG.gen_v_iff.mpr ⟨_, rule_split P hk qa p q' q hp hq' hq, CFG.gen_vv_iff.mpr ⟨_, _, rfl, g3, ih2 hq hq'⟩⟩

theorem complete (P : SPDA) (hv : P.valid = true) (hk : (P.delta.map (·.1)).Nodup) (hpp : P.isPushPop = true)
    (heq : P.epsG = P.eps) (qa : String) (p q : String) (hp : p ∈ P.Q) (hq : q ∈ P.Q) (w : List String)
    (h : P.Run (p, []) w (q, [])) : (P.tripleCfg qa).Gen [.v (pdaVar p q)] w :=
  gen_of_bal P hv hk heq qa (Bal.of_run hv hpp h) hp hq

theorem bal_of_gen (P : SPDA) (hv : P.valid = true) (hk : (P.delta.map (·.1)).Nodup) (hpp : P.isPushPop = true)
    (hinj : P.VarInj) (qa : String) {p q : String} (hp : p ∈ P.Q) (hq : q ∈ P.Q) {w : List String}
    (h : (P.tripleCfg qa).Gen [.v (pdaVar p q)] w) : Bal P p w q := by
  obtain ⟨u, w', rfl, hs, hf'⟩ := gen_formBal P hv hk hpp hinj qa h
  obtain rfl : _ = [] := hf'
  rw [List.append_nil]
  exact hs p q hp hq rfl

/-- `A_pq` generates exactly the balanced computations from `p` to `q` (the two ε fields must be one string for `←`, see `exBad`) -/
theorem gen_iff_bal (P : SPDA) (hv : P.valid = true) (hk : (P.delta.map (·.1)).Nodup) (hpp : P.isPushPop = true)
    (hinj : P.VarInj) (heq : P.epsG = P.eps) (qa : String) {p q : String} (hp : p ∈ P.Q) (hq : q ∈ P.Q)
    (w : List String) : (P.tripleCfg qa).Gen [.v (pdaVar p q)] w ↔ Bal P p w q :=
  ⟨bal_of_gen P hv hk hpp hinj qa hp hq, fun h => gen_of_bal P hv hk heq qa h hp hq⟩

/-! ### a concrete push/pop PDA for the non-vacuity examples: `{aⁿbⁿ | n ≥ 1}` with the bottom marker `$` -/

def exPDA : SPDA :=
  { Q := ["q0", "q1", "q2", "q3"], Sigma := ["a", "b"], Gamma := ["$", "x"],
    delta := [(("q0", "", ""), [("q1", "$")]),
              (("q1", "a", ""), [("q1", "x")]),
              (("q1", "b", "x"), [("q2", "")]),
              (("q2", "b", "x"), [("q2", "")]),
              (("q2", "", "$"), [("q3", "")])],
    q0 := "q0", F := ["q3"], eps := "", epsG := "" }

theorem exPDA_varInj : exPDA.VarInj := varInj_of_quoteFree _ (by decide)

theorem exPDA_trans {p a u q v : String} (h : PDA.Trans exPDA p a u q v) :
    ((p, a, u), (q, v)) ∈ [(("q0", "", ""), ("q1", "$")), (("q1", "a", ""), ("q1", "x")), (("q1", "b", "x"), ("q2", "")),
      (("q2", "b", "x"), ("q2", "")), (("q2", "", "$"), ("q3", ""))] :=
  dT.mem_transList h

/-- `exPDA` reaches its accepting state only with the empty stack: it keeps the discipline of the bottom marker `$` -/
theorem exPDA_hes (w : List String) (st : List String) (h : exPDA.Run (exPDA.q0, []) w ("q3", st)) : st = [] := by
  refine h.empty_of_marker (b := "$") (by decide) fun p a u q v ht => ?_
  have := exPDA_trans ht
  simp only [List.mem_cons, Prod.mk.injEq, List.mem_nil_iff, or_false] at this
  rcases this with ⟨⟨rfl, rfl, rfl⟩, rfl, rfl⟩ | ⟨⟨rfl, rfl, rfl⟩, rfl, rfl⟩ | ⟨⟨rfl, rfl, rfl⟩, rfl, rfl⟩ |
    ⟨⟨rfl, rfl, rfl⟩, rfl, rfl⟩ | ⟨⟨rfl, rfl, rfl⟩, rfl, rfl⟩ <;> decide

/-! ### why completeness needs `P.epsG = P.eps`: a PDA whose two ε fields differ -/

/-- `p --a, ε→x--> r --b, x→ε--> p` with `epsG = ""` but `eps = "e"`: `tripleRules` finds no push transition -/
def exBad : SPDA :=
  { Q := ["p", "r"], Sigma := ["a", "b"], Gamma := ["x"],
    delta := [(("p", "a", ""), [("r", "x")]), (("r", "b", "x"), [("p", "")])],
    q0 := "p", F := ["p"], eps := "e", epsG := "" }

theorem exBad_varInj : exBad.VarInj := varInj_of_quoteFree _ (by decide)

theorem exBad_run : exBad.Run ("p", []) ["a", "b"] ("p", []) := by
  have m1 : exBad.Move "a" ("p", []) ("r", [] ++ ["x"]) :=
    move_push (by decide) (by decide) []
  have m2 : exBad.Move "b" ("r", [] ++ ["x"]) ("p", []) :=
    move_pop (by decide) (by decide) []
  exact .sym (by decide) m1 (.sym (by decide) m2 (.nil _))

theorem exBad_rules (qa A : String) (rhs : List Sym) (h : (exBad.tripleCfg qa).HasRule A rhs) :
    ∀ x, x ∈ rhs → x.isVar = true := by
  rcases (hasRule_iff exBad (by decide) qa A rhs).mp h with
    ⟨x, p', a, r, s, b, q', v, _, h1, _⟩ | ⟨p', q', r, _, _, _, _, rfl⟩ | ⟨p', _, _, rfl⟩
  · obtain ⟨T, hm, _⟩ := dT.mem h1
    simp [exBad] at hm
  · simp [Sym.isVar]
  · simp

theorem exBad_gen (qa : String) {f : List Sym} {w : List String} (h : (exBad.tripleCfg qa).Gen f w) :
    (∀ x, x ∈ f → x.isVar = true) → w = [] := by
  induction h with
  | nil => intro _; rfl
  | t _ _ => intro hf; have := hf _ List.mem_cons_self; simp [Sym.isVar] at this
  | v hr _ _ ih1 ih2 =>
    intro hf
    rw [ih1 (exBad_rules qa _ _ hr), ih2 (fun x hx => hf x (List.mem_cons_of_mem _ hx))]
    rfl

theorem exBad_not_gen (qa : String) : ¬ (exBad.tripleCfg qa).Gen [.v (pdaVar "p" "p")] ["a", "b"] := by
  intro h
  have := exBad_gen qa h (by simp [Sym.isVar])
  simp at this

end C10b
end Gamba
