/-
  Gamba.Proofs.C13e — helper lemmas for the end-to-end statement that `dfa_to_regexp(D)`, printed by
  `print_regexp_simple` and re-parsed by the reference parser of regexp_simple.g4, passes `check_equal_languages`
  against `D`: if the symbols on the transitions of `D` are single letters, so are the symbols of `D.toRegexp …`
  (`Regexp.SimpleSyms` as an invariant through `toGnfa`, `rip`, `minimize`, `simplify`); the two names picked by
  `dfa_to_gnfa` are fresh and different.  (The other statement of Props/C13e, minimal-DFA keys for clean state names, rests
  on `DFA.IsNerode.names_inj` of Proofs/C04n.)
-/
import Gamba.Proofs.C06b
import Gamba.Proofs.C16d
import Gamba.Proofs.C14a
namespace Gamba
namespace C13e

section Syms
variable {σ : Type} [DecidableEq σ]

/-- `regexp_simplify` introduces no symbol: whichever rule fires, the result is built from the simplified operands -/
theorem simpleSyms_simplify : ∀ (r : Regexp String), r.SimpleSyms → r.simplify.SimpleSyms := by
  intro r
  induction r with
  | zero | one | sym => exact id
  | star r ih =>
    intro h
    rcases Regexp.simplify_star_cases r with ⟨-, e⟩ | ⟨-, e⟩ | ⟨-, -, e⟩ | e <;> rw [e]
    · trivial
    · trivial
    · exact ih h
    · exact ih h
  | sum r s ihr ihs =>
    intro h
    rcases Regexp.simplify_sum_cases r s with ⟨-, e⟩ | ⟨-, e⟩ | e <;> rw [e]
    · exact ihs h.2
    · exact ihr h.1
    · exact ⟨ihr h.1, ihs h.2⟩
  | cat r s ihr ihs =>
    intro h
    rcases Regexp.simplify_cat_cases r s with ⟨-, e⟩ | ⟨-, e⟩ | ⟨-, e⟩ | ⟨-, e⟩ | e <;> rw [e]
    · trivial
    · exact ihs h.2
    · trivial
    · exact ihr h.1
    · exact ⟨ihr h.1, ihs h.2⟩

def DictOK (d : Dict (σ × σ) (Regexp String)) : Prop := ∀ e, e ∈ d → e.2.SimpleSyms

/-- a loop `d[key t] = f t (d.get (key t))` (the form both tables of C06b are brought to) keeps `DictOK` if `f` does -/
theorem dictOK_foldl {α : Type} (key : α → σ × σ) (f : α → Option (Regexp String) → Regexp String) (ts : List α)
    (hf : ∀ t o, t ∈ ts → (∀ v, o = some v → v.SimpleSyms) → (f t o).SimpleSyms)
    {d : Dict (σ × σ) (Regexp String)} (hd : DictOK d) :
    DictOK (ts.foldl (fun d t => d.set (key t) (f t (d.lookup (key t)))) d) :=
  List.foldlRecOn (motive := DictOK) _ _ hd fun _ hd t ht =>
    Dict.forall_mem_set hd (hf t _ ht fun _ hv => hd _ (Dict.mem_of_lookup hv))

theorem get_ok {G : GNFA σ String} (hG : DictOK G.delta) (p q : σ) : (G.get p q).SimpleSyms := by
  unfold GNFA.get
  cases h : G.delta.lookup (p, q) with
  | none => trivial
  | some v => exact hG _ (Dict.mem_of_lookup h)

theorem toGnfa_ok (D : DFA σ String) (qs qa : σ) (hP : ∀ e, e ∈ D.delta → (Regexp.sym e.1.2).SimpleSyms) :
    DictOK (D.toGnfa qs qa).delta := by
  rw [C06b.toGnfa_delta]
  refine dictOK_foldl _ C06b.addSym _ (fun e o he ho => ?_)
    (dictOK_foldl (fun q => (q, qa)) (fun _ _ => .one) _ (fun _ _ _ _ => trivial) fun e he => ?_)
  · cases o with
    | none => exact hP e he
    | some r => exact ⟨ho r rfl, hP e he⟩
  · rw [List.mem_singleton.mp he]
    trivial

theorem rip_ok (G : GNFA σ String) (q : σ) (hG : DictOK G.delta) : DictOK (G.rip q).delta := by
  rw [C06b.rip_delta]
  refine dictOK_foldl id (C06b.ripLabel G q) _ (fun k o _ ho => ?_) hG
  refine simpleSyms_simplify _ ⟨⟨get_ok hG _ q, get_ok hG q q, get_ok hG q _⟩, ?_⟩
  cases o with
  | none => trivial
  | some v => exact ho v rfl

theorem minimize_ok (order : List σ) (G : GNFA σ String) (hG : DictOK G.delta) :
    DictOK (G.minimize order).delta := by
  unfold GNFA.minimize
  exact List.foldlRecOn (motive := fun G => DictOK G.delta) order GNFA.rip hG fun G h q _ => rip_ok G q h

/-- `dfa_to_regexp(D)` is built from the symbols that label transitions of `D`: if these are single letters, it can be
    written in the simple syntax -/
theorem toRegexp_simple (D : DFA σ String) (qs qa : σ) (order : List σ)
    (hP : ∀ e, e ∈ D.delta → ∃ c : Char, e.1.2 = String.singleton c ∧ c.isAlpha = true) :
    (D.toRegexp qs qa order).SimpleSyms := by
  unfold DFA.toRegexp
  exact get_ok (minimize_ok order _ (toGnfa_ok D qs qa hP)) qs qa

end Syms

theorem start_ne_accept (t t' : String) : "start" ++ t ≠ "accept" ++ t' := by
  intro h
  have h1 := congrArg String.toList h
  rw [String.toList_append, String.toList_append] at h1
  have h2 : ("start" : String).toList = ['s', 't', 'a', 'r', 't'] := by decide
  have h3 : ("accept" : String).toList = ['a', 'c', 'c', 'e', 'p', 't'] := by decide
  rw [h2, h3] at h1
  simp only [List.cons_append, List.cons.injEq] at h1
  exact absurd h1.1 (by decide)

/-- a name picked the way `dfa_to_gnfa` picks one is fresh and begins with the hint -/
theorem pick_fresh (Q : List String) (hint : String) :
    (if hint ∈ Q then freshState Q hint else hint) ∉ Q ∧
      ∃ t : String, (if hint ∈ Q then freshState Q hint else hint) = hint ++ t := by
  split
  · exact ⟨freshState_not_mem Q hint, (freshState_eq Q hint).elim fun j h => ⟨toString j, h⟩⟩
  · exact ⟨‹_›, "", String.append_empty.symm⟩

theorem gnfaNames_fresh (Q : List String) :
    (gnfaNames Q).1 ∉ Q ∧ (gnfaNames Q).2 ∉ Q ∧ (gnfaNames Q).1 ≠ (gnfaNames Q).2 := by
  obtain ⟨h1, t, e1⟩ := pick_fresh Q "start"
  obtain ⟨h2, t', e2⟩ := pick_fresh Q "accept"
  refine ⟨h1, h2, ?_⟩
  unfold gnfaNames
  rw [e1, e2]
  exact start_ne_accept t t'

/-- a DFA that already has states called `start` and `accept` (odd number of `a`s) -/
def exNamed : DFA String String :=
  { Q := ["start", "accept"], Sigma := ["a"],
    delta := [(("start", "a"), "accept"), (("accept", "a"), "start")], q0 := "start", F := ["accept"] }

/-- a DFA with a two-letter symbol, which the simple syntax cannot express -/
def exLong : DFA String String :=
  { Q := ["p", "q"], Sigma := ["ab"],
    delta := [(("p", "ab"), "q"), (("q", "ab"), "q")], q0 := "p", F := ["q"] }

theorem evenA_sig : ∀ a, a ∈ C06b.evenA.Sigma → ∃ c : Char, a = String.singleton c ∧ c.isAlpha = true := by
  intro a ha
  simp only [C06b.evenA, List.mem_cons, List.not_mem_nil, or_false] at ha
  rcases ha with rfl | rfl
  · exact ⟨'a', rfl, by decide⟩
  · exact ⟨'b', rfl, by decide⟩

theorem evenA_order : ∀ q, q ∈ ["q1", "q0"] ↔ q ∈ C06b.evenA.Q := by
  intro q
  simp only [C06b.evenA, List.mem_cons, List.not_mem_nil, or_false]
  exact Or.comm

end C13e
end Gamba
