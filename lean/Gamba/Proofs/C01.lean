/-
  Gamba.Proofs.C01 — helper lemmas for property C01: NFA acceptance and ε-closure agree with
  the textbook semantics of `Gamba.Spec.Automata` (the DFA part is in `Gamba.Proofs.DFABasic`).
-/
import Gamba.Proofs.NFABasic
namespace Gamba

section
variable {σ τ : Type} [DecidableEq σ] [DecidableEq τ]

/-- One pop of the worklist is a `Sat.pop` of the saturation invariant `Sat` for the ε-successor function. So, for every
    fuel, a value the loop returns is a visited list with nothing left to do; and it does return one when the potential of
    `Sat.pop_measure` fits in the fuel. -/
theorem NFA.epsLoop_spec (N : NFA σ τ) (S U : List σ) (fuel : Nat) :
    ∀ (s : Sched) (result todo : List σ), Sat (fun q => N.succ q N.eps) S result todo →
    (∀ R, N.epsLoop fuel s result todo = .ok R → Sat (fun q => N.succ q N.eps) S R []) ∧
    ((∀ q, Reach (fun q => N.succ q N.eps) S q → q ∈ U) → result.Nodup →
      (U.length - result.length) + todo.length ≤ fuel → ∃ R, N.epsLoop fuel s result todo = .ok R) := by
  induction fuel with
  | zero =>
    intro s result todo h
    simp only [NFA.epsLoop]
    refine ⟨fun R hR => ?_, fun _ _ hm => ?_⟩
    · obtain ⟨he, hR⟩ := Except.ite_eq_ok_error.mp hR
      cases hR
      rwa [List.isEmpty_iff.mp he] at h
    · rw [List.eq_nil_of_length_eq_zero (Nat.le_zero.mp (Nat.le_trans (Nat.le_add_left ..) hm))]
      exact ⟨result, rfl⟩
  | succ fuel ih =>
    intro s result todo h
    simp only [NFA.epsLoop]
    split
    · rename_i hp
      exact ⟨fun R hR => by cases hR; rwa [pickAt_eq_none_iff.mp hp] at h, fun _ _ _ => ⟨result, rfl⟩⟩
    · rename_i q rest hp
      have hnew : ∀ y, y ∈ sdiff (dedup (N.succ q N.eps)) result ↔ y ∈ N.succ q N.eps ∧ y ∉ result :=
        fun y => by rw [mem_sdiff, mem_dedup]
      rw [sunion_eq_append fun y hy => ((hnew y).mp hy).2]
      have h' := h.pop hp hnew (fun _ => List.mem_append) fun _ => mem_sunion
      refine ⟨(ih _ _ _ h').1, fun hU hn hm => ?_⟩
      obtain ⟨hn', hm'⟩ := h'.pop_measure hU hn (List.Nodup.sublist List.filter_sublist (nodup_dedup _))
        (fun y hy => ((hnew y).mp hy).2) (length_sunion_le rest _)
      have := pickAt_length hp
      exact (ih _ _ _ h').2 hU hn' (by omega)

def NFA.keyStates (N : NFA σ τ) : List σ := dedup (N.delta.map (·.1.1))

theorem NFA.succ_eq_nil_of_not_keyState (N : NFA σ τ) {q : σ} (a : τ) (h : q ∉ N.keyStates) :
    N.succ q a = [] := by
  unfold NFA.succ
  cases hl : N.delta.lookup (q, a) with
  | none => rfl
  | some T =>
    exfalso
    apply h
    simp only [NFA.keyStates, mem_dedup, List.mem_map]
    exact ⟨_, Dict.mem_of_lookup hl, rfl⟩

/-- total size of the ε-successor lists: an upper bound for the number of pushes of the worklist -/
def NFA.epsWork (N : NFA σ τ) : Nat := (N.keyStates.map fun k => (N.succ k N.eps).length).sum

/-- No hypothesis on `N` at all: what is ε-reachable from `S` lies in `S` or in the ε-successor list of a key state,
    a universe of `|dedup S| + epsWork` elements. -/
theorem NFA.epsClosure_ok_of_fuel (N : NFA σ τ) (s : Sched) (S : List σ) (fuel : Nat)
    (hf : S.length + N.epsWork ≤ fuel) : ∃ R, N.epsClosure fuel s S = .ok R := by
  refine (N.epsLoop_spec S (dedup S ++ N.keyStates.flatMap fun k => N.succ k N.eps) fuel s _ _
    (.init fun _ => mem_dedup)).2 (fun x hx => ?_) (nodup_dedup S) ?_
  · rw [List.mem_append, List.mem_flatMap]
    cases hx with
    | base h => exact .inl (mem_dedup.mpr h)
    | @step x y _ hy =>
      refine .inr ⟨x, Decidable.byContradiction fun hk => ?_, hy⟩
      rw [N.succ_eq_nil_of_not_keyState _ hk] at hy
      cases hy
  · have := length_dedup_le S
    rw [List.length_append, List.length_flatMap, ← NFA.epsWork]
    omega

/-! ### `closure`, `eqa`, `stepSet`, `runSet`, `accepts`

On a valid NFA none of these raises, so each is described by a total function (`closureT`, `eqaT`, `stepSetT`,
`runSetT`) together with a membership characterisation of its value. -/

theorem NFA.epsClosure_sound_complete (N : NFA σ τ) (fuel : Nat) (s : Sched) (S R : List σ)
    (h : N.epsClosure fuel s S = .ok R) (q : σ) : q ∈ R ↔ N.EpsReach S q :=
  (((N.epsLoop_spec S [] fuel s _ _ (.init fun _ => mem_dedup)).1 R h).mem_iff q).trans NFA.EpsReach_iff_Reach.symm

theorem NFA.closure_ok (N : NFA σ τ) (hv : N.valid = true) (s : Sched)
    (S : List σ) : ∃ R, N.closure s S = .ok R := by
  refine (N.epsLoop_spec S (N.Q ++ S) _ s _ _ (.init fun _ => mem_dedup)).2 (fun _ => NFA.reach_eps_mem hv)
    (nodup_dedup S) ?_
  have := length_dedup_le S
  rw [NFA.closureFuel, List.length_append]
  omega

def NFA.closureT (N : NFA σ τ) (s : Sched) (S : List σ) : List σ :=
  match N.closure s S with
  | .ok R => R
  | .error _ => []

theorem NFA.closure_eq_ok {N : NFA σ τ} (hv : N.valid = true) (s : Sched) (S : List σ) :
    N.closure s S = .ok (N.closureT s S) := by
  obtain ⟨R, hR⟩ := N.closure_ok hv s S
  simp only [NFA.closureT, hR]

theorem NFA.mem_closureT {N : NFA σ τ} (hv : N.valid = true) (s : Sched) (S : List σ) (q : σ) :
    q ∈ N.closureT s S ↔ N.EpsReach S q :=
  N.epsClosure_sound_complete _ s S _ (NFA.closure_eq_ok hv s S) q

def NFA.eqaT (N : NFA σ τ) (s : Sched) (q : σ) (a : τ) : List σ :=
  sunions ((N.succ q a).map fun q' => N.closureT s [q'])

theorem NFA.eqa_eq_ok {N : NFA σ τ} (hv : N.valid = true) (s : Sched) (q : σ) (a : τ) :
    N.eqa s q a = .ok (N.eqaT s q a) := by
  unfold NFA.eqa NFA.eqaT NFA.succ
  cases N.delta.lookup (q, a) with
  | none => rfl
  | some Q1 =>
    dsimp only
    rw [mapM_ok_map Q1 fun q' _ => NFA.closure_eq_ok hv s [q']]
    rfl

theorem NFA.mem_eqaT {N : NFA σ τ} (hv : N.valid = true) (s : Sched) (q : σ) (a : τ) (r : σ) :
    r ∈ N.eqaT s q a ↔ ∃ q', N.Succ q a q' ∧ N.EpsReach [q'] r := by
  simp only [NFA.eqaT, mem_sunions, List.mem_map]
  constructor
  · rintro ⟨_, ⟨q', hq', rfl⟩, hr⟩
    exact ⟨q', (N.mem_succ_iff q a q').mp hq', (NFA.mem_closureT hv s _ r).mp hr⟩
  · rintro ⟨q', hq', hr⟩
    exact ⟨_, ⟨q', (N.mem_succ_iff q a q').mpr hq', rfl⟩, (NFA.mem_closureT hv s _ r).mpr hr⟩

def NFA.stepSetT (N : NFA σ τ) (s : Sched) (S : List σ) (a : τ) : List σ :=
  sunions (S.map fun q => N.eqaT s q a)

theorem NFA.stepSet_eq_ok {N : NFA σ τ} (hv : N.valid = true) (s : Sched) (S : List σ) (a : τ) :
    N.stepSet s S a = .ok (N.stepSetT s S a) := by
  unfold NFA.stepSet
  rw [mapM_ok_map S fun q _ => NFA.eqa_eq_ok hv s q a]
  rfl

theorem NFA.mem_stepSetT {N : NFA σ τ} (hv : N.valid = true) (s : Sched) (S : List σ) (a : τ) (r : σ) :
    r ∈ N.stepSetT s S a ↔ ∃ q q', q ∈ S ∧ N.Succ q a q' ∧ N.EpsReach [q'] r := by
  simp only [NFA.stepSetT, mem_sunions, List.mem_map]
  constructor
  · rintro ⟨_, ⟨q, hq, rfl⟩, hr⟩
    obtain ⟨q', h⟩ := (NFA.mem_eqaT hv s q a r).mp hr
    exact ⟨q, q', hq, h⟩
  · rintro ⟨q, q', hq, h⟩; exact ⟨_, ⟨q, hq, rfl⟩, (NFA.mem_eqaT hv s q a r).mpr ⟨q', h⟩⟩

def NFA.runSetT (N : NFA σ τ) (s : Sched) (S : List σ) (w : List τ) : List σ :=
  w.foldl (N.stepSetT s) S

theorem NFA.runSet_eq_ok {N : NFA σ τ} (hv : N.valid = true) (s : Sched) (S : List σ) (w : List τ) :
    N.runSet s S w = .ok (N.runSetT s S w) := by
  induction w generalizing S with
  | nil => rfl
  | cons a w ih =>
    simp only [NFA.runSet, NFA.stepSet_eq_ok hv]
    exact ih _

theorem NFA.Reached.runSetT {N : NFA σ τ} (hv : N.valid = true) (s : Sched) (w : List τ)
    (hw : ∀ a, a ∈ w → a ∈ N.Sigma) {S : List σ} {u : List τ} (h : N.Reached (· ∈ S) u) :
    N.Reached (· ∈ N.runSetT s S w) (u ++ w) := by
  induction w generalizing S u with
  | nil => rwa [List.append_nil]
  | cons a w ih =>
    rw [List.append_cons]
    exact ih (fun b hb => hw b (List.mem_cons_of_mem _ hb))
      (h.step (NFA.valid_ne_eps hv (hw a List.mem_cons_self)) (NFA.mem_stepSetT hv s S a))

theorem NFA.accepts_spec (N : NFA σ τ) (hv : N.valid = true) (s : Sched)
    (w : List τ) (hw : ∀ a, a ∈ w → a ∈ N.Sigma) :
    ∃ b, N.accepts s w = .ok b ∧ (b = true ↔ N.Accepts w) := by
  refine ⟨!sdisjoint (N.runSetT s (N.closureT s [N.q0]) w) N.F, ?_, ?_⟩
  · simp only [NFA.accepts, NFA.closure_eq_ok hv]
    show (do let S ← N.runSet s _ w; pure (!sdisjoint S N.F)) = _
    rw [NFA.runSet_eq_ok hv]; rfl
  · have h0 : N.Reached (· ∈ N.closureT s [N.q0]) [] := fun q =>
      (NFA.mem_closureT hv s _ q).trans (NFA.Reached.init N q)
    rw [Bool.not_eq_true', sdisjoint_false_iff]
    exact (NFA.Reached.accepts_iff (h0.runSetT hv s w hw)).symm

/-- acceptance of a concrete word can be read off one run of `nfa_accepts_word` -/
theorem NFA.Accepts_iff_eval {N : NFA σ τ} (hv : N.valid = true) {w : List τ} (hw : ∀ a, a ∈ w → a ∈ N.Sigma)
    {s : Sched} {b : Bool} (h : N.accepts s w = .ok b) : N.Accepts w ↔ b = true := by
  obtain ⟨b', hb, hiff⟩ := N.accepts_spec hv s w hw
  cases h.symm.trans hb
  exact hiff.symm

end

/-! ### Concrete objects for the non-vacuity examples of `Gamba.Props.C01` -/

/-- valid total DFA over `{a,b}`: "odd number of `a`". -/
def C01.exDFA : DFA String String :=
  { Q := ["even", "odd"], Sigma := ["a", "b"],
    delta := [(("even", "a"), "odd"), (("even", "b"), "even"), (("odd", "a"), "even"), (("odd", "b"), "odd")],
    q0 := "even", F := ["odd"] }

/-- valid 3-state NFA with an ε-cycle `A → B → C → A`, partial δ and a nondeterministic `x`-move. -/
def C01.exNFA : NFA String String :=
  { Q := ["A", "B", "C"], Sigma := ["x", "y"],
    delta := [(("A", "eps"), ["B"]), (("B", "eps"), ["C"]), (("C", "eps"), ["A"]),
              (("A", "x"), ["A", "B"]), (("C", "y"), ["C"])],
    q0 := "A", F := ["C"], eps := "eps" }

end Gamba
