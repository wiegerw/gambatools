/-
  Gamba.Proofs.TraceGlue — what the NFA and PDA `rebuild` loops share: the invariant of the trace under construction
  (`TraceFrom`), kept when the rows of a path found by `findPath` (all but its last element) are put in front of it
  (`TraceFrom.glue`) and when one more row is (`TraceFrom.cons`). The result of `DFA.simulateFrom` is stated with it too.
-/
import Gamba.Proofs.Search
namespace Gamba
variable {α β : Type}

def TraceFrom (r : β → β → Prop) (L : Option β → Prop) (x : β) (l : List β) : Prop :=
  l.head? = some x ∧ ChainOf r l ∧ L l.getLast?

/-- `p` is a path from `S` to `front`, `g` maps its elements to rows and its steps to steps of `r`: prepending the rows of `p`
    (all but the last, `front`) keeps the invariant, with the start `p.headD front ∈ S` of the path as new front -/
theorem TraceFrom.glue {succ : α → List α} {r : β → β → Prop} {L : Option β → Prop} (g : α → β)
    (hg : ∀ x y, y ∈ succ x → r (g x) (g y)) {S : List α} {front : α} {p : List α} {result : List β}
    (hp : IsPath succ S front p) (h : TraceFrom r L (g front) result) :
    p.headD front ∈ S ∧ TraceFrom r L (g (p.headD front)) (p.dropLast.map g ++ result) := by
  obtain ⟨hhead, hc, hl⟩ := h
  obtain ⟨rest, rfl⟩ := List.head?_eq_some_iff.mp hhead
  obtain ⟨⟨r0, hr0, hr0S⟩, hchain, hlast⟩ := hp
  obtain ⟨pre, rfl⟩ := List.getLast?_eq_some_iff.mp hlast
  have h1 := ChainOf.map g hchain hg
  rw [List.map_append] at h1
  rw [List.dropLast_concat]
  refine ⟨?_, ?_, ChainOf.append_overlap h1 hc, getLast?_append_cons _ _ _ ▸ hl⟩
  · rw [List.headD_eq_head?_getD, hr0]
    exact hr0S
  · cases pre <;> rfl

theorem TraceFrom.cons {r : β → β → Prop} {L : Option β → Prop} {x y : β} {l : List β} (h : TraceFrom r L y l)
    (hxy : r x y) : TraceFrom r L x (x :: l) := by
  obtain ⟨hh, hc, hl⟩ := h
  obtain ⟨rest, rfl⟩ := List.head?_eq_some_iff.mp hh
  exact ⟨rfl, .cons hxy hc, hl⟩

end Gamba
