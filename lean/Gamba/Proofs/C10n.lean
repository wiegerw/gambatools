/-
  Gamba.Proofs.C10n — the concrete witness of the recorded defect `pda2cfg-variable-name-collision`:
  a valid PDA with the states `p` and `p'p`; the pairs `(p, p'p)` and `(p'p, p)` get the same grammar variable
  `p'p'p`, and the grammar of `pda_to_cfg` generates `a a`, which the PDA does not accept.
-/
import Gamba.Proofs.C10b
import Gamba.Proofs.DecEq
namespace Gamba
namespace C10n
open C10b

/-- the counterexample found on the real library -/
def badP : SPDA :=
  { Q := ["p", "p'p"], Sigma := ["a", "b"], Gamma := ["A", "B"],
    delta := [(("p'p", "", ""), [("p'p", "B")]), (("p", "", ""), [("p'p", "")]), (("p", "a", ""), [("p'p", "A")])],
    q0 := "p", F := ["p", "p'p"], eps := "", epsG := "" }

/-- its normal form (empty-stack acceptance with marker `$` and drain state, one accepting state, push/pop form) -/
def badNorm : SPDA :=
  { Q := ["p", "p'p", "q_initial1", "q_drain1", "q_accept1", "M1", "M2", "M3"],
    Sigma := ["a", "b"],
    Gamma := ["A", "B", "$", "∅"],
    delta := [(("p'p", "", ""), [("p'p", "B"), ("M1", "∅")]),
              (("M1", "", "∅"), [("q_drain1", "")]),
              (("p", "", ""), [("M2", "∅"), ("M3", "∅")]),
              (("M2", "", "∅"), [("p'p", "")]),
              (("M3", "", "∅"), [("q_drain1", "")]),
              (("p", "a", ""), [("p'p", "A")]),
              (("q_initial1", "", ""), [("p", "$")]),
              (("q_drain1", "", "A"), [("q_drain1", "")]),
              (("q_drain1", "", "B"), [("q_drain1", "")]),
              (("q_drain1", "", "$"), [("q_accept1", "")])],
    q0 := "q_initial1", F := ["q_accept1"], eps := "", epsG := "" }

/-- the grammar `pda_to_cfg` returns (64 variables, 532 rules) -/
def badG : CFG := badNorm.tripleCfg "q_accept1"

theorem badP_valid : badP.valid = true := by decide +kernel
theorem badP_keys : (badP.delta.map (·.1)).Nodup := by decide +kernel

theorem badNorm_keys : (badNorm.delta.map (·.1)).Nodup := by decide +kernel

theorem badP_normalize : badP.normalizeForCfg = .ok badNorm := by decide +kernel

theorem badP_toCfg : badP.toCfg = .ok badG := by
  unfold SPDA.toCfg
  rw [badP_normalize]
  rfl

theorem badP_marker : freshSymbol badP.Gamma ≠ .ok badP.epsG := by
  have h : freshSymbol badP.Gamma = .ok "$" := rfl
  rw [h]
  intro h'
  exact absurd (Except.ok.inj h') (by decide)

theorem pdaVar_collision : pdaVar "p" "p'p" = pdaVar "p'p" "p" := by decide

theorem termForm_eps : termForm badNorm "" = [] := by decide
theorem termForm_a : termForm badNorm "a" = [.t "a"] := by decide

theorem gen_M1 : badG.Gen [.v (pdaVar "M1" "M1")] [] :=
  CFG.gen_v_iff.mpr ⟨_, rule_eps badNorm badNorm_keys _ "M1" (by decide), .nil⟩
theorem gen_M2 : badG.Gen [.v (pdaVar "M2" "M2")] [] :=
  CFG.gen_v_iff.mpr ⟨_, rule_eps badNorm badNorm_keys _ "M2" (by decide), .nil⟩

/-- `A_{p'p, q_drain1} → A_{M1,M1} ⇒ ε` (push and pop of the dummy `∅` through `M1`): legitimate -/
theorem gen_pp_drain_eps : badG.Gen [.v (pdaVar "p'p" "q_drain1")] [] := by
  have hr := rule_pushpop badNorm badNorm_keys "q_accept1" "∅" "p'p" "" "M1" "M1" "" "q_drain1" "" (by decide)
    (by decide) (by decide) (by decide)
  rw [termForm_eps] at hr
  exact CFG.gen_v_iff.mpr ⟨_, hr, gen_M1⟩

/-- `A_{p, p'p} → A_{M2,M2} ⇒ ε` (push and pop of the dummy `∅` through `M2`): legitimate -/
theorem gen_p_pp_eps : badG.Gen [.v (pdaVar "p" "p'p")] [] := by
  have hr := rule_pushpop badNorm badNorm_keys "q_accept1" "∅" "p" "" "M2" "M2" "" "p'p" "" (by decide)
    (by decide) (by decide) (by decide)
  rw [termForm_eps] at hr
  exact CFG.gen_v_iff.mpr ⟨_, hr, gen_M2⟩

/-- `A_{p, q_drain1} → a A_{p'p, q_drain1}` (push `A` reading `a`, popped in the drain state): legitimate -/
theorem rule_p_drain : badG.HasRule (pdaVar "p" "q_drain1") [.t "a", .v (pdaVar "p'p" "q_drain1")] := by
  have hr := rule_pushpop badNorm badNorm_keys "q_accept1" "A" "p" "a" "p'p" "q_drain1" "" "q_drain1" "" (by decide)
    (by decide) (by decide) (by decide)
  rw [termForm_eps, termForm_a] at hr
  exact hr

/-- hence `A_{p, q_drain1} ⇒ a`: legitimate (`p --a--> p'p`, then drain) -/
theorem gen_p_drain_a : badG.Gen [.v (pdaVar "p" "q_drain1")] ["a"] :=
  CFG.gen_v_iff.mpr ⟨_, rule_p_drain, .t gen_pp_drain_eps⟩

/-- THE COLLISION AT WORK: `A_{p'p, q_drain1} → A_{p'p, p} A_{p, q_drain1}` is a (useless, but present) rule of the
    triple construction — no run leads from `p'p` back to `p`, so `A_{p'p, p}` should generate nothing; but
    `A_{p'p, p}` IS the variable `A_{p, p'p}`, which generates ε -/
theorem gen_pp_drain_a : badG.Gen [.v (pdaVar "p'p" "q_drain1")] ["a"] := by
  have hr := rule_split badNorm badNorm_keys "q_accept1" "p'p" "q_drain1" "p" (by decide) (by decide) (by decide)
  rw [← pdaVar_collision] at hr
  exact CFG.gen_v_iff.mpr ⟨_, hr, CFG.gen_append gen_p_pp_eps gen_p_drain_a⟩

theorem gen_p_drain_aa : badG.Gen [.v (pdaVar "p" "q_drain1")] ["a", "a"] :=
  CFG.gen_v_iff.mpr ⟨_, rule_p_drain, .t gen_pp_drain_a⟩

theorem badG_S : badG.S = pdaVar "q_initial1" "q_accept1" := rfl

/-- `S = A_{q_initial1, q_accept1} → A_{p, q_drain1}` (push and pop of the marker `$`) -/
theorem badG_lang_aa : badG.Lang ["a", "a"] := by
  unfold CFG.Lang
  rw [badG_S]
  have hr := rule_pushpop badNorm badNorm_keys "q_accept1" "$" "q_initial1" "" "p" "q_drain1" "" "q_accept1" "" (by decide)
    (by decide) (by decide) (by decide)
  rw [termForm_eps] at hr
  exact CFG.gen_v_iff.mpr ⟨_, hr, gen_p_drain_aa⟩

/-! ### the PDA does not accept `a a`: once in `p'p` it stays there and reads nothing -/

theorem badP_trans {p a u q v : String} (h : PDA.Trans badP p a u q v) :
    ((p, a, u), (q, v)) ∈ [(("p'p", "", ""), ("p'p", "B")), (("p", "", ""), ("p'p", "")), (("p", "a", ""), ("p'p", "A"))] :=
  dT.mem_transList h

theorem badP_move {a : String} {c c' : PConf String String} (h : badP.Move a c c') :
    c'.1 = "p'p" ∧ (c.1 = "p'p" → a = "") := by
  obtain ⟨p, u, q, v, st, ht, rfl, rfl⟩ := PDA.move_iff.mp h
  have := badP_trans ht
  simp only [List.mem_cons, Prod.mk.injEq, List.mem_nil_iff, or_false] at this
  rcases this with ⟨⟨rfl, rfl, rfl⟩, rfl, rfl⟩ | ⟨⟨rfl, rfl, rfl⟩, rfl, rfl⟩ | ⟨⟨rfl, rfl, rfl⟩, rfl, rfl⟩
  · exact ⟨rfl, fun _ => rfl⟩
  · exact ⟨rfl, fun _ => rfl⟩
  · exact ⟨rfl, fun hc => absurd (show ("p" : String) = "p'p" from hc) (by decide)⟩

theorem badP_run_pp {c c' : PConf String String} {w : List String} (h : badP.Run c w c') (hc : c.1 = "p'p") :
    w = [] := by
  induction h with
  | nil c => rfl
  | eps hm _ ih => exact ih (badP_move hm).1
  | sym ha hm _ _ => exact absurd ((badP_move hm).2 hc) ha

theorem badP_run_short {c c' : PConf String String} {w : List String} (h : badP.Run c w c') : w.length ≤ 1 := by
  cases h with
  | nil c => simp
  | eps hm hr => rw [badP_run_pp hr (badP_move hm).1]; simp
  | sym ha hm hr => rw [badP_run_pp hr (badP_move hm).1]; simp

theorem badP_not_accepts_aa : ¬ badP.Accepts ["a", "a"] := by
  rintro ⟨f, st, _, hr⟩
  exact absurd (badP_run_short hr) (by decide)

/-- … whereas it accepts ε and `a` (so the witness is not degenerate) -/
theorem badP_accepts_nil : badP.Accepts [] := ⟨"p", [], by decide, .nil _⟩

theorem badP_accepts_a : badP.Accepts ["a"] := by
  refine ⟨"p'p", ["A"], by decide, .sym (by decide) ?_ (.nil _)⟩
  have := PDA.Move.mk (P := badP) (a := "a") (p := "p") (q := "p'p") (u := "") (v := "A") (T := [("p'p", "A")])
    (st := []) (by decide) (by decide)
  simpa [PDA.stk, badP] using this

end C10n
end Gamba
