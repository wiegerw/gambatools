/-
  Gamba.Proofs.C16c — the TM and PDA text formats: the constructor check of `parse_tm` (`TM.checked`; those of the other
  kinds are in DFABasic, NFABasic, PDABasic), the builders after the line parser (`pdaOfRaw`, `tmOfRaw`) unpacked, then
  the round trip `parseTm (printTm T)`, then `parsePda (printPda P)`.
-/
import Gamba.Proofs.C16a
import Gamba.Proofs.PDABasic
import Gamba.Proofs.C11
namespace Gamba
open Text

namespace Parse

theorem TM.checked_eq_ok_iff {T T' : TM String String} : TM.checked T = .ok T' ↔ T.valid = true ∧ T' = T :=
  Except.ite_eq_ok_error.trans (and_congr_right' ⟨fun h => (Except.ok.inj h).symm, fun h => h ▸ rfl⟩)

theorem TM.checked_ok {X D : TM String String} (h : TM.checked X = .ok D) : D = X ∧ X.valid = true :=
  (TM.checked_eq_ok_iff.mp h).symm

theorem TM.checked_of_valid {X : TM String String} (h : X.valid = true) : TM.checked X = .ok X :=
  TM.checked_eq_ok_iff.mpr ⟨h, rfl⟩

def ch (l : Word) (i : Nat) : String := String.singleton (l.getD i ' ')

/-- the transition table `parse_pda` builds: `delta[(p, a, u)].add((q, v))` for each entry `p q a,uv`, in order -/
def pdaDelta (ts : List (String × Word × String)) : Dict (String × String × String) (List (String × String)) :=
  ts.foldl (fun d t => d.set (t.1, ch t.2.1 0, ch t.2.1 2)
    (sinsert ((d.lookup (t.1, ch t.2.1 0, ch t.2.1 2)).getD []) (t.2.2, ch t.2.1 3))) []

/-- the head move of a TM label `ab,d` -/
def tmDir (l : Word) : Dir := if l.getD 3 ' ' == 'L' then Dir.L else Dir.R

/-- the transition table `parse_tm` builds: `delta[(p, a)] = (q, b, d)` for each entry `p q ab,d`, a later entry overwriting -/
def tmDelta (ts : List (String × Word × String)) : Dict (String × String) (String × String × Dir) :=
  ts.foldl (fun d t => d.set (t.1, ch t.2.1 0) (t.2.2, ch t.2.1 1, tmDir t.2.1)) []

/-- `AutomatonBuilder.get_state(key, default)` (the local `getState` of `parseTm`): a declared `accept` / `reject` state
    (exactly one name), else the default -/
def getState (A0 : Raw) (key dflt : String) : Except Err String :=
  match A0.items.lookup key with
  | some [v] => Except.ok v
  | some _ => Except.error Err.runtimeError
  | none => Except.ok dflt

/-- the input alphabet `parse_tm` returns: the declared one (also when declared empty), else the tape symbols but the blank -/
def tmSigma (A : Raw) (tape : List String) (blank : String) : List String :=
  match A.items.lookup "input_symbols" with
  | some declared => dedup declared
  | none => tape.filter (· ≠ blank)

/-- the symbols used in the labels (input position; stack positions; TM tape positions), which `get_symbol_set` checks
    against a declaration or returns -/
def pdaUsedIn (A : Raw) (eps : String) : List String := dedup ((A.transitions.map fun t => ch t.2.1 0).filter (· ≠ eps))
def pdaUsedSt (A : Raw) (eps : String) : List String :=
  dedup ((A.transitions.flatMap fun t => [ch t.2.1 2, ch t.2.1 3]).filter (· ≠ eps))
def tmUsedTape (A : Raw) : List String := dedup (A.transitions.flatMap fun t => [ch t.2.1 0, ch t.2.1 1])

/-- the rest of `parsePda` after `parseRaw`, with its local definitions named as above (equal by `rfl`, see `dfaOfRaw`) -/
def pdaOfRaw (A0 : Raw) (stateOk : Word → Bool) : Except Err SPDA :=
  (commonChecks A0 [] stateOk).bind fun A =>
  (parseSymbol A "epsilon" 'ε' "_").bind fun eps =>
  (getSymbolSet A "input_symbols" (pdaUsedIn A eps)).bind fun Sigma =>
  (getSymbolSet A "stack_symbols" (pdaUsedSt A eps)).bind fun Gamma =>
  if !wordsOk Sigma then .error .runtimeError else
  PDA.checked { Q := A.states, Sigma := Sigma, Gamma := Gamma, delta := pdaDelta A.transitions, q0 := initialOf A,
                F := A.final, eps := eps, epsG := eps }

def tmOfRaw (A0 : Raw) (stateOk : Word → Bool) : Except Err (TM String String) :=
  (getState A0 "accept" (tmFresh A0.states "accept")).bind fun qa =>
  (getState A0 "reject" (tmFresh A0.states "reject")).bind fun qr =>
  (commonChecks A0 [qa, qr] stateOk).bind fun A =>
  (parseSymbol A "blank" '□' "_").bind fun blank =>
  (getSymbolSet A "tape_symbols" (tmUsedTape A)).bind fun tape =>
  TM.checked { Q := A.states, Sigma := tmSigma A tape blank, Gamma := sinsert tape blank, delta := tmDelta A.transitions,
               q0 := initialOf A, qAccept := qa, qReject := qr, blank := blank }

theorem parsePda_eq_ok {text : Word} {ok : Word → Bool} {P : SPDA} :
    parsePda text ok = .ok P ↔ ∃ A0, parseRaw .pda ok text = .ok A0 ∧ pdaOfRaw A0 ok = .ok P :=
  Except.bind_eq_ok'

theorem parseTm_eq_ok {text : Word} {ok : Word → Bool} {T : TM String String} :
    parseTm text ok = .ok T ↔ ∃ A0, parseRaw .tm ok text = .ok A0 ∧ tmOfRaw A0 ok = .ok T :=
  Except.bind_eq_ok'

theorem pdaOfRaw_eq_ok {A0 : Raw} {ok : Word → Bool} {P : SPDA} :
    pdaOfRaw A0 ok = .ok P ↔ ∃ A eps Sigma Gamma, commonChecks A0 [] ok = .ok A ∧ parseSymbol A "epsilon" 'ε' "_" = .ok eps ∧
      getSymbolSet A "input_symbols" (pdaUsedIn A eps) = .ok Sigma ∧
      getSymbolSet A "stack_symbols" (pdaUsedSt A eps) = .ok Gamma ∧ wordsOk Sigma = true ∧
      PDA.checked { Q := A.states, Sigma := Sigma, Gamma := Gamma, delta := pdaDelta A.transitions, q0 := initialOf A,
                    F := A.final, eps := eps, epsG := eps } = .ok P := by
  simp only [pdaOfRaw, Except.bind_eq_ok, Except.ite_error_eq_ok, Bool.not_eq_eq_eq_not, Bool.not_true, Bool.not_eq_false,
    exists_and_left]

theorem tmOfRaw_eq_ok {A0 : Raw} {ok : Word → Bool} {T : TM String String} :
    tmOfRaw A0 ok = .ok T ↔ ∃ qa qr A blank tape, getState A0 "accept" (tmFresh A0.states "accept") = .ok qa ∧
      getState A0 "reject" (tmFresh A0.states "reject") = .ok qr ∧ commonChecks A0 [qa, qr] ok = .ok A ∧
      parseSymbol A "blank" '□' "_" = .ok blank ∧ getSymbolSet A "tape_symbols" (tmUsedTape A) = .ok tape ∧
      TM.checked { Q := A.states, Sigma := tmSigma A tape blank, Gamma := sinsert tape blank,
                   delta := tmDelta A.transitions, q0 := initialOf A, qAccept := qa, qReject := qr, blank := blank } =
        .ok T := by
  simp only [tmOfRaw, Except.bind_eq_ok, exists_and_left]

/-- a transition entry `p q a,uv` as `parse_pda` files it: the target `(q, v)` under the key `(p, a, u)` -/
def pdaDec (t : String × Word × String) : (String × String × String) × (String × String) :=
  ((t.1, ch t.2.1 0, ch t.2.1 2), (t.2.2, ch t.2.1 3))

/-- `parse_pda` fills its table by `δ[k].add(t)` for the decoded entries, in order -/
theorem pdaDelta_adds (ts : List (String × Word × String)) :
    C10a.Adds [] (pdaDelta ts) fun k x => (k, x) ∈ ts.map pdaDec := by
  have : pdaDelta ts = C10a.addMoves [] (ts.map pdaDec) := by rw [C10a.addMoves, List.foldl_map]; rfl
  exact this ▸ .of_nil _

theorem mem_pdaDelta_lookup (ts : List (String × Word × String)) (k : String × String × String) (x : String × String) :
    x ∈ ((pdaDelta ts).lookup k).getD [] ↔ (k, x) ∈ ts.map pdaDec :=
  (pdaDelta_adds ts).dT_nil k x

theorem pdaDelta_keys_nodup (ts : List (String × Word × String)) : ((pdaDelta ts).map (·.1)).Nodup :=
  (pdaDelta_adds ts).nodup List.nodup_nil

/-- the constructor's assertion after the builder's own checks (see `dfaBuilt_valid`): only `ε ∈ Σ` or `ε ∈ Γ` can still fail it -/
theorem pdaBuilt_valid {A0 A : Raw} {ok : Word → Bool} {eps : String} {Sigma Gamma : List String}
    (h1 : commonChecks A0 [] ok = .ok A) (h3 : getSymbolSet A "input_symbols" (pdaUsedIn A eps) = .ok Sigma)
    (h4 : getSymbolSet A "stack_symbols" (pdaUsedSt A eps) = .ok Gamma) (hS : eps ∉ Sigma) (hG : eps ∉ Gamma) :
    PDA.valid ({ Q := A.states, Sigma := Sigma, Gamma := Gamma, delta := pdaDelta A.transitions, q0 := initialOf A,
                 F := A.final, eps := eps, epsG := eps } : SPDA) = true := by
  obtain ⟨c0, cF, cT⟩ := commonChecks_closed h1
  -- a label symbol other than ε was collected as used, hence is in the alphabet
  have sym : ∀ {key : String} {used S : List String}, getSymbolSet A key used = .ok S → ∀ x, (x ≠ eps → x ∈ used) →
      x ∈ S ∨ x = eps :=
    fun h x hx => (Decidable.em (x = eps)).symm.imp_left fun hne => getSymbolSet_used_mem h x (hx hne)
  refine (C10a.PDA_valid_iff _).mpr ⟨c0, hS, hG, cF,
    (pdaDelta_adds _).POK (Q := A.states) (G := Gamma) (fun _ he => nomatch he) (fun _ h => h) (fun _ h => h) fun k x hx => ?_⟩
  obtain ⟨t, ht, he⟩ := List.mem_map.mp hx
  obtain ⟨rfl, rfl⟩ := Prod.mk.inj he
  have stack : ∀ y, y ∈ [ch t.2.1 2, ch t.2.1 3] → y ∈ Gamma ∨ y = eps := fun y hy => sym h4 y fun hne =>
    mem_dedup.mpr (List.mem_filter.mpr ⟨List.mem_flatMap.mpr ⟨t, ht, hy⟩, by simpa using hne⟩)
  exact ⟨⟨(cT t ht).1, sym h3 _ fun hne => mem_dedup.mpr (List.mem_filter.mpr ⟨List.mem_map_of_mem ht, by simpa using hne⟩),
    stack _ (by simp)⟩, (cT t ht).2, stack _ (by simp)⟩

/-- what every PDA that comes out of `parse_pda` satisfies (see `ParsedDfa`): the class invariant and no repeated transition key,
    which the object-level theorems assume of a Python dict -/
structure ParsedPda (P : SPDA) : Prop where
  valid : P.valid = true
  keys : (P.delta.map (·.1)).Nodup

theorem parsedPda_of {text : List Char} {ok : Word → Bool} {P : SPDA} (h : parsePda text ok = .ok P) : ParsedPda P := by
  obtain ⟨A0, _, hP⟩ := parsePda_eq_ok.mp h
  obtain ⟨A, eps, Sigma, Gamma, _, _, _, _, _, hc⟩ := pdaOfRaw_eq_ok.mp hP
  obtain ⟨rfl, hv⟩ := PDA.checked_ok hc
  exact ⟨hv, pdaDelta_keys_nodup _⟩

theorem mem_tmDelta {ts : List (String × Word × String)} {e : (String × String) × (String × String × Dir)}
    (he : e ∈ tmDelta ts) : ∃ t, t ∈ ts ∧ e = ((t.1, ch t.2.1 0), (t.2.2, ch t.2.1 1, tmDir t.2.1)) := by
  unfold tmDelta at he
  rcases Dict.mem_foldl_set (fun t : String × Word × String => (t.1, ch t.2.1 0))
    (fun t => (t.2.2, ch t.2.1 1, tmDir t.2.1)) ts [] he with h | h
  · cases h
  · exact h

/-- the constructor's assertion after the builder's own checks (see `dfaBuilt_valid`); what can still fail it: an accepting or
    rejecting state outside a declared state list, the two being equal, a blank among the input symbols, a declared input
    symbol that is no tape symbol -/
theorem tmBuilt_valid {A0 A : Raw} {ok : Word → Bool} {qa qr blank : String} {tape : List String}
    (h3 : commonChecks A0 [qa, qr] ok = .ok A) (h5 : getSymbolSet A "tape_symbols" (tmUsedTape A) = .ok tape)
    (ha : qa ∈ A.states) (hr : qr ∈ A.states) (hne : qr ≠ qa) (hb : blank ∉ tmSigma A tape blank)
    (hS : ∀ a, a ∈ tmSigma A tape blank → a ∈ sinsert tape blank) :
    TM.valid ({ Q := A.states, Sigma := tmSigma A tape blank, Gamma := sinsert tape blank, delta := tmDelta A.transitions,
                q0 := initialOf A, qAccept := qa, qReject := qr, blank := blank } : TM String String) = true := by
  obtain ⟨c0, _, cT⟩ := commonChecks_closed h3
  refine (TM.valid_iff _).mpr ⟨c0, ha, hr, hne, hb, mem_sinsert.mpr (.inr rfl), hS, fun e he => ?_⟩
  obtain ⟨t, ht, rfl⟩ := mem_tmDelta he
  have sym : ∀ x, x ∈ [ch t.2.1 0, ch t.2.1 1] → x ∈ sinsert tape blank := fun x hx =>
    mem_sinsert.mpr (.inl (getSymbolSet_used_mem h5 x (mem_dedup.mpr (List.mem_flatMap.mpr ⟨t, ht, hx⟩))))
  exact ⟨(cT t ht).1, sym _ (by simp), (cT t ht).2, sym _ (by simp)⟩

theorem labelOk_pda {l : Word} (h : labelOk .pda l = true) :
    ∃ a u v, l = [a, ',', u, v] ∧ isWordChar a = true ∧ isLabelSym false u = true ∧ isLabelSym false v = true := by
  simp only [labelOk] at h
  split at h
  · simp only [Bool.and_eq_true] at h
    exact ⟨_, _, _, rfl, h.1.1, h.1.2, h.2⟩
  · cases h

theorem labelOk_tm {l : Word} (h : labelOk .tm l = true) :
    ∃ a b d, l = [a, b, ',', d] ∧ isLabelSym true a = true ∧ isLabelSym true b = true ∧ (d = 'L' ∨ d = 'R') := by
  simp only [labelOk] at h
  split at h
  · simp only [Bool.and_eq_true, Bool.or_eq_true, beq_iff_eq] at h
    exact ⟨_, _, _, rfl, h.1.1, h.1.2, h.2⟩
  · cases h

theorem getState_declared {A0 : Raw} {key dflt v w : String} (h : getState A0 key dflt = .ok w)
    (hd : A0.items.lookup key = some [v]) : w = v := by
  unfold getState at h
  rw [hd] at h
  cases h; rfl


/-- state names of the PDA format: `\w+`, not a keyword of the format -/
def PdaNameOk (s : String) : Prop :=
  Parse.isWord s.toList = true ∧ s ∉ ["states", "final", "initial", "input_symbols", "stack_symbols", "epsilon"]

/-- state names of the TM format: `\w+`, not a keyword of the format -/
def TmNameOk (s : String) : Prop :=
  Parse.isWord s.toList = true ∧
    s ∉ ["states", "final", "initial", "input_symbols", "tape_symbols", "blank", "accept", "reject"]

def Char1 (p : Char → Bool) (s : String) : Prop := ∃ c, s = String.singleton c ∧ p c = true


theorem not_isSpace_of_isLabelSym {tm : Bool} {c : Char} (h : isLabelSym tm c = true) : isSpace c = false := by
  simp only [isLabelSym, Bool.or_eq_true, Bool.and_eq_true, beq_iff_eq] at h
  rcases h with (h | h) | h
  · exact not_isSpace_of_isWordChar h
  · have e : "~!@#$%^&*".toList = ['~', '!', '@', '#', '$', '%', '^', '&', '*'] := by rfl
    rw [e] at h
    simp only [List.contains_eq_mem, List.mem_cons, List.not_mem_nil, or_false, decide_eq_true_eq] at h
    rcases h with rfl | rfl | rfl | rfl | rfl | rfl | rfl | rfl | rfl <;> decide
  · obtain ⟨_, rfl⟩ := h; decide

theorem isLabelSym_of_isWordChar {tm : Bool} {c : Char} (h : isWordChar c = true) : isLabelSym tm c = true := by
  simp [isLabelSym, h]

theorem Char1.token {b : Bool} {s : String} (h : Char1 (isLabelSym b) s) : Token s.toList := by
  obtain ⟨c, rfl, hc⟩ := h
  refine ⟨by simp, ?_⟩
  intro d hd
  simp only [String.toList_singleton, List.mem_singleton] at hd
  subst hd
  exact not_isSpace_of_isLabelSym hc

theorem Char1.of_wordChar {b : Bool} {s : String} (h : Char1 isWordChar s) : Char1 (isLabelSym b) s := by
  obtain ⟨c, rfl, hc⟩ := h
  exact ⟨c, rfl, isLabelSym_of_isWordChar hc⟩

theorem Char1.isWord {s : String} (h : Char1 isWordChar s) : Parse.isWord s.toList = true := by
  obtain ⟨c, rfl, hc⟩ := h
  simp [Parse.isWord, hc]



/-- the `(p, q, label)` triples `print_tm` groups into lines -/
def tmTrans (T : TM String String) : List (String × String × String) :=
  T.delta.map fun e => (e.1.1, e.2.1, e.1.2 ++ e.2.2.1 ++ "," ++ dirStr e.2.2.2)

/-- what the line parser reads back from `printTm T` -/
def tmRaw (T : TM String String) : Raw :=
  { states := sortStrings (dedup T.Q), final := [], initial := [T.q0],
    items := [("states", sortStrings (dedup T.Q)), ("initial", [T.q0]), ("accept", [T.qAccept]), ("reject", [T.qReject]),
              ("input_symbols", sortStrings (dedup T.Sigma)), ("tape_symbols", sortStrings (dedup T.Gamma)),
              ("blank", [T.blank])],
    transitions := transOf (tmTrans T) }

theorem printTm_eq (T : TM String String) :
    printTm T = "".intercalate (((tmRaw T).items.map declLine ++ transLines (tmTrans T)).map (· ++ "\n")) := rfl

theorem tm_label_toList {a b : String} {ca cb : Char} (ha : a = String.singleton ca) (hb : b = String.singleton cb)
    (d : Dir) : (a ++ b ++ "," ++ dirStr d).toList = [ca, cb, ','] ++ (dirStr d).toList := by
  subst ha hb
  simp [String.toList_append]

theorem tmTrans_ok {T : TM String String} (hv : T.valid = true) (hQ : ∀ q, q ∈ T.Q → Parse.TmNameOk q)
    (hG : ∀ x, x ∈ T.Gamma → Parse.Char1 (Parse.isLabelSym true) x) : ∀ t, t ∈ tmTrans T → TransOkFor .tm isWord t := by
  intro t ht
  obtain ⟨⟨⟨p, a⟩, q, b, d⟩, he, rfl⟩ := List.mem_map.mp ht
  obtain ⟨_, _, _, _, _, _, _, hcl⟩ := (TM.valid_iff T).mp hv
  obtain ⟨hp, ha, hq, hb⟩ := hcl _ he
  obtain ⟨ca, ha1, ha2⟩ := hG a ha
  obtain ⟨cb, hb1, hb2⟩ := hG b hb
  have hl := tm_label_toList ha1 hb1 d
  refine .of_isWord (hQ p hp).1 (hQ p hp).2 (hQ q hq).1 ?_ ?_
  · show Token (a ++ b ++ "," ++ dirStr d).toList
    rw [hl]
    refine ⟨by simp, ?_⟩
    intro c hc
    cases d <;> simp only [dirStr, List.cons_append, List.nil_append, List.mem_cons] at hc
    all_goals
      have e : "L".toList = ['L'] ∧ "R".toList = ['R'] := ⟨rfl, rfl⟩
      simp only [e.1, e.2, List.mem_cons, List.not_mem_nil, or_false] at hc
      rcases hc with rfl | rfl | rfl | rfl
      · exact not_isSpace_of_isLabelSym ha2
      · exact not_isSpace_of_isLabelSym hb2
      · decide
      · decide
  · show labelOk .tm (a ++ b ++ "," ++ dirStr d).toList = true
    rw [hl]
    cases d <;> simp [dirStr, labelOk, ha2, hb2]

theorem parseRaw_printTm (T : TM String String) (hv : T.valid = true) (hQ : ∀ q, q ∈ T.Q → Parse.TmNameOk q)
    (hG : ∀ x, x ∈ T.Gamma → Parse.Char1 (Parse.isLabelSym true) x) :
    parseRaw .tm isWord (printTm T).toList = .ok (tmRaw T) := by
  obtain ⟨hq0, hqa, hqr, _, _, hbG, hSG, _⟩ := (TM.valid_iff T).mp hv
  have tok1 : ∀ q, q ∈ T.Q → ∀ n, n ∈ [q] → Token n.toList := fun q hq =>
    List.forall_mem_singleton.mpr (isWord_token (hQ q hq).1)
  obtain ⟨d1, _, d3⟩ := declOk_names (k := .tm) (F := []) (fun q hq => .of_isWord (hQ q hq).1 (hQ q hq).2) hq0
    fun _ hf => nomatch hf
  have hds : ∀ d, d ∈ (tmRaw T).items → DeclOk .tm isWord d := by
    simp only [tmRaw, List.forall_mem_cons, List.not_mem_nil, false_imp_iff, implies_true, and_true]
    exact ⟨d1, d3, .keyword (by decide) (tok1 _ hqa), .keyword (by decide) (tok1 _ hqr),
      .keyword (by decide) fun n hn => (hG n (hSG n (mem_sortStrings_dedup.mp hn))).token,
      .keyword (by decide) fun n hn => (hG n (mem_sortStrings_dedup.mp hn)).token,
      .keyword (by decide) (List.forall_mem_singleton.mpr (hG _ hbG).token)⟩
  rw [printTm_eq]
  exact parseRaw_printed_terminated hds (by simp [tmRaw]) (tmTrans_ok hv hQ hG)

theorem ch_tm_label {a b : String} {ca cb : Char} (ha : a = String.singleton ca) (hb : b = String.singleton cb)
    (d : Dir) : ch (a ++ b ++ "," ++ dirStr d).toList 0 = a ∧ ch (a ++ b ++ "," ++ dirStr d).toList 1 = b ∧
      tmDir (a ++ b ++ "," ++ dirStr d).toList = d := by
  rw [tm_label_toList ha hb d]
  subst ha hb
  cases d <;> simp [ch, tmDir, dirStr]

theorem tmRaw_delta_perm (T : TM String String) (hv : T.valid = true)
    (hG : ∀ x, x ∈ T.Gamma → Parse.Char1 (Parse.isLabelSym true) x) :
    ((transOf (tmTrans T)).map fun t => ((t.1, ch t.2.1 0), (t.2.2, ch t.2.1 1, tmDir t.2.1))).Perm T.delta := by
  refine transOf_decode_perm fun e he => ?_
  obtain ⟨_, ha, _, hb⟩ := ((TM.valid_iff T).mp hv).2.2.2.2.2.2.2 _ he
  obtain ⟨ca, ha1, _⟩ := hG _ ha
  obtain ⟨cb, hb1, _⟩ := hG _ hb
  obtain ⟨e1, e2, e3⟩ := ch_tm_label ha1 hb1 e.2.2.2
  simp only [e1, e2, e3]

theorem tmDelta_eq_of_nodup (ts : List (String × Word × String)) (h : (ts.map fun t => (t.1, ch t.2.1 0)).Nodup) :
    tmDelta ts = ts.map fun t => ((t.1, ch t.2.1 0), (t.2.2, ch t.2.1 1, tmDir t.2.1)) := by
  unfold tmDelta
  rw [Dict.foldl_set_of_nodup (fun t : String × Word × String => (t.1, ch t.2.1 0))
    (fun t => (t.2.2, ch t.2.1 1, tmDir t.2.1)) ts [] (by simpa using h)]
  simp

theorem tmRaw_keys_nodup (T : TM String String) (hv : T.valid = true) (hk : (T.delta.map (·.1)).Nodup)
    (hG : ∀ x, x ∈ T.Gamma → Parse.Char1 (Parse.isLabelSym true) x) :
    ((tmRaw T).transitions.map fun t => (t.1, ch t.2.1 0)).Nodup := by
  have hperm := tmRaw_delta_perm T hv hG
  have := ((hperm.map (·.1)).nodup_iff).mpr hk
  rw [List.map_map] at this
  exact this

theorem parse_print_tm_explicit (T : TM String String) (hv : T.valid = true) (hk : (T.delta.map (·.1)).Nodup)
    (hQ : ∀ q, q ∈ T.Q → Parse.TmNameOk q)
    (hG : ∀ x, x ∈ T.Gamma → Parse.Char1 (Parse.isLabelSym true) x) :
    ∃ T', Parse.parseTm (Parse.printTm T).toList = .ok T' ∧ T'.valid = true ∧
      T'.Q = sortStrings (dedup T.Q) ∧ T'.Sigma = dedup (sortStrings (dedup T.Sigma)) ∧
      T'.Gamma = sinsert (dedup (sortStrings (dedup T.Gamma))) T.blank ∧ T'.q0 = T.q0 ∧ T'.qAccept = T.qAccept ∧
      T'.qReject = T.qReject ∧ T'.blank = T.blank ∧ T'.delta.Perm T.delta := by
  obtain ⟨hq0, hqa, hqr, hne, hbS, hbG, hSG, hcl⟩ := (TM.valid_iff T).mp hv
  have h0 := parseRaw_printTm T hv hQ hG
  have hperm := tmRaw_delta_perm T hv hG
  have hdelta := tmDelta_eq_of_nodup (transOf (tmTrans T)) (tmRaw_keys_nodup T hv hk hG)
  have hmemT : ∀ t, t ∈ (tmRaw T).transitions →
      ((t.1, ch t.2.1 0), (t.2.2, ch t.2.1 1, tmDir t.2.1)) ∈ T.delta := by
    intro t ht
    exact hperm.mem_iff.mp (List.mem_map.mpr ⟨t, ht, rfl⟩)
  have ha : getState (tmRaw T) "accept" (tmFresh (tmRaw T).states "accept") = .ok T.qAccept := by rfl
  have hr : getState (tmRaw T) "reject" (tmFresh (tmRaw T).states "reject") = .ok T.qReject := by rfl
  have h1 : commonChecks (tmRaw T) [T.qAccept, T.qReject] isWord = .ok (tmRaw T) :=
    commonChecks_printed _ rfl rfl hq0 (fun _ hf => nomatch hf)
      (fun t ht => ⟨(hcl _ (hmemT t ht)).1, (hcl _ (hmemT t ht)).2.2.1⟩) fun q hq => (hQ q hq).1
  have h2 : parseSymbol (tmRaw T) "blank" '□' "_" = .ok T.blank := by rfl
  have h3 : getSymbolSet (tmRaw T) "tape_symbols" (tmUsedTape (tmRaw T)) =
      .ok (dedup (sortStrings (dedup T.Gamma))) := by
    refine getSymbolSet_printed (S := T.Gamma) rfl fun a ha => ?_
    simp only [tmUsedTape, mem_dedup, List.mem_flatMap, List.mem_cons, List.not_mem_nil, or_false] at ha
    obtain ⟨t, ht, rfl | rfl⟩ := ha
    · exact (hcl _ (hmemT t ht)).2.1
    · exact (hcl _ (hmemT t ht)).2.2.2
  have hvalid := tmBuilt_valid h1 h3 (mem_sortStrings_dedup.mpr hqa) (mem_sortStrings_dedup.mpr hqr) hne
    (show T.blank ∉ dedup (sortStrings (dedup T.Sigma)) by simpa using hbS)
    (fun a (ha : a ∈ dedup (sortStrings (dedup T.Sigma))) => mem_sinsert.mpr (.inl (by simpa using hSG a (by simpa using ha))))
  refine ⟨_, ?_, hvalid, rfl, rfl, rfl, rfl, rfl, rfl, rfl, ?_⟩
  · exact parseTm_eq_ok.mpr ⟨_, h0, tmOfRaw_eq_ok.mpr ⟨_, _, _, _, _, ha, hr, h1, h2, h3, TM.checked_of_valid hvalid⟩⟩
  · show (tmDelta (transOf (tmTrans T))).Perm T.delta
    rw [hdelta]; exact hperm



/-- the `(p, q, label)` triples `print_pda` groups into lines -/
def pdaTrans (P : SPDA) : List (String × String × String) :=
  P.delta.flatMap fun e => e.2.map fun t => (e.1.1, t.1, e.1.2.1 ++ "," ++ e.1.2.2 ++ t.2)

/-- what the line parser reads back from `printPda P` -/
def pdaRaw (P : SPDA) : Raw :=
  { states := sortStrings (dedup P.Q), final := sortStrings (dedup P.F), initial := [P.q0],
    items := [("states", sortStrings (dedup P.Q)), ("final", sortStrings (dedup P.F)), ("initial", [P.q0]),
              ("input_symbols", sortStrings (dedup P.Sigma)), ("stack_symbols", sortStrings (dedup P.Gamma)),
              ("epsilon", [P.eps])],
    transitions := transOf (pdaTrans P) }

theorem printPda_eq (P : SPDA) :
    printPda P = "".intercalate (((pdaRaw P).items.map declLine ++ transLines (pdaTrans P)).map (· ++ "\n")) := rfl

theorem pda_label_toList {a u v : String} {ca cu cv : Char} (ha : a = String.singleton ca)
    (hu : u = String.singleton cu) (hv : v = String.singleton cv) :
    (a ++ "," ++ u ++ v).toList = [ca, ',', cu, cv] := by
  subst ha hu hv
  simp [String.toList_append]

theorem ch_pda_label {a u v : String} {ca cu cv : Char} (ha : a = String.singleton ca)
    (hu : u = String.singleton cu) (hv : v = String.singleton cv) :
    ch (a ++ "," ++ u ++ v).toList 0 = a ∧ ch (a ++ "," ++ u ++ v).toList 2 = u ∧ ch (a ++ "," ++ u ++ v).toList 3 = v := by
  rw [pda_label_toList ha hu hv]
  subst ha hu hv
  simp [ch]

/-- the symbol hypotheses of the PDA round trip, gathered -/
structure PdaSymsOk (P : SPDA) : Prop where
  valid : P.valid = true
  heq : P.epsG = P.eps
  hS : ∀ a, a ∈ P.Sigma → Parse.Char1 Text.isWordChar a
  hG : ∀ x, x ∈ P.Gamma → Parse.Char1 (Parse.isLabelSym false) x
  he : Parse.Char1 Text.isWordChar P.eps

theorem pdaTrans_eq (P : SPDA) :
    pdaTrans P = (transList P.delta).map fun e => (e.1.1, e.2.1, e.1.2.1 ++ "," ++ e.1.2.2 ++ e.2.2) := by
  simp only [pdaTrans, transList, List.map_flatMap, List.map_map, Function.comp_def]

/-- every transition: its components are in the automaton and are single characters of the right classes -/
theorem PdaSymsOk.entry {P : SPDA} (h : PdaSymsOk P) {e : (String × String × String) × (String × String)}
    (he : e ∈ transList P.delta) :
    e.1.1 ∈ P.Q ∧ e.2.1 ∈ P.Q ∧ (e.1.2.1 ∈ P.Sigma ∨ e.1.2.1 = P.eps) ∧ (e.1.2.2 ∈ P.Gamma ∨ e.1.2.2 = P.eps) ∧
      (e.2.2 ∈ P.Gamma ∨ e.2.2 = P.eps) ∧
      Char1 isWordChar e.1.2.1 ∧ Char1 (isLabelSym false) e.1.2.2 ∧ Char1 (isLabelSym false) e.2.2 := by
  obtain ⟨hp, ha, hu, hq, hv⟩ := PDA.valid_transList h.valid he
  rw [h.heq] at hu hv
  have sym : ∀ {x : String}, x ∈ P.Gamma ∨ x = P.eps → Char1 (isLabelSym false) x := fun hx =>
    hx.elim (h.hG _) fun e => e ▸ h.he.of_wordChar
  exact ⟨hp, hq, ha, hu, hv, ha.elim (h.hS _) fun e => e ▸ h.he, sym hu, sym hv⟩

theorem pdaTrans_ok {P : SPDA} (h : PdaSymsOk P) (hQ : ∀ q, q ∈ P.Q → Parse.PdaNameOk q) :
    ∀ t, t ∈ pdaTrans P → TransOkFor .pda isWord t := by
  intro t ht
  rw [pdaTrans_eq] at ht
  obtain ⟨e, he, rfl⟩ := List.mem_map.mp ht
  obtain ⟨hp, hq, _, _, _, ⟨ca, ha1, ha2⟩, ⟨cu, hu1, hu2⟩, ⟨cv, hv1, hv2⟩⟩ := h.entry he
  have hl := pda_label_toList ha1 hu1 hv1
  refine .of_isWord (hQ _ hp).1 (hQ _ hp).2 (hQ _ hq).1 ?_ ?_
  · show Token (e.1.2.1 ++ "," ++ e.1.2.2 ++ e.2.2).toList
    rw [hl]
    refine ⟨by simp, ?_⟩
    intro c hc
    simp only [List.mem_cons, List.not_mem_nil, or_false] at hc
    rcases hc with rfl | rfl | rfl | rfl
    · exact not_isSpace_of_isWordChar ha2
    · decide
    · exact not_isSpace_of_isLabelSym hu2
    · exact not_isSpace_of_isLabelSym hv2
  · show labelOk .pda (e.1.2.1 ++ "," ++ e.1.2.2 ++ e.2.2).toList = true
    rw [hl]
    simp [labelOk, ha2, hu2, hv2]

theorem parseRaw_printPda (P : SPDA) (h : PdaSymsOk P) (hQ : ∀ q, q ∈ P.Q → Parse.PdaNameOk q) :
    parseRaw .pda isWord (printPda P).toList = .ok (pdaRaw P) := by
  obtain ⟨hq0, _, _, hF, _⟩ := (C10a.PDA_valid_iff P).mp h.valid
  obtain ⟨d1, d2, d3⟩ := declOk_names (k := .pda) (fun q hq => .of_isWord (hQ q hq).1 (hQ q hq).2) hq0 hF
  have hds : ∀ d, d ∈ (pdaRaw P).items → DeclOk .pda isWord d := by
    simp only [pdaRaw, List.forall_mem_cons, List.not_mem_nil, false_imp_iff, implies_true, and_true]
    exact ⟨d1, d2, d3, .keyword (by decide) fun n hn => isWord_token (h.hS n (mem_sortStrings_dedup.mp hn)).isWord,
      .keyword (by decide) fun n hn => (h.hG n (mem_sortStrings_dedup.mp hn)).token,
      .keyword (by decide) (List.forall_mem_singleton.mpr (isWord_token h.he.isWord))⟩
  rw [printPda_eq]
  exact parseRaw_printed_terminated hds (by simp [pdaRaw]) (pdaTrans_ok h hQ)

theorem pdaRaw_perm {P : SPDA} (h : PdaSymsOk P) : ((pdaRaw P).transitions.map pdaDec).Perm (transList P.delta) := by
  show ((transOf (pdaTrans P)).map pdaDec).Perm _
  rw [pdaTrans_eq]
  refine transOf_decode_perm fun e he => ?_
  obtain ⟨_, _, _, _, _, ⟨ca, ha, _⟩, ⟨cu, hu, _⟩, ⟨cv, hv, _⟩⟩ := h.entry he
  obtain ⟨e1, e2, e3⟩ := ch_pda_label ha hu hv
  simp only [pdaDec, e1, e2, e3]

theorem parse_print_pda_explicit (P : SPDA) (h : PdaSymsOk P) (hk : (P.delta.map (·.1)).Nodup)
    (hQ : ∀ q, q ∈ P.Q → Parse.PdaNameOk q) :
    ∃ P', Parse.parsePda (Parse.printPda P).toList = .ok P' ∧ P'.valid = true ∧
      P'.Q = sortStrings (dedup P.Q) ∧ P'.Sigma = dedup (sortStrings (dedup P.Sigma)) ∧
      P'.Gamma = dedup (sortStrings (dedup P.Gamma)) ∧ P'.q0 = P.q0 ∧ P'.F = sortStrings (dedup P.F) ∧
      P'.eps = P.eps ∧ P'.epsG = P.eps ∧
      ∀ k t, t ∈ (P'.delta.lookup k).getD [] ↔ t ∈ (P.delta.lookup k).getD [] := by
  obtain ⟨hq0, heS, heG, hF, _⟩ := (C10a.PDA_valid_iff P).mp h.valid
  have h0 := parseRaw_printPda P h hQ
  have hperm := pdaRaw_perm h
  have hent := fun t (ht : t ∈ (pdaRaw P).transitions) =>
    h.entry (hperm.mem_iff.mp (List.mem_map_of_mem (f := pdaDec) ht))
  have h1 : commonChecks (pdaRaw P) [] isWord = .ok (pdaRaw P) :=
    commonChecks_printed [] rfl rfl hq0 (fun f hf => hF f (mem_sortStrings_dedup.mp hf))
      (fun t ht => ⟨(hent t ht).1, (hent t ht).2.1⟩) fun q hq => (hQ q hq).1
  have h2 : parseSymbol (pdaRaw P) "epsilon" 'ε' "_" = .ok P.eps := by rfl
  have h3 : getSymbolSet (pdaRaw P) "input_symbols" (pdaUsedIn (pdaRaw P) P.eps) =
      .ok (dedup (sortStrings (dedup P.Sigma))) := by
    refine getSymbolSet_printed (S := P.Sigma) rfl fun a ha => ?_
    simp only [pdaUsedIn, mem_dedup, List.mem_filter, List.mem_map, ne_eq, decide_eq_true_eq] at ha
    obtain ⟨⟨t, ht, rfl⟩, hne⟩ := ha
    exact (hent t ht).2.2.1.resolve_right hne
  have h4 : getSymbolSet (pdaRaw P) "stack_symbols" (pdaUsedSt (pdaRaw P) P.eps) =
      .ok (dedup (sortStrings (dedup P.Gamma))) := by
    refine getSymbolSet_printed (S := P.Gamma) rfl fun a ha => ?_
    simp only [pdaUsedSt, mem_dedup, List.mem_filter, List.mem_flatMap, ne_eq, decide_eq_true_eq, List.mem_cons,
      List.not_mem_nil, or_false] at ha
    obtain ⟨⟨t, ht, rfl | rfl⟩, hne⟩ := ha
    · exact (hent t ht).2.2.2.1.resolve_right hne
    · exact (hent t ht).2.2.2.2.1.resolve_right hne
  have hw := wordsOk_printed fun a ha => (h.hS a ha).isWord
  have hvalid := pdaBuilt_valid h1 h3 h4 (by simpa using heS) (by simpa [h.heq] using heG)
  refine ⟨_, parsePda_eq_ok.mpr ⟨_, h0, pdaOfRaw_eq_ok.mpr ⟨_, _, _, _, h1, h2, h3, h4, hw, PDA.checked_of_valid hvalid⟩⟩,
    hvalid, rfl, rfl, rfl, rfl, rfl, rfl, rfl, fun k t => ?_⟩
  show t ∈ ((pdaDelta (pdaRaw P).transitions).lookup k).getD [] ↔ _
  rw [mem_pdaDelta_lookup, hperm.mem_iff]
  exact mem_transList hk k t

end Parse
end Gamba
