/-
  Gamba.Proofs.C20 — helper lemmas for property C20: the two DFA isomorphism tests
  `DFA.isomorphic1` (worklist + matching/inverse dicts) and `DFA.isomorphic` (matching matrix).

  Semantic core: `JR` = the pairs of states jointly reachable by a common word;
  `D1.Iso D2 ↔ RChar` (`JR` is functional, injective and respects finality).
-/
import Gamba.Spec.Iso
import Gamba.Proofs.ListFacts
import Gamba.Proofs.DFABasic
namespace Gamba
variable {σ σ₂ τ : Type} [DecidableEq σ] [DecidableEq σ₂] [DecidableEq τ]

namespace C20

theorem length_le_one_iff {α : Type} {l : List α} (hn : l.Nodup) :
    l.length ≤ 1 ↔ ∀ x y, x ∈ l → y ∈ l → x = y := by
  match l, hn with
  | [], _ => simp
  | [a], _ => simp
  | a :: b :: l, hn =>
    have hab : a ≠ b := fun h => (List.nodup_cons.mp hn).1 (h ▸ List.mem_cons_self)
    refine ⟨fun h => ?_, fun h => ?_⟩
    · simp at h
    · exact absurd (h a b List.mem_cons_self (List.mem_cons_of_mem _ List.mem_cons_self)) hab

theorem filter_length_le_one {α : Type} (l : List α) (hn : l.Nodup) (P : α → Bool) :
    (l.filter P).length ≤ 1 ↔ ∀ x y, x ∈ l → P x = true → y ∈ l → P y = true → x = y := by
  rw [length_le_one_iff (hn.sublist List.filter_sublist)]
  simp only [List.mem_filter, and_imp]

/-- the answer `False` is right as soon as the characterisation fails -/
theorem ok_false_iff {P : Prop} (h : ¬ P) : ∃ b, (Except.ok false : Except Err Bool) = .ok b ∧ (b = true ↔ P) :=
  ⟨false, rfl, fun hb => (Bool.false_ne_true hb).elim, fun hp => (h hp).elim⟩

/-- the finality tests of both routines -/
theorem beq_decide {p q : Prop} [Decidable p] [Decidable q] : (decide p == decide q) = true ↔ (p ↔ q) := by
  simp only [beq_iff_eq, decide_eq_decide]

theorem bne_decide {p q : Prop} [Decidable p] [Decidable q] : (decide p != decide q) = true ↔ ¬ (p ↔ q) := by
  simp only [bne_iff_ne, ne_eq, decide_eq_decide]

/-- `d.get(k, v) != v` -/
theorem getD_ne {α : Type} {o : Option α} {d : α} : o.getD d ≠ d ↔ ∃ m, o = some m ∧ m ≠ d := by
  cases o with
  | none => simp
  | some m => simp

theorem lookup_set_eq_some {κ ν : Type} [DecidableEq κ] {d : Dict κ ν} {k : κ} {v : ν}
    (hk : ∀ m, d.lookup k = some m → m = v) (k' : κ) (v' : ν) :
    (d.set k v).lookup k' = some v' ↔ d.lookup k' = some v' ∨ (k' = k ∧ v' = v) := by
  rw [Dict.lookup_set]
  by_cases h : k' = k
  · subst h
    rw [if_pos rfl]
    exact ⟨fun h' => Or.inr ⟨rfl, (Option.some.inj h').symm⟩,
      fun h' => h'.elim (fun h' => by rw [hk v' h']) (fun h' => by rw [h'.2])⟩
  · rw [if_neg h]
    exact ⟨Or.inl, fun h' => h'.elim id (fun h' => absurd h'.1 h)⟩

end C20

/-! ### jointly reachable pairs

`D1.JR D2 p q` says that one word over `Σ` leads `D1` to `p` and `D2` to `q`; in particular `p` is reachable in `D1`
(`JR_reachable_left`), and every reachable `p` has such a partner, the state the same word leads `D2` to. -/

def DFA.JR (D1 : DFA σ τ) (D2 : DFA σ₂ τ) (p : σ) (q : σ₂) : Prop :=
  ∃ w, (∀ a, a ∈ w → a ∈ D1.Sigma) ∧ p = D1.runT D1.q0 w ∧ q = D2.runT D2.q0 w

/-- the characterisation of isomorphism of reachable parts by the relation `JR` -/
def DFA.RChar (D1 : DFA σ τ) (D2 : DFA σ₂ τ) : Prop :=
  (∀ p q q', D1.JR D2 p q → D1.JR D2 p q' → q = q') ∧
  (∀ p p' q, D1.JR D2 p q → D1.JR D2 p' q → p = p') ∧
  (∀ p q, D1.JR D2 p q → (p ∈ D1.F ↔ q ∈ D2.F))

theorem DFA.JR_start (D1 : DFA σ τ) (D2 : DFA σ₂ τ) : D1.JR D2 D1.q0 D2.q0 :=
  ⟨[], fun _ h => (by cases h), rfl, rfl⟩

theorem DFA.JR_next {D1 : DFA σ τ} {D2 : DFA σ₂ τ} {p : σ} {q : σ₂} (h : D1.JR D2 p q) {a : τ}
    (ha : a ∈ D1.Sigma) : D1.JR D2 (D1.next p a) (D2.next q a) := by
  obtain ⟨w, hw, rfl, rfl⟩ := h
  refine ⟨w ++ [a], List.forall_mem_append.mpr ⟨hw, List.forall_mem_singleton.mpr ha⟩, ?_, ?_⟩
  · rw [DFA.runT_append]; rfl
  · rw [DFA.runT_append]; rfl

theorem DFA.JR_mem {D1 : DFA σ τ} {D2 : DFA σ₂ τ} (h1 : D1.valid = true) (h2 : D2.valid = true)
    (hS : ∀ a, a ∈ D1.Sigma ↔ a ∈ D2.Sigma) {p : σ} {q : σ₂} (h : D1.JR D2 p q) :
    p ∈ D1.Q ∧ q ∈ D2.Q := by
  obtain ⟨w, hw, rfl, rfl⟩ := h
  exact ⟨DFA.runT_mem h1 (DFA.valid_q0 h1) hw,
    DFA.runT_mem h2 (DFA.valid_q0 h2) (fun a ha => (hS a).mp (hw a ha))⟩

/-- `JR` is the least relation containing the initial pair and closed under `Σ`-successors -/
theorem DFA.JR_of_closed {D1 : DFA σ τ} {D2 : DFA σ₂ τ} (S : σ → σ₂ → Prop)
    (h0 : S D1.q0 D2.q0)
    (hc : ∀ p q, S p q → ∀ a, a ∈ D1.Sigma → S (D1.next p a) (D2.next q a))
    {p : σ} {q : σ₂} (h : D1.JR D2 p q) : S p q := by
  obtain ⟨w, hw, rfl, rfl⟩ := h
  exact DFA.runT_rel S (fun p q a h ha => hc p q h a ha) h0 hw

theorem DFA.JR_symm {D1 : DFA σ τ} {D2 : DFA σ₂ τ} (hS : ∀ a, a ∈ D1.Sigma ↔ a ∈ D2.Sigma)
    {p : σ} {q : σ₂} (h : D1.JR D2 p q) : D2.JR D1 q p := by
  obtain ⟨w, hw, hp, hq⟩ := h
  exact ⟨w, fun a ha => (hS a).mp (hw a ha), hq, hp⟩

theorem DFA.RChar_symm {D1 : DFA σ τ} {D2 : DFA σ₂ τ} (hS : ∀ a, a ∈ D1.Sigma ↔ a ∈ D2.Sigma)
    (h : D1.RChar D2) : D2.RChar D1 := by
  have hS' : ∀ a, a ∈ D2.Sigma ↔ a ∈ D1.Sigma := fun a => (hS a).symm
  obtain ⟨hf, hi, hF⟩ := h
  refine ⟨?_, ?_, ?_⟩
  · intro p q q' h1 h2; exact hi q q' p (DFA.JR_symm hS' h1) (DFA.JR_symm hS' h2)
  · intro p p' q h1 h2; exact hf q p p' (DFA.JR_symm hS' h1) (DFA.JR_symm hS' h2)
  · intro p q h1; exact (hF q p (DFA.JR_symm hS' h1)).symm

theorem DFA.JR_reachable_left {D1 : DFA σ τ} {D2 : DFA σ₂ τ} (h1 : D1.valid = true)
    {p : σ} {q : σ₂} (h : D1.JR D2 p q) : D1.Reachable p := by
  obtain ⟨w, hw, hp, _⟩ := h
  exact (DFA.Reachable_iff h1 p).mpr ⟨w, hw, hp⟩

theorem DFA.Reachable_next {D : DFA σ τ} (h : D.valid = true) {p : σ} (hp : D.Reachable p) {a : τ}
    (ha : a ∈ D.Sigma) : D.Reachable (D.next p a) := by
  obtain ⟨w, hw, hp⟩ := (DFA.Reachable_iff h p).mp hp
  exact DFA.JR_reachable_left h (DFA.JR_next (D2 := D) ⟨w, hw, hp, hp⟩ ha)

theorem DFA.IsIsoMap.JR_eq {D1 : DFA σ τ} {D2 : DFA σ₂ τ} (h1 : D1.valid = true) {f : σ → σ₂}
    (hf : D1.IsIsoMap D2 f) {p : σ} {q : σ₂} (h : D1.JR D2 p q) : q = f p := by
  obtain ⟨_, _, _, h0, hstep, _⟩ := hf
  have hq0 : D1.Reachable D1.q0 := DFA.JR_reachable_left h1 (DFA.JR_start D1 D2)
  refine (DFA.JR_of_closed (fun p q => q = f p ∧ D1.Reachable p) ⟨h0.symm, hq0⟩ ?_ h).1
  rintro p _ ⟨rfl, hp⟩ a ha
  exact ⟨(hstep p a hp ha).symm, DFA.Reachable_next h1 hp ha⟩

/-- **semantic core**: isomorphism of the reachable parts ⇔ `JR` is a finality-preserving partial bijection -/
theorem DFA.Iso_iff_RChar (D1 : DFA σ τ) (D2 : DFA σ₂ τ) (h1 : D1.valid = true) (h2 : D2.valid = true)
    (hS : ∀ a, a ∈ D1.Sigma ↔ a ∈ D2.Sigma) : D1.Iso D2 ↔ D1.RChar D2 := by
  constructor
  · rintro ⟨f, hf⟩
    have hf' := hf
    obtain ⟨hinj, _, _, _, _, hfin⟩ := hf'
    refine ⟨?_, ?_, ?_⟩
    · intro p q q' hq hq'
      rw [hf.JR_eq h1 hq, hf.JR_eq h1 hq']
    · intro p p' q hp hp'
      apply hinj p p' (DFA.JR_reachable_left h1 hp) (DFA.JR_reachable_left h1 hp')
      rw [← hf.JR_eq h1 hp, ← hf.JR_eq h1 hp']
    · intro p q hp
      rw [hf.JR_eq h1 hp]
      exact hfin p (DFA.JR_reachable_left h1 hp)
  · rintro ⟨hfun, hinj, hfin⟩
    -- the map read off `JR` (any value on states without a partner)
    obtain ⟨f, hf⟩ := Classical.skolem.mp fun p => show ∃ q', (∃ q, D1.JR D2 p q) → D1.JR D2 p q' from
      (Classical.em (∃ q, D1.JR D2 p q)).elim (fun ⟨q, h⟩ => ⟨q, fun _ => h⟩) fun h => ⟨D2.q0, fun h' => absurd h' h⟩
    refine ⟨f, ?_⟩
    have hval : ∀ p q, D1.JR D2 p q → f p = q :=
      fun p q h => hfun p _ _ (hf p ⟨q, h⟩) h
    have hreach : ∀ p, D1.Reachable p → D1.JR D2 p (f p) := by
      intro p hp
      obtain ⟨w, hw, hp⟩ := (DFA.Reachable_iff h1 p).mp hp
      exact hf p ⟨D2.runT D2.q0 w, w, hw, hp, rfl⟩
    refine ⟨?_, ?_, ?_, ?_, ?_, ?_⟩
    · intro p q hp hq he
      exact hinj p q _ (he ▸ hreach p hp) (hreach q hq)
    · intro p hp
      exact DFA.JR_reachable_left h2 (DFA.JR_symm hS (hreach p hp))
    · intro r hr
      obtain ⟨w, hw, hr⟩ := (DFA.Reachable_iff h2 r).mp hr
      have hw1 : ∀ a, a ∈ w → a ∈ D1.Sigma := fun a ha => (hS a).mpr (hw a ha)
      have hj : D1.JR D2 (D1.runT D1.q0 w) r := ⟨w, hw1, rfl, hr⟩
      exact ⟨_, DFA.JR_reachable_left h1 hj, hval _ _ hj⟩
    · exact hval _ _ (DFA.JR_start D1 D2)
    · intro p a hp ha
      exact hval _ _ (DFA.JR_next (hreach p hp) ha)
    · intro p hp
      exact hfin p _ (hreach p hp)

namespace C20

/-- termination measure of `iso1Loop`: pairs that may still be inserted + pairs waiting -/
def meas1 (prod : List (σ × σ₂)) (M : Dict σ σ₂) (T : List (σ × σ₂)) : Nat :=
  prod.countP (fun e => (M.lookup e.1).isNone && decide (e ∉ T)) + T.length

theorem meas1_sinsert (prod : List (σ × σ₂)) (M : Dict σ σ₂) (T : List (σ × σ₂)) (e : σ × σ₂)
    (he : e ∈ prod) (hM : M.lookup e.1 = none) : meas1 prod M (sinsert T e) ≤ meas1 prod M T := by
  unfold meas1 sinsert
  by_cases hT : e ∈ T
  · rw [if_pos hT]; exact Nat.le_refl _
  · rw [if_neg hT, List.length_append]
    have := countP_lt_of (p := fun e' => (M.lookup e'.1).isNone && decide (e' ∉ T ++ [e]))
      (q := fun e => (M.lookup e.1).isNone && decide (e ∉ T)) (l := prod)
      (by intro x _ hx
          simp only [Bool.and_eq_true, decide_eq_true_eq, List.mem_append, not_or] at hx ⊢
          exact ⟨hx.1, hx.2.1⟩)
      he (by simp [hM, hT]) (by simp)
    simp only [List.length_singleton]
    omega

theorem meas1_pop (prod : List (σ × σ₂)) (M : Dict σ σ₂) (T rest : List (σ × σ₂)) (i : Nat)
    (q1 : σ) (q2 : σ₂) (hp : pickAt T i = some ((q1, q2), rest)) :
    meas1 prod (M.set q1 q2) rest < meas1 prod M T := by
  unfold meas1
  have hl := pickAt_length hp
  have : prod.countP (fun e => ((M.set q1 q2).lookup e.1).isNone && decide (e ∉ rest)) ≤
      prod.countP (fun e => (M.lookup e.1).isNone && decide (e ∉ T)) := by
    apply List.countP_mono_left
    intro x _ hx
    simp only [Bool.and_eq_true, decide_eq_true_eq, Dict.lookup_set] at hx ⊢
    obtain ⟨hx1, hx2⟩ := hx
    by_cases h : x.1 = q1
    · rw [if_pos h] at hx1; simp at hx1
    · rw [if_neg h] at hx1
      refine ⟨hx1, ?_⟩
      intro hxT
      rcases (pickAt_mem_iff hp x).mp hxT with rfl | hr
      · exact h rfl
      · exact hx2 hr
  omega

/-- the inner loop either stops at a successor of `q1` that is matched with something else than the successor of
    `q2`, or returns an extended worklist -/
theorem iso1Inner_spec (D1 : DFA σ τ) (D2 : DFA σ₂ τ) (q1 : σ) (q2 : σ₂) (M : Dict σ σ₂)
    (prod : List (σ × σ₂)) :
    ∀ (as : List τ) (T : List (σ × σ₂)), (∀ a, a ∈ as → (D1.next q1 a, D2.next q2 a) ∈ prod) →
      (iso1Inner D1 D2 q1 q2 M as T = none ∧
        ∃ a, a ∈ as ∧ ∃ m, M.lookup (D1.next q1 a) = some m ∧ D2.next q2 a ≠ m) ∨
      ∃ T', iso1Inner D1 D2 q1 q2 M as T = some T' ∧
        (∀ e, e ∈ T → e ∈ T') ∧
        (∀ e, e ∈ T' → e ∈ T ∨ ∃ a, a ∈ as ∧ e = (D1.next q1 a, D2.next q2 a)) ∧
        (∀ a, a ∈ as → M.lookup (D1.next q1 a) = some (D2.next q2 a) ∨
          (D1.next q1 a, D2.next q2 a) ∈ T') ∧
        meas1 prod M T' ≤ meas1 prod M T := by
  intro as
  induction as with
  | nil =>
    intro T _
    exact Or.inr ⟨T, rfl, fun _ h => h, fun _ h => Or.inl h, nofun, Nat.le_refl _⟩
  | cons a as ih =>
    intro T hprod
    have hprod' : ∀ b, b ∈ as → (D1.next q1 b, D2.next q2 b) ∈ prod :=
      fun b hb => hprod b (List.mem_cons_of_mem _ hb)
    cases hm : M.lookup (D1.next q1 a) with
    | none =>
      simp only [iso1Inner, hm]
      rcases ih _ hprod' with ⟨h, b, hb, hne⟩ | ⟨T', h, i1, i2, i3, i4⟩
      · exact Or.inl ⟨h, b, List.mem_cons_of_mem _ hb, hne⟩
      refine Or.inr ⟨T', h, fun e he => i1 e (mem_sinsert.mpr (Or.inl he)), ?_, ?_,
        Nat.le_trans i4 (meas1_sinsert prod M T _ (hprod a List.mem_cons_self) hm)⟩
      · intro e he
        rcases i2 e he with h' | ⟨b, hb, rfl⟩
        · rcases mem_sinsert.mp h' with h'' | rfl
          · exact Or.inl h''
          · exact Or.inr ⟨a, List.mem_cons_self, rfl⟩
        · exact Or.inr ⟨b, List.mem_cons_of_mem _ hb, rfl⟩
      · intro b hb
        rcases List.mem_cons.mp hb with rfl | hb
        · exact Or.inr (i1 _ (mem_sinsert.mpr (Or.inr rfl)))
        · exact i3 b hb
    | some m =>
      simp only [iso1Inner, hm]
      by_cases hne : D2.next q2 a = m
      · rw [if_neg (not_not_intro hne)]
        rcases ih T hprod' with ⟨h, b, hb, hne'⟩ | ⟨T', h, i1, i2, i3, i4⟩
        · exact Or.inl ⟨h, b, List.mem_cons_of_mem _ hb, hne'⟩
        refine Or.inr ⟨T', h, i1, ?_, ?_, i4⟩
        · intro e he
          rcases i2 e he with h' | ⟨b, hb, rfl⟩
          · exact Or.inl h'
          · exact Or.inr ⟨b, List.mem_cons_of_mem _ hb, rfl⟩
        · intro b hb
          rcases List.mem_cons.mp hb with rfl | hb
          · exact Or.inl (hne ▸ hm)
          · exact i3 b hb
      · rw [if_pos hne]
        exact Or.inl ⟨rfl, a, List.mem_cons_self, m, hm, hne⟩

/-- loop invariant of `iso1Loop` -/
structure Inv1 (D1 : DFA σ τ) (D2 : DFA σ₂ τ) (M : Dict σ σ₂) (I : Dict σ₂ σ)
    (T : List (σ × σ₂)) : Prop where
  todo : ∀ p q, (p, q) ∈ T → D1.JR D2 p q
  mat : ∀ p q, M.lookup p = some q → D1.JR D2 p q ∧ (p ∈ D1.F ↔ q ∈ D2.F)
  inv : ∀ p q, I.lookup q = some p ↔ M.lookup p = some q
  closed : ∀ p q, M.lookup p = some q → ∀ a, a ∈ D1.Sigma →
    M.lookup (D1.next p a) = some (D2.next q a) ∨ (D1.next p a, D2.next q a) ∈ T
  start : M.lookup D1.q0 = some D2.q0 ∨ (D1.q0, D2.q0) ∈ T

theorem Inv1.final {D1 : DFA σ τ} {D2 : DFA σ₂ τ} {M : Dict σ σ₂} {I : Dict σ₂ σ}
    (h : Inv1 D1 D2 M I []) : D1.RChar D2 := by
  have hall : ∀ p q, D1.JR D2 p q → M.lookup p = some q := fun p q hj =>
    DFA.JR_of_closed (fun p q => M.lookup p = some q) (h.start.resolve_right List.not_mem_nil)
      (fun p q hpq a ha => (h.closed p q hpq a ha).resolve_right List.not_mem_nil) hj
  refine ⟨fun p q q' hq hq' => ?_, fun p p' q hp hp' => ?_, fun p q hj => (h.mat p q (hall p q hj)).2⟩
  · exact Option.some.inj ((hall p q hq).symm.trans (hall p q' hq'))
  · exact Option.some.inj (((h.inv p q).mpr (hall p q hp)).symm.trans ((h.inv p' q).mpr (hall p' q hp')))

theorem iso1Loop_succ (D1 : DFA σ τ) (D2 : DFA σ₂ τ) (fuel : Nat) (s : Sched) (st : Iso1State σ σ₂) :
    iso1Loop D1 D2 (fuel + 1) s st =
      match pickAt st.todo s.next.1 with
      | none => .ok true
      | some ((q1, q2), rest) =>
        if (decide (q1 ∈ D1.F) != decide (q2 ∈ D2.F)) = true then .ok false
        else if (st.matching.lookup q1).getD q2 ≠ q2 ∨ (st.inverse.lookup q2).getD q1 ≠ q1 then .ok false
        else
          match iso1Inner D1 D2 q1 q2 (st.matching.set q1 q2) D1.Sigma rest with
          | none => .ok false
          | some todo => iso1Loop D1 D2 fuel s.next.2
              { matching := st.matching.set q1 q2, inverse := st.inverse.set q2 q1, todo := todo } := by
  rfl

theorem Inv1.step {D1 : DFA σ τ} {D2 : DFA σ₂ τ} {M : Dict σ σ₂} {I : Dict σ₂ σ}
    {T rest T' : List (σ × σ₂)} {i : Nat} {q1 : σ} {q2 : σ₂}
    (hinv : Inv1 D1 D2 M I T) (hp : pickAt T i = some ((q1, q2), rest))
    (hF : q1 ∈ D1.F ↔ q2 ∈ D2.F)
    (hM1 : ∀ m, M.lookup q1 = some m → m = q2) (hI1 : ∀ m, I.lookup q2 = some m → m = q1)
    (i1 : ∀ e, e ∈ rest → e ∈ T')
    (i2 : ∀ e, e ∈ T' → e ∈ rest ∨ ∃ a, a ∈ D1.Sigma ∧ e = (D1.next q1 a, D2.next q2 a))
    (i3 : ∀ a, a ∈ D1.Sigma → (M.set q1 q2).lookup (D1.next q1 a) = some (D2.next q2 a) ∨
        (D1.next q1 a, D2.next q2 a) ∈ T') :
    Inv1 D1 D2 (M.set q1 q2) (I.set q2 q1) T' := by
  have hj : D1.JR D2 q1 q2 := hinv.todo _ _ (pickAt_mem hp)
  have L : ∀ p q, (M.set q1 q2).lookup p = some q ↔ M.lookup p = some q ∨ (p = q1 ∧ q = q2) :=
    lookup_set_eq_some hM1
  have L' : ∀ p q, (I.set q2 q1).lookup q = some p ↔ I.lookup q = some p ∨ (p = q1 ∧ q = q2) :=
    fun p q => (lookup_set_eq_some hI1 q p).trans (or_congr_right and_comm)
  -- a pair matched or waiting before the iteration is matched or waiting after it
  have hseen : ∀ p q, M.lookup p = some q ∨ (p, q) ∈ T →
      (M.set q1 q2).lookup p = some q ∨ (p, q) ∈ T' := by
    rintro p q (h | h)
    · exact Or.inl ((L p q).mpr (Or.inl h))
    · rcases (pickAt_mem_iff hp _).mp h with h | h
      · exact Or.inl ((L p q).mpr (Or.inr (Prod.mk.inj h)))
      · exact Or.inr (i1 _ h)
  refine ⟨?_, ?_, ?_, ?_, hseen _ _ hinv.start⟩
  · intro p q he
    rcases i2 _ he with h | ⟨a, ha, h⟩
    · exact hinv.todo p q ((pickAt_mem_iff hp _).mpr (Or.inr h))
    · cases h
      exact DFA.JR_next hj ha
  · intro p q h
    rcases (L p q).mp h with h | ⟨rfl, rfl⟩
    · exact hinv.mat p q h
    · exact ⟨hj, hF⟩
  · intro p q
    rw [L, L', hinv.inv]
  · intro p q h a ha
    rcases (L p q).mp h with h | ⟨rfl, rfl⟩
    · exact hseen _ _ (hinv.closed p q h a ha)
    · exact i3 a ha

theorem iso1Loop_spec (D1 : DFA σ τ) (D2 : DFA σ₂ τ)
    (prod : List (σ × σ₂)) (hprod : ∀ p q, D1.JR D2 p q → (p, q) ∈ prod) :
    ∀ (fuel : Nat) (s : Sched) (st : Iso1State σ σ₂),
      Inv1 D1 D2 st.matching st.inverse st.todo → meas1 prod st.matching st.todo < fuel →
      ∃ b, iso1Loop D1 D2 fuel s st = .ok b ∧ (b = true ↔ D1.RChar D2) := by
  intro fuel
  induction fuel with
  | zero => intro s st _ hm; omega
  | succ fuel ih =>
    intro s st hinv hm
    rw [iso1Loop_succ]
    cases hp : pickAt st.todo s.next.1 with
    | none =>
      have hnil := pickAt_none hp
      rw [hnil] at hinv
      exact ⟨true, rfl, by simp only [true_iff]; exact hinv.final⟩
    | some x =>
      obtain ⟨⟨q1, q2⟩, rest⟩ := x
      simp only []
      have hj : D1.JR D2 q1 q2 := hinv.todo _ _ (pickAt_mem hp)
      by_cases hF : q1 ∈ D1.F ↔ q2 ∈ D2.F
      case neg =>
        rw [if_pos (bne_decide.mpr hF)]
        exact ok_false_iff fun hR => hF (hR.2.2 q1 q2 hj)
      rw [if_neg (mt bne_decide.mp (not_not_intro hF))]
      by_cases hC : (st.matching.lookup q1).getD q2 ≠ q2 ∨ (st.inverse.lookup q2).getD q1 ≠ q1
      · -- `q1` or `q2` already has another partner: `JR` is not functional, resp. not injective
        rw [if_pos hC]
        refine ok_false_iff fun hR => ?_
        rcases hC with hC | hC
        · obtain ⟨m, hl, hne⟩ := getD_ne.mp hC
          exact hne (hR.1 q1 _ _ (hinv.mat q1 m hl).1 hj)
        · obtain ⟨m, hl, hne⟩ := getD_ne.mp hC
          exact hne (hR.2.1 _ _ q2 (hinv.mat m q2 ((hinv.inv m q2).mp hl)).1 hj)
      · rw [if_neg hC]
        have hM1 : ∀ m, st.matching.lookup q1 = some m → m = q2 := fun m hl =>
          Classical.byContradiction fun hne => hC (Or.inl (getD_ne.mpr ⟨m, hl, hne⟩))
        have hI1 : ∀ m, st.inverse.lookup q2 = some m → m = q1 := fun m hl =>
          Classical.byContradiction fun hne => hC (Or.inr (getD_ne.mpr ⟨m, hl, hne⟩))
        rcases iso1Inner_spec D1 D2 q1 q2 (st.matching.set q1 q2) prod D1.Sigma rest
            (fun a ha => hprod _ _ (DFA.JR_next hj ha)) with ⟨hi, a, ha, m, hm', hne⟩ | ⟨T', hi, i1, i2, i3, i4⟩
        · rw [hi]
          refine ok_false_iff fun hR => ?_
          have hj' := DFA.JR_next hj ha
          rcases (lookup_set_eq_some hM1 _ _).mp hm' with hm' | ⟨h, rfl⟩
          · exact hne (hR.1 _ _ _ hj' (hinv.mat _ m hm').1)
          · exact hne (hR.1 q1 _ _ (h ▸ hj') hj)
        · rw [hi]
          refine ih _ _ (hinv.step hp hF hM1 hI1 i1 i2 i3) ?_
          have := meas1_pop prod st.matching st.todo rest s.next.1 q1 q2 hp
          simp only []
          omega

end C20

theorem DFA.isomorphic1_RChar (D1 : DFA σ τ) (D2 : DFA σ₂ τ) (h1 : D1.valid = true)
    (h2 : D2.valid = true) (hS : ∀ a, a ∈ D1.Sigma ↔ a ∈ D2.Sigma) (s : Sched) :
    ∃ b, D1.isomorphic1 D2 s = .ok b ∧ (b = true ↔ D1.RChar D2) := by
  unfold DFA.isomorphic1
  rw [seq_iff.mpr hS, Bool.not_true, if_neg Bool.false_ne_true]
  have hprod : ∀ p q, D1.JR D2 p q → (p, q) ∈ (D1.Q.flatMap fun p => D2.Q.map fun q => (p, q)) :=
    fun p q hj => mem_pairs.mpr (DFA.JR_mem h1 h2 hS hj)
  refine C20.iso1Loop_spec D1 D2 _ hprod _ s _ ⟨?_, ?_, ?_, ?_, Or.inr List.mem_cons_self⟩ ?_
  · intro p q h
    cases List.mem_singleton.mp h
    exact DFA.JR_start D1 D2
  · intro p q h; cases h
  · intro p q; simp
  · intro p q h; cases h
  · unfold C20.meas1
    have := countP_lt_length
      (p := fun e => (List.lookup e.1 ([] : Dict σ σ₂)).isNone && decide (e ∉ [(D1.q0, D2.q0)]))
      (hprod _ _ (DFA.JR_start D1 D2)) (by simp)
    rw [length_pairs] at this
    simp only [List.length_singleton]
    omega

namespace C20

def meas2 (prod : List (σ × σ₂)) (m t : List (σ × σ₂)) : Nat :=
  prod.countP (fun e => decide (e ∉ m)) + t.length

theorem meas2_add (prod : List (σ × σ₂)) (m t : List (σ × σ₂)) (e : σ × σ₂)
    (he : e ∈ prod) (hm : e ∉ m) : meas2 prod (m ++ [e]) (sinsert t e) ≤ meas2 prod m t := by
  unfold meas2
  have h1 := length_sinsert_le t e
  have := countP_lt_of (p := fun e' => decide (e' ∉ m ++ [e])) (q := fun e => decide (e ∉ m)) (l := prod)
    (by intro x _ hx
        simp only [decide_eq_true_eq, List.mem_append, not_or] at hx ⊢
        exact hx.1)
    he (by simp [hm]) (by simp)
  omega

theorem meas2_pop (prod : List (σ × σ₂)) (m t rest : List (σ × σ₂)) (i : Nat) (x : σ × σ₂)
    (hp : pickAt t i = some (x, rest)) : meas2 prod m rest < meas2 prod m t := by
  unfold meas2
  have := pickAt_length hp
  omega

abbrev succP (D1 : DFA σ τ) (D2 : DFA σ₂ τ) (q1 : σ) (q2 : σ₂) (a : τ) : σ × σ₂ :=
  (D1.next q1 a, D2.next q2 a)

/-- the inner loop either stops at a successor pair that differs on finality, or returns extended lists -/
theorem iso2Inner_spec (D1 : DFA σ τ) (D2 : DFA σ₂ τ) (q1 : σ) (q2 : σ₂) (prod : List (σ × σ₂)) :
    ∀ (as : List τ) (m t : List (σ × σ₂)), (∀ a, a ∈ as → succP D1 D2 q1 q2 a ∈ prod) →
      (iso2Inner D1 D2 q1 q2 as m t = none ∧
        ∃ a, a ∈ as ∧ ¬ (D1.next q1 a ∈ D1.F ↔ D2.next q2 a ∈ D2.F)) ∨
      ∃ m' t', iso2Inner D1 D2 q1 q2 as m t = some (m', t') ∧
        (∀ e, e ∈ m → e ∈ m') ∧ (∀ e, e ∈ t → e ∈ t') ∧
        (∀ e, e ∈ m' → e ∈ m ∨ (e ∈ t' ∧ ∃ a, a ∈ as ∧ e = succP D1 D2 q1 q2 a ∧
            (e.1 ∈ D1.F ↔ e.2 ∈ D2.F))) ∧
        (∀ e, e ∈ t' → e ∈ t ∨ e ∈ m') ∧
        (∀ a, a ∈ as → succP D1 D2 q1 q2 a ∈ m') ∧
        meas2 prod m' t' ≤ meas2 prod m t := by
  intro as
  induction as with
  | nil =>
    intro m t _
    exact Or.inr ⟨m, t, rfl, fun _ h => h, fun _ h => h, fun _ h => Or.inl h, fun _ h => Or.inl h, nofun,
      Nat.le_refl _⟩
  | cons a as ih =>
    intro m t hprod
    have hprod' : ∀ b, b ∈ as → succP D1 D2 q1 q2 b ∈ prod :=
      fun b hb => hprod b (List.mem_cons_of_mem _ hb)
    simp only [iso2Inner]
    by_cases hmem : succP D1 D2 q1 q2 a ∈ m
    · rw [if_pos hmem]
      rcases ih m t hprod' with ⟨h, b, hb, hne⟩ | ⟨m', t', h, i1, i2, i3, i4, i5, i6⟩
      · exact Or.inl ⟨h, b, List.mem_cons_of_mem _ hb, hne⟩
      refine Or.inr ⟨m', t', h, i1, i2, ?_, i4, ?_, i6⟩
      · intro e he
        rcases i3 e he with h' | ⟨h', b, hb, h''⟩
        · exact Or.inl h'
        · exact Or.inr ⟨h', b, List.mem_cons_of_mem _ hb, h''⟩
      · intro b hb
        rcases List.mem_cons.mp hb with rfl | hb
        · exact i1 _ hmem
        · exact i5 b hb
    rw [if_neg hmem]
    by_cases hfin : (decide (D1.next q1 a ∈ D1.F) == decide (D2.next q2 a ∈ D2.F)) = true
    · rw [if_pos hfin]
      rcases ih _ _ hprod' with ⟨h, b, hb, hne⟩ | ⟨m', t', h, i1, i2, i3, i4, i5, i6⟩
      · exact Or.inl ⟨h, b, List.mem_cons_of_mem _ hb, hne⟩
      refine Or.inr ⟨m', t', h, fun e he => i1 e (List.mem_append_left _ he),
        fun e he => i2 e (mem_sinsert.mpr (Or.inl he)), ?_, ?_, ?_,
        Nat.le_trans i6 (meas2_add prod m t _ (hprod a List.mem_cons_self) hmem)⟩
      · intro e he
        rcases i3 e he with h' | ⟨h', b, hb, h''⟩
        · rcases List.mem_append.mp h' with h'' | h''
          · exact Or.inl h''
          · cases List.mem_singleton.mp h''
            exact Or.inr ⟨i2 _ (mem_sinsert.mpr (Or.inr rfl)), a, List.mem_cons_self, rfl, beq_decide.mp hfin⟩
        · exact Or.inr ⟨h', b, List.mem_cons_of_mem _ hb, h''⟩
      · intro e he
        rcases i4 e he with h' | h'
        · rcases mem_sinsert.mp h' with h'' | rfl
          · exact Or.inl h''
          · exact Or.inr (i1 _ (List.mem_append_right _ List.mem_cons_self))
        · exact Or.inr h'
      · intro b hb
        rcases List.mem_cons.mp hb with rfl | hb
        · exact i1 _ (List.mem_append_right _ List.mem_cons_self)
        · exact i5 b hb
    · rw [if_neg hfin]
      exact Or.inl ⟨rfl, a, List.mem_cons_self, mt beq_decide.mpr hfin⟩

/-- loop invariant of `iso2Loop` -/
structure Inv2 (D1 : DFA σ τ) (D2 : DFA σ₂ τ) (m t : List (σ × σ₂)) : Prop where
  sub : ∀ p q, (p, q) ∈ m → D1.JR D2 p q ∧ (p ∈ D1.F ↔ q ∈ D2.F)
  todo : ∀ e, e ∈ t → e ∈ m
  start : (D1.q0, D2.q0) ∈ m
  closed : ∀ p q, (p, q) ∈ m → (p, q) ∈ t ∨ ∀ a, a ∈ D1.Sigma → (D1.next p a, D2.next q a) ∈ m

theorem Inv2.final {D1 : DFA σ τ} {D2 : DFA σ₂ τ} {m : List (σ × σ₂)} (h : Inv2 D1 D2 m []) :
    (∀ p q, (p, q) ∈ m ↔ D1.JR D2 p q) ∧ ∀ p q, D1.JR D2 p q → (p ∈ D1.F ↔ q ∈ D2.F) := by
  have hall : ∀ p q, D1.JR D2 p q → (p, q) ∈ m := fun p q hj =>
    DFA.JR_of_closed (fun p q => (p, q) ∈ m) h.start
      (fun p q hpq a ha => (h.closed p q hpq).resolve_left List.not_mem_nil a ha) hj
  exact ⟨fun p q => ⟨fun hm => (h.sub p q hm).1, hall p q⟩, fun p q hj => (h.sub p q (hall p q hj)).2⟩

theorem iso2Loop_succ (D1 : DFA σ τ) (D2 : DFA σ₂ τ) (fuel : Nat) (s : Sched)
    (m t : List (σ × σ₂)) :
    iso2Loop D1 D2 (fuel + 1) s m t =
      match pickAt t s.next.1 with
      | none => .ok (some m)
      | some ((q1, q2), rest) =>
        match iso2Inner D1 D2 q1 q2 D1.Sigma m rest with
        | none => .ok none
        | some (m', t') => iso2Loop D1 D2 fuel s.next.2 m' t' := by
  rfl

/-- what `iso2Loop` returns -/
def Post2 (D1 : DFA σ τ) (D2 : DFA σ₂ τ) : Option (List (σ × σ₂)) → Prop
  | none => ∃ p q, D1.JR D2 p q ∧ ¬ (p ∈ D1.F ↔ q ∈ D2.F)
  | some m => (∀ p q, (p, q) ∈ m ↔ D1.JR D2 p q) ∧ ∀ p q, D1.JR D2 p q → (p ∈ D1.F ↔ q ∈ D2.F)

theorem iso2Loop_spec (D1 : DFA σ τ) (D2 : DFA σ₂ τ)
    (prod : List (σ × σ₂)) (hprod : ∀ p q, D1.JR D2 p q → (p, q) ∈ prod) :
    ∀ (fuel : Nat) (s : Sched) (m t : List (σ × σ₂)),
      Inv2 D1 D2 m t → meas2 prod m t < fuel →
      ∃ r, iso2Loop D1 D2 fuel s m t = .ok r ∧ Post2 D1 D2 r := by
  intro fuel
  induction fuel with
  | zero => intro s m t _ hm; omega
  | succ fuel ih =>
    intro s m t hinv hm
    rw [iso2Loop_succ]
    cases hp : pickAt t s.next.1 with
    | none =>
      have hnil := pickAt_none hp
      rw [hnil] at hinv
      exact ⟨some m, rfl, hinv.final⟩
    | some x =>
      obtain ⟨⟨q1, q2⟩, rest⟩ := x
      simp only []
      have hmem : (q1, q2) ∈ m := hinv.todo _ (pickAt_mem hp)
      have hj : D1.JR D2 q1 q2 := (hinv.sub _ _ hmem).1
      rcases iso2Inner_spec D1 D2 q1 q2 prod D1.Sigma m rest (fun a ha => hprod _ _ (DFA.JR_next hj ha)) with
        ⟨hi, a, ha, hne⟩ | ⟨m', t', hi, i1, i2, i3, i4, i5, i6⟩
      · rw [hi]
        exact ⟨none, rfl, _, _, DFA.JR_next hj ha, hne⟩
      · rw [hi]
        apply ih
        · refine ⟨?_, ?_, ?_, ?_⟩
          · intro p q he
            rcases i3 _ he with h | ⟨_, a, ha, h, hfin⟩
            · exact hinv.sub p q h
            · cases h
              exact ⟨DFA.JR_next hj ha, hfin⟩
          · intro e he
            rcases i4 e he with h | h
            · exact i1 e (hinv.todo e ((pickAt_mem_iff hp e).mpr (Or.inr h)))
            · exact h
          · exact i1 _ hinv.start
          · intro p q he
            rcases i3 _ he with h | ⟨h, _⟩
            · rcases hinv.closed p q h with h' | h'
              · rcases (pickAt_mem_iff hp _).mp h' with h'' | h''
                · cases h''
                  exact Or.inr i5
                · exact Or.inl (i2 _ h'')
              · exact Or.inr (fun a ha => i1 _ (h' a ha))
            · exact Or.inl h
        · have := meas2_pop prod m t rest s.next.1 _ hp
          omega

end C20

theorem DFA.isomorphic_RChar (D1 : DFA σ τ) (D2 : DFA σ₂ τ) (h1 : D1.valid = true)
    (h2 : D2.valid = true) (hS : ∀ a, a ∈ D1.Sigma ↔ a ∈ D2.Sigma) (s : Sched) :
    ∃ b, D1.isomorphic D2 s = .ok b ∧ (b = true ↔ D1.RChar D2) := by
  unfold DFA.isomorphic
  rw [seq_iff.mpr hS, Bool.not_true, if_neg Bool.false_ne_true]
  by_cases hF : D1.q0 ∈ D1.F ↔ D2.q0 ∈ D2.F
  case neg =>
    rw [if_pos (C20.bne_decide.mpr hF)]
    exact C20.ok_false_iff fun hR => hF (hR.2.2 _ _ (DFA.JR_start D1 D2))
  rw [if_neg (mt C20.bne_decide.mp (not_not_intro hF))]
  have hprod : ∀ p q, D1.JR D2 p q → (p, q) ∈ (D1.Q.flatMap fun p => D2.Q.map fun q => (p, q)) :=
    fun p q hj => mem_pairs.mpr (DFA.JR_mem h1 h2 hS hj)
  have hinv : C20.Inv2 D1 D2 [(D1.q0, D2.q0)] [(D1.q0, D2.q0)] := by
    refine ⟨?_, fun _ h => h, List.mem_cons_self, fun _ _ h => Or.inl h⟩
    intro p q h
    cases List.mem_singleton.mp h
    exact ⟨DFA.JR_start D1 D2, hF⟩
  have hmeas : C20.meas2 (D1.Q.flatMap fun p => D2.Q.map fun q => (p, q))
      [(D1.q0, D2.q0)] [(D1.q0, D2.q0)] < D1.Q.length * D2.Q.length + 1 := by
    unfold C20.meas2
    have := countP_lt_length (p := fun e => decide (e ∉ [(D1.q0, D2.q0)]))
      (hprod _ _ (DFA.JR_start D1 D2)) (by simp)
    rw [length_pairs] at this
    simp only [List.length_singleton]
    omega
  obtain ⟨r, hr, hpost⟩ := C20.iso2Loop_spec D1 D2 _ hprod _ s _ _ hinv hmeas
  rw [hr]
  cases r with
  | none =>
    obtain ⟨p, q, hj, hne⟩ := hpost
    exact C20.ok_false_iff fun hR => hne (hR.2.2 p q hj)
  | some m =>
    -- `dedup m` lists `JR` without repetition: "at most one partner" is functionality / injectivity of `JR`
    obtain ⟨hm, hfin⟩ := hpost
    refine ⟨_, rfl, ?_⟩
    have hmd : ∀ p q, (p, q) ∈ dedup m ↔ D1.JR D2 p q := fun p q => by rw [mem_dedup]; exact hm p q
    simp only [Bool.and_eq_true, List.all_eq_true, decide_eq_true_eq,
      C20.filter_length_le_one _ (nodup_dedup m), Prod.forall, hmd]
    constructor
    · rintro ⟨H1, H2⟩
      refine ⟨?_, ?_, hfin⟩
      · intro p q q' hq hq'
        exact (Prod.mk.inj (H1 p (DFA.JR_mem h1 h2 hS hq).1 p q p q' hq rfl hq' rfl)).2
      · intro p p' q hp hp'
        exact (Prod.mk.inj (H2 q (DFA.JR_mem h1 h2 hS hp).2 p q p' q hp rfl hp' rfl)).1
    · rintro ⟨hfun, hinj, _⟩
      constructor
      · rintro q1 _ x1 x2 y1 y2 hx rfl hy rfl
        rw [hfun _ _ _ hx hy]
      · rintro q2 _ x1 x2 y1 y2 hx rfl hy rfl
        rw [hinj _ _ _ hx hy]

/-! ### concrete automata for the non-vacuity examples of Props/C20 -/
namespace C20

/-- a 2-cycle over {a}, both states accepting: accepts a* -/
def exCyc : DFA String String :=
  { Q := ["p", "q"], Sigma := ["a"], delta := [(("p", "a"), "q"), (("q", "a"), "p")], q0 := "p", F := ["p", "q"] }

/-- one accepting state with a loop: accepts a* as well -/
def exOne : DFA String String :=
  { Q := ["r"], Sigma := ["a"], delta := [(("r", "a"), "r")], q0 := "r", F := ["r"] }

/-- words over {a,b} ending in `a` -/
def exA : DFA String String :=
  { Q := ["p", "q"], Sigma := ["a", "b"],
    delta := [(("p", "a"), "q"), (("p", "b"), "p"), (("q", "a"), "q"), (("q", "b"), "p")],
    q0 := "p", F := ["q"] }

/-- a renamed copy of `exA` (alphabet listed in another order) with an extra unreachable state `z` -/
def exB : DFA String String :=
  { Q := ["z", "y", "x"], Sigma := ["b", "a"],
    delta := [(("z", "a"), "x"), (("z", "b"), "z"), (("x", "a"), "y"), (("x", "b"), "x"),
              (("y", "a"), "y"), (("y", "b"), "x")],
    q0 := "x", F := ["y", "z"] }

theorem exCyc_valid : exCyc.valid = true := by decide
theorem exOne_valid : exOne.valid = true := by decide
theorem exA_valid : exA.valid = true := by decide
theorem exB_valid : exB.valid = true := by decide
theorem exCycOne_sigma : ∀ a, a ∈ exCyc.Sigma ↔ a ∈ exOne.Sigma := fun _ => Iff.rfl
theorem exAB_sigma : ∀ a, a ∈ exA.Sigma ↔ a ∈ exB.Sigma := by
  intro a; simp only [exA, exB, List.mem_cons, List.not_mem_nil, or_false]; exact Or.comm
theorem exRename_inj : ∀ p q : String, p ∈ exA.Q → q ∈ exA.Q → p ++ "'" = q ++ "'" → p = q :=
  fun _ _ _ _ h => (String.append_left_inj "'").mp h

/-- `exA` and `exB` (renamed, alphabet reordered, one extra unreachable accepting state) are isomorphic -/
theorem exAB_iso : exA.Iso exB := by
  obtain ⟨b, hb, hiff⟩ := DFA.isomorphic1_RChar exA exB exA_valid exB_valid exAB_sigma []
  have hrun : exA.isomorphic1 exB [] = .ok true := rfl
  rw [hrun] at hb
  exact (DFA.Iso_iff_RChar exA exB exA_valid exB_valid exAB_sigma).mpr
    (hiff.mp (Except.ok.inj hb).symm)

/-- equal languages (both accept `a*`) do not make the 2-cycle and the 1-loop isomorphic -/
theorem exCycOne_not_iso : ¬ exCyc.Iso exOne := by
  obtain ⟨b, hb, hiff⟩ := DFA.isomorphic1_RChar exCyc exOne exCyc_valid exOne_valid exCycOne_sigma []
  have hrun : exCyc.isomorphic1 exOne [] = .ok false := rfl
  rw [hrun] at hb
  intro h
  have := hiff.mpr ((DFA.Iso_iff_RChar exCyc exOne exCyc_valid exOne_valid exCycOne_sigma).mp h)
  rw [← Except.ok.inj hb] at this
  cases this

end C20

end Gamba
