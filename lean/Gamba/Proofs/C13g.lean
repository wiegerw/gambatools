/-
  Gamba.Proofs.C13g — helpers for the TEXT-level version of "the answer key of the Chomsky exercise passes
  `cfg_check_chomsky`": the check only looks at the answer-key grammar through its start variable, the SET of its
  productions (structural tests) and its language (enumeration), so the grammar that comes back from
  `parse_simple_cfg (cfg_print_simple G1)` — same productions in another order, renumbered alternatives, `V` and `Σ`
  rebuilt from the rules — gets the same verdict as `G1`.
-/
import Gamba.Proofs.C12c
import Gamba.Props.C16e
import Gamba.Proofs.C13a
namespace Gamba
namespace C13g
open CFG Check

theorem all_rules_congr {G1 G' : CFG} (hR : ∀ A rhs, G'.HasRule A rhs ↔ G1.HasRule A rhs) (p : String → List Sym → Bool) :
    (G'.R.all fun r => p r.lhs r.rhs) = (G1.R.all fun r => p r.lhs r.rhs) := by
  -- a test on `(lhs, rhs)` sees a rule list through the list of these pairs, and the two lists have the same members
  have := all_congr_mem (fun x => hasRule_iff_pair.symm.trans ((hR x.1 x.2).trans hasRule_iff_pair)) fun x => p x.1 x.2
  rwa [List.all_map, List.all_map] at this

/-- the structural part of `cfg_check_chomsky` is insensitive to the order, multiplicity and `aid`s of the rules
    (and does not look at `V`, `Σ`) -/
theorem chomskyStruct_congr {G1 G' : CFG} (hS : G'.S = G1.S) (hR : ∀ A rhs, G'.HasRule A rhs ↔ G1.HasRule A rhs)
    (phase : Nat) (start : String) :
    C13a.chomskyStruct G' phase start = C13a.chomskyStruct G1 phase start := by
  have e3 : (G'.R.all fun r => !CFG.isUnit r) = (G1.R.all fun r => !CFG.isUnit r) :=
    all_rules_congr hR fun _ rhs => !CFG.unitRhs rhs
  unfold C13a.chomskyStruct
  rw [hS, e3, all_rules_congr hR fun A rhs => !(rhs.isEmpty && decide (A ≠ G1.S)),
    all_rules_congr hR fun _ rhs => decide (rhs.length ≤ 2), all_rules_congr hR fun _ rhs => CFG.altIsChomsky rhs]

theorem isLower1_S_append (x : String) : CfgText.isLower1 ("S" ++ x) = false := by
  unfold CfgText.isLower1
  rw [String.toList_append]
  have : "S".toList = ['S'] := rfl
  rw [this]
  cases x.toList with
  | nil => rfl
  | cons c l => rfl

theorem isLower1_upperLetters : ∀ x, x ∈ upperLetters → CfgText.isLower1 x = false := by decide

theorem freshIndexed_S (V : List String) (fuel i : Nat) : ∃ x, freshIndexed V "S" fuel i = "S" ++ x :=
  (freshStateAux_eq V "S" fuel i).elim fun j h => ⟨toString j, (CFG.freshIndexed_eq V "S" fuel i).trans h⟩

/-- the start variable that `cfg_to_chomsky` adds is never a single lower-case letter -/
theorem isLower1_freshVariable_S (V : List String) : CfgText.isLower1 (freshVariable V "S") = false := by
  have hS : CfgText.isLower1 "S" = false := rfl
  unfold freshVariable
  simp only
  split
  · split
    · obtain ⟨x, hx⟩ := freshIndexed_S V (V.length + 1) 0
      rw [hx]; exact isLower1_S_append x
    · exact hS
  · split
    · exact hS
    · cases hf : upperLetters.find? (fun x => decide (x ∉ V)) with
      | none => exact hS
      | some y => exact isLower1_upperLetters y (List.mem_of_find?_eq_some hf)

theorem not_lower_of_upper {a : String} (hu : CfgText.isUpper1 a = true) : CfgText.isLower1 a = false := by
  unfold CfgText.isUpper1 at hu
  unfold CfgText.isLower1
  split at hu
  · rename_i c hc
    exact Text.isLower_of_isUpper hu
  · cases hu

/-- `CFG.Apart H "S"`, the side condition of `cfg_words_exact_side`, holds of a grammar in the simple format -/
theorem terminals_fresh_of_isSimple {H : CFG} (hs : CfgText.isSimple H = true) :
    ∀ a, a ∈ H.Sigma → a ∉ H.V ∧ a ≠ freshVariable H.V "S" := by
  simp only [CfgText.isSimple, Bool.and_eq_true, List.all_eq_true] at hs
  intro a ha
  have hl := hs.2 a ha
  constructor
  · intro hV
    rw [not_lower_of_upper (hs.1 a hV)] at hl
    cases hl
  · intro e
    rw [e, isLower1_freshVariable_S] at hl
    cases hl

theorem isSimple_congr {G1 G' : CFG} (hV : ∀ A, A ∈ G'.V ↔ A ∈ G1.V) (hSig : ∀ a, a ∈ G'.Sigma ↔ a ∈ G1.Sigma) :
    CfgText.isSimple G' = CfgText.isSimple G1 := by
  unfold CfgText.isSimple
  rw [all_congr_mem hV, all_congr_mem hSig]

/-- `cfg_words_up_to_n` is exact on every grammar that `parse_simple_cfg` returns and that is in the simple format
    (single upper-case variables, single lower-case terminals) -/
theorem words_parsed_simple {text : List Char} {G' : CFG} {e : String}
    (h : CfgText.parseSimpleCfg text = .ok (G', e)) (hs : CfgText.isSimple G' = true) (n : Nat) (w : List String) :
    w ∈ G'.wordsUpTo n ↔ w.length ≤ n ∧ G'.Lang w := by
  have p := CfgText.parsedCfg_of h
  exact cfg_words_exact_side p.valid p.start (.inr (terminals_fresh_of_isSimple hs)) n w

theorem chomsky_of_parse {cfg answer : String} {G G' : CFG} {e e' : String}
    (h1 : CfgText.parseSimpleCfg cfg.toList = .ok (G, e)) (h2 : CfgText.parseSimpleCfg answer.toList = .ok (G', e'))
    (phase : Nat) (start : String) (len : Nat) :
    CheckText.chomsky cfg answer phase start len = CheckText.ofBool (chomskyCheck G G' phase start len) := by
  unfold CheckText.chomsky
  rw [h1, h2]

/-- the check of the RE-PARSED answer key `G'` of `G1` equals the check of `G1`, as soon as both enumerations
    are exact -/
theorem chomskyCheck_congr {G G1 G' : CFG} (hS : G'.S = G1.S)
    (hR : ∀ A rhs, (∃ r, r ∈ G'.R ∧ r.lhs = A ∧ r.rhs = rhs) ↔ (∃ r, r ∈ G1.R ∧ r.lhs = A ∧ r.rhs = rhs))
    (len : Nat)
    (h1 : ∀ w, w ∈ G1.wordsUpTo len ↔ w.length ≤ len ∧ G1.Lang w)
    (h' : ∀ w, w ∈ G'.wordsUpTo len ↔ w.length ≤ len ∧ G'.Lang w)
    (phase : Nat) (start : String) :
    chomskyCheck G G' phase start len = chomskyCheck G G1 phase start len := by
  rw [C13a.chomskyCheck_eq, C13a.chomskyCheck_eq, chomskyStruct_congr hS hR]
  congr 1
  apply C12a.compare_congr
  · intro w
    rw [h1, h', lang_congr hS hR]
  · intro w; exact Iff.rfl

/-- core: the answer key `G1` is printable, passes the structural tests and has the language of `G`; `V` and `Σ` of
    `G` are contained in those of `G1` (so that `G` is in the simple format too) -/
theorem chomsky_text_core {cfg : String} {G : CFG} {e : String} (hp : CfgText.parseSimpleCfg cfg.toList = .ok (G, e))
    {G1 : CFG} (phase : Nat) (start : String) (len : Nat)
    (hstruct : C13a.chomskyStruct G1 phase start = true) (hlang : ∀ w, G1.Lang w ↔ G.Lang w)
    (hV : ∀ A, A ∈ G.V → A ∈ G1.V) (hSig : ∀ a, a ∈ G.Sigma → a ∈ G1.Sigma)
    (hpr : CfgText.Printable G1) {key : String} (hk : CfgText.printSimpleCfg G1 = .ok key) :
    CheckText.chomsky cfg key phase start len = .ok := by
  obtain ⟨text, G', eps, hprint, hparse, sV, sSig, sS, sR, _⟩ := parse_print_cfg _ hpr
  rw [hk] at hprint
  cases hprint
  rw [chomsky_of_parse hp hparse, C12c.ofBool_ok_iff, C13a.chomskyCheck_eq, chomskyStruct_congr sS sR,
    hstruct, Bool.and_true, C12a.compare_isNone_iff]
  intro w
  have hs' : CfgText.isSimple G' = true := by rw [isSimple_congr sV sSig]; exact hpr.simple
  have hsG : CfgText.isSimple G = true := by
    have hs := hpr.simple
    simp only [CfgText.isSimple, Bool.and_eq_true, List.all_eq_true] at hs ⊢
    exact ⟨fun A hA => hs.1 A (hV A hA), fun a h => hs.2 a (hSig a h)⟩
  rw [words_parsed_simple hparse hs' len w, lang_congr sS sR, hlang, words_parsed_simple hp hsG len w]

/-- every hypothesis on names follows from `Printable`: only `start ∉ G.V` is left -/
theorem chomsky_text_self {cfg : String} {G : CFG} {e : String} (hp : CfgText.parseSimpleCfg cfg.toList = .ok (G, e))
    (phase : Nat) (start : String) (len : Nat) (hstart : start ∉ G.V)
    (hpr : CfgText.Printable (G.applyChomsky phase start))
    {key : String} (hk : CfgText.printSimpleCfg (G.applyChomsky phase start) = .ok key) :
    CheckText.chomsky cfg key phase start len = .ok := by
  obtain ⟨hv, hS, _, _, _⟩ := CfgText.parsedCfg_of hp
  by_cases h0 : phase = 0
  · subst h0
    rw [C08d.applyChomsky_0] at hpr hk
    exact chomsky_text_core hp 0 start len (by simp [C13a.chomskyStruct]) (fun _ => Iff.rfl) (fun _ h => h)
      (fun _ h => h) hpr hk
  · have hA := after_applyChomsky G phase start hv hS
    have hs := hpr.simple
    simp only [CfgText.isSimple, Bool.and_eq_true, List.all_eq_true] at hs
    -- a terminal is lower-case in the printable key, a variable of the key (old, or the new start variable) upper-case
    have hd : ∀ a, a ∈ G.Sigma → a ∉ G.V ∧ a ≠ freshVariable G.V start := by
      intro a haS
      have hl := hs.2 a (hA.Sigma.symm ▸ haS)
      refine ⟨fun hV => ?_, fun e => ?_⟩
      · rw [not_lower_of_upper (hs.1 a (hA.V a hV))] at hl
        cases hl
      · rw [not_lower_of_upper (hs.1 a (by rw [e, ← hA.S (by omega)]; exact hA.S_mem))] at hl
        cases hl
    exact chomsky_text_core hp phase start len (C13a.chomskyStruct_self G phase start hv hS hd hstart)
      (hA.lang fun _ => hd) hA.V (fun a h => hA.Sigma.symm ▸ h) hpr hk

/-! ### a Boolean test for `Printable` (for the examples) -/

def printableB (G : CFG) : Bool :=
  CfgText.isSimple G && G.valid && (G.V.all fun A => G.R.any fun r => decide (r.lhs = A)) &&
  (match G.R with | r :: _ => decide (r.lhs = G.S) | [] => false) &&
  (G.Sigma.all fun a => G.R.any fun r => decide (Sym.t a ∈ r.rhs))

theorem printable_of_printableB {G : CFG} (h : printableB G = true) : CfgText.Printable G := by
  simp only [printableB, Bool.and_eq_true, List.all_eq_true, List.any_eq_true, decide_eq_true_eq] at h
  obtain ⟨⟨⟨⟨h1, h2⟩, h3⟩, h4⟩, h5⟩ := h
  refine ⟨h1, h2, h3, ?_, h5⟩
  split at h4
  · rename_i r rs hR
    exact ⟨r, rs, hR, of_decide_eq_true h4⟩
  · cases h4

end C13g
end Gamba
