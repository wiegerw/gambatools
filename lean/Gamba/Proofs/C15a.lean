/-
  Gamba.Proofs.C15a — `dfa_simulate_word` / `nfa_simulate_word` produce genuine traces
  (helper lemmas for Gamba.Props.C15a).
-/
import Gamba.Proofs.DFABasic
import Gamba.Proofs.TraceGlue
import Gamba.Proofs.C01
namespace Gamba

section
variable {σ τ : Type} [DecidableEq σ] [DecidableEq τ]

theorem DFA.simulateFrom_spec {D : DFA σ τ} (hv : D.valid = true) (w : List τ)
    (hw : ∀ a, a ∈ w → a ∈ D.Sigma) : ∀ q, q ∈ D.Q →
    ∃ tr, D.simulateFrom q w = .ok tr ∧ TraceFrom D.TraceStep (· = some (D.runT q w, [])) (q, w) tr ∧
      tr.length = w.length + 1 := by
  induction w with
  | nil =>
    intro q _
    exact ⟨[(q, [])], rfl, ⟨rfl, ChainOf.single _, rfl⟩, rfl⟩
  | cons a w ih =>
    intro q hq
    have ha := hw a List.mem_cons_self
    obtain ⟨rest, hrest, htr, hlen⟩ :=
      ih (fun b hb => hw b (List.mem_cons_of_mem _ hb)) (D.next q a) (DFA.valid_next_mem hv hq ha)
    refine ⟨(q, a :: w) :: rest, ?_, htr.cons ⟨a, rfl, DFA.valid_lookup_next hv hq ha⟩, by simp [hlen]⟩
    simp only [DFA.simulateFrom, DFA.step_eq_ok hv hq ha]
    show (do let rest ← D.simulateFrom (D.next q a) w; pure ((q, a :: w) :: rest)) = _
    rw [hrest]
    rfl

theorem NFA.mem_doTransition (N : NFA σ τ) (a : τ) (R : List σ) (q : σ) :
    q ∈ N.doTransition a R ↔ ∃ p, p ∈ R ∧ N.Succ p a q :=
  N.mem_moveSet R a q

theorem NFA.findEpsPath_complete {N : NFA σ τ} (hv : N.valid = true) (s : Sched) (S : List σ) (f : σ)
    (h : N.EpsReach S f) :
    ∃ p, N.findEpsPath s S f = .ok (some p) ∧ IsPath (fun q => N.succ q N.eps) S f p := by
  unfold NFA.findEpsPath
  apply findPath_complete _ s S f (N.Q ++ S)
  · exact fun x hx => NFA.reach_eps_mem hv hx
  · rw [List.length_append]; exact Nat.le_refl _
  · exact NFA.EpsReach_iff_Reach.mp h

theorem NFA.findEpsPath_total {N : NFA σ τ} (hv : N.valid = true) (s : Sched) (S : List σ) (f : σ) :
    ∃ r, N.findEpsPath s S f = .ok r := by
  unfold NFA.findEpsPath
  apply findPath_total _ s S f (N.Q ++ S)
  · exact fun x hx => NFA.reach_eps_mem hv hx
  · rw [List.length_append]; exact Nat.le_refl _

theorem NFA.findTransition_spec {N : NFA σ τ} {R : List σ} {a : τ} {t : σ}
    (h : ∃ p, p ∈ R ∧ N.Succ p a t) : ∃ src, N.findTransition R a t = some src ∧ src ∈ R ∧ N.Succ src a t := by
  obtain ⟨p, hp, hs⟩ := h
  unfold NFA.findTransition
  cases hf : R.find? fun src => decide (t ∈ N.succ src a) with
  | some src =>
    have := List.find?_some hf
    exact ⟨src, rfl, List.mem_of_find?_eq_some hf, (N.mem_succ_iff _ _ _).mp (of_decide_eq_true this)⟩
  | none =>
    exact absurd (decide_eq_true ((N.mem_succ_iff _ _ _).mpr hs)) (List.find?_eq_none.mp hf p hp)

/-- `HistOK N rev H C`: `H` is the history below the closed set `C`, for the symbols `rev` still to be undone -/
inductive NFA.HistOK (N : NFA σ τ) : List τ → List (List σ) → List σ → Prop
  | base {C : List σ} : (∀ q, q ∈ C → N.EpsReach [N.q0] q) → NFA.HistOK N [] [[N.q0]] C
  | step {a : τ} {rev : List τ} {S1 S2 C : List σ} {H : List (List σ)} :
      a ≠ N.eps → (∀ q, q ∈ C → N.EpsReach S1 q) → (∀ q, q ∈ S1 → ∃ p, p ∈ S2 ∧ N.Succ p a q) →
      NFA.HistOK N rev H S2 → NFA.HistOK N (a :: rev) (S1 :: S2 :: H) C

/-- the forward pass builds a history below the set of states reached over the word read (`NFA.Reached`) -/
theorem NFA.history_spec {N : NFA σ τ} (hv : N.valid = true) (s : Sched) (w : List τ)
    (hw : ∀ a, a ∈ w → a ≠ N.eps) :
    ∀ (rev u : List τ) (R : List σ) (Hr : List (List σ)), N.HistOK rev Hr R → N.Reached (· ∈ R) u →
      ∃ C Hr', N.history s w R (R :: Hr) = .ok (C :: Hr') ∧ N.HistOK (w.reverse ++ rev) Hr' C ∧
        N.Reached (· ∈ C) (u ++ w) := by
  induction w with
  | nil =>
    intro rev u R Hr hok hR
    exact ⟨R, Hr, rfl, hok, (List.append_nil u).symm ▸ hR⟩
  | cons a w ih =>
    intro rev u R Hr hok hR
    have ha : a ≠ N.eps := hw a List.mem_cons_self
    have hok' : N.HistOK (a :: rev) (N.doTransition a R :: R :: Hr) (N.closureT s (N.doTransition a R)) :=
      NFA.HistOK.step ha (fun q hq => (NFA.mem_closureT hv s _ q).mp hq)
        (fun q hq => (N.mem_doTransition a R q).mp hq) hok
    obtain ⟨C, Hr', hh, hok'', hC⟩ :=
      ih (fun b hb => hw b (List.mem_cons_of_mem _ hb)) (a :: rev) (u ++ [a]) _ _ hok'
        (hR.step ha fun x => (NFA.mem_closureT hv s _ x).trans NFA.epsReach_moveSet_iff)
    refine ⟨C, Hr', ?_, ?_, ?_⟩
    · simp only [NFA.history, NFA.closure_eq_ok hv]
      exact hh
    · rwa [List.reverse_cons, List.append_assoc]
    · rwa [List.append_cons]

/-- invariant of `result` in `rebuild` -/
def NFA.ResInv (N : NFA σ τ) (front : σ) (word : List τ) (result : List (σ × List τ)) : Prop :=
  result.head? = some (front, word) ∧ ChainOf N.TraceStep result ∧
    ∃ f, result.getLast? = some (f, []) ∧ f ∈ N.F

/-- `ResInv` is the invariant `TraceFrom` of `Gamba.Proofs.TraceGlue` for NFA rows ending in an accepting state with
    nothing unread: prepending an ε-path ending in `front` keeps it, with the start of the path as new front -/
theorem NFA.ResInv.extend {N : NFA σ τ} {S : List σ} {front : σ} {word : List τ} {result : List (σ × List τ)}
    {p : List σ} (hp : IsPath (fun q => N.succ q N.eps) S front p) (hr : N.ResInv front word result) :
    p.headD front ∈ S ∧ N.ResInv (p.headD front) word (p.dropLast.map (fun r => (r, word)) ++ result) :=
  TraceFrom.glue (L := fun o => ∃ f, o = some (f, []) ∧ f ∈ N.F) (fun r => (r, word))
    (fun _ _ hab => Or.inl ⟨rfl, (N.mem_succ_iff _ _ _).mp hab⟩) hp hr

theorem NFA.rebuild_spec {N : NFA σ τ} (hv : N.valid = true) (s : Sched) {rev : List τ} {H : List (List σ)}
    {C : List σ} (hok : N.HistOK rev H C) :
    ∀ (front : σ) (word : List τ) (result : List (σ × List τ)), front ∈ C → N.ResInv front word result →
      ∃ tr, N.rebuild s rev H front word result = .ok tr ∧ N.ResInv N.q0 (rev.reverse ++ word) tr := by
  induction hok with
  | @base C hC =>
    intro front word result hfront hres
    obtain ⟨p, hp, hpath⟩ := NFA.findEpsPath_complete hv s [N.q0] front (hC front hfront)
    obtain ⟨hmem, hinv⟩ := hres.extend hpath
    refine ⟨p.dropLast.map (fun r => (r, word)) ++ result, ?_, ?_⟩
    · simp only [NFA.rebuild, hp]
      rfl
    · rw [List.mem_singleton] at hmem
      rw [hmem] at hinv
      exact hinv
  | @step a rev S1 S2 C H ha hC hS1 _ ih =>
    intro front word result hfront hres
    obtain ⟨p, hp, hpath⟩ := NFA.findEpsPath_complete hv s S1 front (hC front hfront)
    obtain ⟨hmem, hinv⟩ := hres.extend hpath
    obtain ⟨front2, hft, hf2, hsucc⟩ := NFA.findTransition_spec (hS1 _ hmem)
    have hinv2 : N.ResInv front2 (a :: word)
        ((front2, a :: word) :: (p.dropLast.map (fun r => (r, word)) ++ result)) :=
      TraceFrom.cons (L := fun o => ∃ f, o = some (f, []) ∧ f ∈ N.F) hinv (Or.inr ⟨a, rfl, ha, hsucc⟩)
    obtain ⟨tr, htr, htinv⟩ := ih front2 (a :: word) _ hf2 hinv2
    refine ⟨tr, ?_, ?_⟩
    · simp only [NFA.rebuild, hp]
      show (match N.findTransition S2 a (p.headD front) with
        | none => Except.error Err.runtimeError
        | some front2 => N.rebuild s rev H front2 (a :: word)
            ((front2, a :: word) :: (p.dropLast.map (fun r => (r, word)) ++ result))) = _
      rw [hft]
      exact htr
    · have : (a :: rev).reverse ++ word = rev.reverse ++ a :: word := by simp
      rw [this]; exact htinv

/-- everything about `simulate` at once: it returns (no fuel / key / runtime error), what it returns is a valid trace,
    and it returns a trace exactly for the accepted words -/
theorem NFA.simulate_spec {N : NFA σ τ} (hv : N.valid = true) (s : Sched) (w : List τ)
    (hw : ∀ a, a ∈ w → a ∈ N.Sigma) :
    ∃ r, N.simulate s w = .ok r ∧ (∀ tr, r = some tr → N.ValidTrace w tr) ∧ (r.isSome = true ↔ N.Accepts w) := by
  have hw' : ∀ a, a ∈ w → a ≠ N.eps := fun a ha => NFA.valid_ne_eps hv (hw a ha)
  have hok0 : N.HistOK [] [[N.q0]] (N.closureT s [N.q0]) :=
    NFA.HistOK.base (fun q hq => (NFA.mem_closureT hv s _ q).mp hq)
  obtain ⟨C, Hr, hh, hok, hC'⟩ := NFA.history_spec hv s w hw' [] [] _ _ hok0
    fun q => (NFA.mem_closureT hv s _ q).trans (NFA.Reached.init N q)
  rw [List.append_nil] at hok
  have hsim : N.simulate s w = (match pickAt (C.filter fun r => decide (r ∈ N.F)) s.next.1 with
      | none => pure none
      | some (front, _) => do
        let r ← N.rebuild s w.reverse Hr front [] [(front, [])]
        pure (some r)) := by
    simp only [NFA.simulate, NFA.closure_eq_ok hv]
    show (do let H ← N.history s w _ _; _) = _
    rw [hh]
    rfl
  cases hpick : pickAt (C.filter fun r => decide (r ∈ N.F)) s.next.1 with
  | none =>
    rw [hpick] at hsim
    refine ⟨none, hsim, fun tr h => (by cases h), fun h => (by cases h), ?_⟩
    rintro ⟨f, hfF, hr⟩
    have : f ∈ C.filter fun r => decide (r ∈ N.F) := by
      rw [List.mem_filter, decide_eq_true_eq]
      exact ⟨(hC' f).mpr hr, hfF⟩
    rw [pickAt_eq_none_iff.mp hpick] at this
    cases this
  | some fr =>
    obtain ⟨front, rest⟩ := fr
    have hfm := pickAt_mem hpick
    rw [List.mem_filter, decide_eq_true_eq] at hfm
    obtain ⟨hfC, hfF⟩ := hfm
    obtain ⟨tr, htr, hhead, hchain, hlast⟩ :=
      NFA.rebuild_spec hv s hok front [] _ hfC ⟨rfl, ChainOf.single _, front, rfl, hfF⟩
    rw [hpick] at hsim
    simp only [htr] at hsim
    refine ⟨some tr, hsim, ?_, fun _ => ⟨front, hfF, (hC' front).mp hfC⟩, fun _ => rfl⟩
    intro tr' h
    cases h
    rw [List.reverse_reverse, List.append_nil] at hhead
    exact ⟨hhead, hchain, hlast⟩

end

/-- the witness of the repaired back-pointer defect: `a -ε-> b -ε-> c`, `c -ε-> {b, f}` (an ε-cycle `b ⇄ c`),
    plus `f -x-> a` so that non-empty words are accepted too, and `f -y-> g` (a dead end) so that some are rejected -/
def C15.exNFA : NFA String String :=
  { Q := ["a", "b", "c", "f", "g"], Sigma := ["x", "y"],
    delta := [(("a", ""), ["b"]), (("b", ""), ["c"]), (("c", ""), ["b", "f"]), (("f", "x"), ["a"]),
              (("f", "y"), ["g"])],
    q0 := "a", F := ["f"], eps := "" }

def C15.exDFA : DFA String String :=
  { Q := ["p", "q"], Sigma := ["0", "1"],
    delta := [(("p", "0"), "p"), (("p", "1"), "q"), (("q", "0"), "q"), (("q", "1"), "p")],
    q0 := "p", F := ["q"] }

end Gamba
