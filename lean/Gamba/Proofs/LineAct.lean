/-
  Gamba.Proofs.LineAct — the automaton text format of Model/Parse.lean, specified.
  A line denotes an *action* on the record that is a function of its words alone (`act`, with `act_spec` saying when each
  action arises); `parse_line` applies it (`parseWords_eq_act`, the one lemma that looks inside `parseWords`).  A text is accepted
  iff no line fails and no key is declared twice, and the record is then the declarations in order, the fields they set and the
  transition entries concatenated (`foldlM_applyAct_eq_ok`, `parseRaw_eq_ok`).  What the printers write parses back, line by
  line (`foldlM_parseLine_printed`, `parseRaw_printed_joined`, `parseRaw_printed_terminated`).
-/
import Gamba.Proofs.TextBasic
import Gamba.Proofs.Dict
import Gamba.Proofs.ExceptBasic
namespace Gamba
namespace Parse
open Text

/-- a declaration line: the entry appended to `items`, and the field it writes (if any) -/
def setRaw (key : String) (vals : List String) (st : Raw) : Raw :=
  { states := if key = "states" then vals else st.states,
    final := if key = "final" then vals else st.final,
    initial := if key = "initial" then vals else st.initial,
    transitions := st.transitions,
    items := st.items ++ [(key, vals)] }

/-- what a line does to the record, read off its words alone: nothing, reject, store a declaration, append
    transition entries -/
inductive Act
  | skip
  | fail
  | set (key : String) (vals : List String)
  | trans (ts : List (String × Word × String))

/-- an action applied to the record; only a declaration looks at the record (a repeated key is rejected) -/
def applyAct (st : Raw) : Act → Except Err Raw
  | .skip => .ok st
  | .fail => .error .runtimeError
  | .set key vals => if (st.items.lookup key).isSome then .error .runtimeError else .ok (setRaw key vals st)
  | .trans ts => .ok { st with transitions := st.transitions ++ ts }

/-- the action of a line: the body of `parseWords` with every test that does not read the record done first -/
def act (k : Kind) (ok : Word → Bool) : List Word → Act
  | [] => .skip
  | w0 :: rest =>
    if w0.head? == some '%' then .skip
    else if str w0 = "states" ∨ str w0 = "final" ∨ str w0 = "initial" then
      if hasDup (rest.map str) then .fail
      else if str w0 = "states" ∧ rest.isEmpty then .fail
      else if !rest.all ok then .fail
      else .set (str w0) (rest.map str)
    else if str w0 ∈ keywords k then .set (str w0) (rest.map str)
    else
      match rest with
      | [] => .fail
      | [_] => .fail
      | q :: labels =>
        if !ok w0 || !ok q then .fail
        else if !labels.all (labelOk k) then .fail
        else .trans (labels.map fun l => (str w0, l, str q))

theorem setRaw_of_not_name {key : String} (h : ¬(key = "states" ∨ key = "final" ∨ key = "initial")) (vals : List String)
    (st : Raw) : setRaw key vals st = { st with items := st.items ++ [(key, vals)] } := by
  rw [not_or, not_or] at h
  simp only [setRaw, h.1, h.2.1, h.2.2, ↓reduceIte]

/-- a declaration line of `parse_line`: the look-up of the key comes first there and last in `applyAct`; all tests fail alike,
    so their order does not matter -/
theorem applyAct_names (st : Raw) {key : String} (vals : List String) (a b c : Prop) [Decidable a] [Decidable b] [Decidable c]
    (h1 : key = "states" ∨ key = "final" ∨ key = "initial") :
    (if (st.items.lookup key).isSome then Except.error Err.runtimeError else if a then .error .runtimeError
      else if b then .error .runtimeError else if c then .error .runtimeError
      else if key = "states" then .ok { st with items := st.items ++ [(key, vals)], states := vals }
      else if key = "final" then .ok { st with items := st.items ++ [(key, vals)], final := vals }
      else .ok { st with items := st.items ++ [(key, vals)], initial := vals }) =
    applyAct st (if a then .fail else if b then .fail else if c then .fail else .set key vals) := by
  by_cases ha : a
  · rw [if_pos ha, if_pos ha]; exact ite_self _
  by_cases hb : b
  · rw [if_neg ha, if_neg ha, if_pos hb, if_pos hb]; exact ite_self _
  by_cases hc : c
  · rw [if_neg ha, if_neg ha, if_neg hb, if_neg hb, if_pos hc, if_pos hc]; exact ite_self _
  -- the three branches that write `states` / `final` / `initial` are one: `setRaw`
  rw [if_neg ha, if_neg ha, if_neg hb, if_neg hb, if_neg hc, if_neg hc, applyAct]
  rcases h1 with rfl | rfl | rfl <;> simp only [setRaw, ↓reduceIte, String.reduceEq]

theorem parseWords_eq_act (k : Kind) (ok : Word → Bool) (st : Raw) (ws : List Word) :
    parseWords k ok st ws = applyAct st (act k ok ws) := by
  cases ws with
  | nil => rfl
  | cons w0 rest =>
    dsimp only [parseWords, act]
    by_cases h0 : (w0.head? == some '%') = true
    · rw [if_pos h0, if_pos h0]; rfl
    rw [if_neg h0, if_neg h0]
    by_cases h1 : str w0 = "states" ∨ str w0 = "final" ∨ str w0 = "initial"
    · rw [if_pos h1, if_pos h1]
      exact applyAct_names st _ _ _ _ h1
    rw [if_neg h1, if_neg h1]
    by_cases h2 : str w0 ∈ keywords k
    · rw [if_pos h2, if_pos h2, applyAct, setRaw_of_not_name h1]
    rw [if_neg h2, if_neg h2]
    match rest with
    | [] => rfl
    | [_] => rfl
    | q :: l :: labels =>
      dsimp only
      by_cases a : (!ok w0 || !ok q) = true
      · rw [if_pos a, if_pos a]; rfl
      rw [if_neg a, if_neg a]
      by_cases b : (!(l :: labels).all (labelOk k)) = true
      · rw [if_pos b, if_pos b]; rfl
      · rw [if_neg b, if_neg b]; rfl

theorem head_ne_percent_of_kw {k : Kind} {w0 : Word} (h : str w0 ∈ ["states", "final", "initial"] ++ keywords k) :
    ¬(w0.head? == some '%') = true := by
  simpa using isWord_head_ne_percent (isWord_of_mem_keywords k _ h)

/-- what an accepted line says: a declaration is stored under its first word with the other words as values (distinct names that
    pass `ok` for `states` / `final` / `initial`, at least one for `states`); transition entries come from a line `p q l₁ … lₙ`
    whose `p`, `q` and labels were checked -/
theorem act_spec (k : Kind) (ok : Word → Bool) (ws : List Word) :
    (act k ok ws = .skip ∧ ∀ w0 rest, ws = w0 :: rest → (w0.head? == some '%') = true) ∨ act k ok ws = .fail ∨
    (∃ w0 rest, ws = w0 :: rest ∧ act k ok ws = .set (str w0) (rest.map str) ∧
      (str w0 ∈ keywords k ∨ ((str w0 = "states" ∨ str w0 = "final" ∨ str w0 = "initial") ∧ (rest.map str).Nodup ∧
        rest.all ok = true ∧ (str w0 = "states" → rest ≠ [])))) ∨
    (∃ p q labels, ws = p :: q :: labels ∧ str p ∉ ["states", "final", "initial"] ++ keywords k ∧ ok p = true ∧ ok q = true ∧
      (∀ l, l ∈ labels → labelOk k l = true) ∧ act k ok ws = .trans (labels.map fun l => (str p, l, str q))) := by
  match ws with
  | [] => exact .inl ⟨rfl, fun _ _ h => nomatch h⟩
  | w0 :: rest =>
    dsimp only [act]
    by_cases h0 : (w0.head? == some '%') = true
    · rw [if_pos h0]; exact .inl ⟨rfl, fun _ _ h => (List.cons.inj h).1 ▸ h0⟩
    rw [if_neg h0]
    by_cases h1 : str w0 = "states" ∨ str w0 = "final" ∨ str w0 = "initial"
    · rw [if_pos h1]
      by_cases a : hasDup (rest.map str) = true
      · rw [if_pos a]; exact .inr (.inl rfl)
      by_cases b : str w0 = "states" ∧ rest.isEmpty = true
      · rw [if_neg a, if_pos b]; exact .inr (.inl rfl)
      by_cases c : (!rest.all ok) = true
      · rw [if_neg a, if_neg b, if_pos c]; exact .inr (.inl rfl)
      · rw [if_neg a, if_neg b, if_neg c]
        exact .inr (.inr (.inl ⟨w0, rest, rfl, rfl, .inr ⟨h1, hasDup_eq_false_iff.mp (by simpa using a), by simpa using c,
          fun e r => b ⟨e, by rw [r]; rfl⟩⟩⟩))
    rw [if_neg h1]
    by_cases h2 : str w0 ∈ keywords k
    · rw [if_pos h2]; exact .inr (.inr (.inl ⟨w0, rest, rfl, rfl, .inl h2⟩))
    rw [if_neg h2]
    match rest with
    | [] => exact .inr (.inl rfl)
    | [_] => exact .inr (.inl rfl)
    | q :: l :: ls =>
      dsimp only
      by_cases a : (!ok w0 || !ok q) = true
      · rw [if_pos a]; exact .inr (.inl rfl)
      by_cases b : (!(l :: ls).all (labelOk k)) = true
      · rw [if_neg a, if_pos b]; exact .inr (.inl rfl)
      · rw [if_neg a, if_neg b]
        simp only [Bool.or_eq_true, Bool.not_eq_true', not_or, Bool.not_eq_false] at a
        exact .inr (.inr (.inr ⟨w0, q, l :: ls, rfl, fun h => (List.mem_append.mp h).elim (h1 ∘ mem_names_iff.mp) h2, a.1, a.2,
          List.all_eq_true.mp (by simpa using b), rfl⟩))

theorem act_kw_cases {k : Kind} {ok : Word → Bool} {w0 : Word} (rest : List Word)
    (h : str w0 ∈ ["states", "final", "initial"] ++ keywords k) :
    act k ok (w0 :: rest) = .fail ∨
      (act k ok (w0 :: rest) = .set (str w0) (rest.map str) ∧ (str w0 = "states" → rest ≠ [])) := by
  rcases act_spec k ok (w0 :: rest) with ⟨_, hc⟩ | e | ⟨_, _, hw, e, hk⟩ | ⟨_, _, _, hw, hn, _⟩
  · exact absurd (hc w0 rest rfl) (head_ne_percent_of_kw h)
  · exact .inl e
  · obtain ⟨rfl, rfl⟩ := List.cons.inj hw
    exact .inr ⟨e, fun e1 => hk.elim (fun hk => absurd (.inl e1) (keywords_not_name k _ hk)) fun hk => hk.2.2.2 e1⟩
  · exact absurd h ((List.cons.inj hw).1 ▸ hn)

theorem act_decl {k : Kind} {ok : Word → Bool} {d : String × List String} (h : DeclOk k ok d) :
    act k ok (d.1.toList :: d.2.map String.toList) = .set d.1 d.2 := by
  dsimp only [act]
  rw [if_neg (by simpa using isWord_head_ne_percent h.isWord_key), str_toList, map_str_map_toList]
  rcases h.key with hk | ⟨hk, hnd, hok, hne⟩
  · rw [if_neg (keywords_not_name k _ hk), if_pos hk]
  · rw [if_pos hk, if_neg (by simpa using hasDup_eq_false_iff.mpr hnd),
      if_neg (fun b => hne b.1 (by simpa using b.2)), if_neg (by simpa [List.all_map] using hok)]

theorem act_trans_eq {k : Kind} {ok : Word → Bool} {p : Word} (q : Word) {ls : List Word}
    (hkw : str p ∉ ["states", "final", "initial"] ++ keywords k) (hne : ls ≠ []) :
    act k ok (p :: q :: ls) =
      if p.head? == some '%' then .skip else if !ok p || !ok q then .fail else if !ls.all (labelOk k) then .fail
      else .trans (ls.map fun l => (str p, l, str q)) := by
  obtain ⟨l, ls, rfl⟩ := List.exists_cons_of_ne_nil hne
  rw [List.mem_append, not_or, mem_names_iff] at hkw
  dsimp only [act]
  rw [if_neg hkw.1, if_neg hkw.2]

theorem act_short {k : Kind} {ok : Word → Bool} {p : Word} {rest : List Word}
    (hkw : str p ∉ ["states", "final", "initial"] ++ keywords k) (hc : p.head? ≠ some '%') (hlen : rest.length ≤ 1) :
    act k ok (p :: rest) = .fail := by
  rw [List.mem_append, not_or, mem_names_iff] at hkw
  dsimp only [act]
  rw [if_neg (by simpa using hc), if_neg hkw.1, if_neg hkw.2]
  match rest, hlen with
  | [], _ => rfl
  | [_], _ => rfl

theorem parseWords_trans (k : Kind) (ok : Word → Bool) (st : Raw) {p q : String} {labels : List Word}
    (hp : p ∉ ["states", "final", "initial"] ++ keywords k) (hpc : p.toList.head? ≠ some '%')
    (hpo : ok p.toList = true) (hqo : ok q.toList = true) (hne : labels ≠ [])
    (hl : ∀ x, x ∈ labels → labelOk k x = true) :
    parseWords k ok st (p.toList :: q.toList :: labels) =
      .ok { st with transitions := st.transitions ++ labels.map fun x => (p, x, q) } := by
  rw [parseWords_eq_act, act_trans_eq _ (by rwa [str_toList]) hne, if_neg (by simpa using hpc), hpo, hqo,
    List.all_eq_true.mpr hl, str_toList, str_toList]
  rfl

theorem parseWords_split_labels (k : Kind) (ok : Word → Bool) (st : Raw) (p q : Word) (ls1 ls2 : List Word)
    (hp : str p ∉ ["states", "final", "initial"] ++ keywords k) (h1 : ls1 ≠ []) (h2 : ls2 ≠ []) :
    parseWords k ok st (p :: q :: (ls1 ++ ls2)) =
      (parseWords k ok st (p :: q :: ls1)).bind fun s => parseWords k ok s (p :: q :: ls2) := by
  simp only [parseWords_eq_act, act_trans_eq q hp h1, act_trans_eq q hp h2,
    act_trans_eq q hp (mt List.append_eq_nil_iff.mp fun h => h1 h.1), List.all_append, List.map_append]
  -- the same tests on both sides; the entries of the first line are appended before those of the second
  by_cases a : (p.head? == some '%') = true
  · simp only [a, ↓reduceIte]; rfl
  by_cases b : (!ok p || !ok q) = true
  · simp only [a, b, ↓reduceIte]; rfl
  cases c1 : ls1.all (labelOk k) <;> cases c2 : ls2.all (labelOk k) <;>
    simp only [a, b, Bool.false_eq_true, ↓reduceIte, Bool.not_true, Bool.not_false, Bool.and_true, Bool.and_false,
      applyAct, Except.bind, List.append_assoc]

def Act.decl? : Act → Option (String × List String)
  | .set key vals => some (key, vals)
  | _ => none

def Act.entries : Act → List (String × Word × String)
  | .trans ts => ts
  | _ => []

def declsOf (as : List Act) : List (String × List String) := as.filterMap Act.decl?

def entriesOf (as : List Act) : List (String × Word × String) := as.flatMap Act.entries

/-- the record after reading declarations `ds` with distinct new keys and transition entries `ts` -/
def rawOf (st : Raw) (ds : List (String × List String)) (ts : List (String × Word × String)) : Raw :=
  { states := (ds.lookup "states").getD st.states, final := (ds.lookup "final").getD st.final,
    initial := (ds.lookup "initial").getD st.initial, items := st.items ++ ds, transitions := st.transitions ++ ts }

theorem rawOf_nil (st : Raw) : rawOf st [] [] = st := by
  simp only [rawOf, List.lookup_nil, Option.getD_none, List.append_nil]

/-- a field written by the first declaration and by none of the later ones -/
theorem getD_lookup_cons {key k : String} {v x : List String} {ds : List (String × List String)} (hk : k ∉ ds.map (·.1)) :
    (ds.lookup key).getD (if k = key then v else x) = (((k, v) :: ds).lookup key).getD x := by
  rw [Dict.lookup_cons_ite]
  by_cases h : key = k
  · subst h; rw [if_pos rfl, if_pos rfl, Dict.lookup_eq_none_iff.mpr hk]; rfl
  · rw [if_neg h, if_neg (Ne.symm h)]

theorem rawOf_setRaw {k : String} (v : List String) (st : Raw) {ds : List (String × List String)} (hk : k ∉ ds.map (·.1))
    (ts : List (String × Word × String)) : rawOf (setRaw k v st) ds ts = rawOf st ((k, v) :: ds) ts := by
  simp only [rawOf, setRaw, getD_lookup_cons hk, List.append_assoc, List.singleton_append]

theorem setRaw_lookup_eq_none {key key' : String} {vals : List String} {st : Raw} :
    (setRaw key vals st).items.lookup key' = none ↔ key' ≠ key ∧ st.items.lookup key' = none := by
  simp only [setRaw, Dict.lookup_eq_none_iff, List.map_append, List.mem_append, List.map_cons, List.map_nil, List.mem_singleton,
    not_or, and_comm]

/-- the text format, specified: a list of actions is accepted iff none of them fails and the declared keys are distinct and new;
    the record is then the old one with the declarations appended, the fields `states` / `final` / `initial` they set, and the
    transition entries appended -/
theorem foldlM_applyAct_eq_ok {as : List Act} {st st' : Raw} :
    as.foldlM applyAct st = .ok st' ↔
      Act.fail ∉ as ∧ ((declsOf as).map (·.1)).Nodup ∧ (∀ key, key ∈ (declsOf as).map (·.1) → st.items.lookup key = none) ∧
        st' = rawOf st (declsOf as) (entriesOf as) := by
  induction as generalizing st with
  | nil =>
    rw [List.foldlM_nil, Except.pure_eq_ok, declsOf, entriesOf, List.filterMap_nil, List.flatMap_nil, rawOf_nil]
    exact ⟨fun h => ⟨List.not_mem_nil, List.nodup_nil, fun _ hm => absurd hm List.not_mem_nil, h.symm⟩, fun h => h.2.2.2.symm⟩
  | cons x as ih =>
    rw [List.foldlM_cons, Except.bind_eq_ok']
    cases x with
    | skip =>
      simp only [applyAct, Except.ok.injEq, exists_eq_left', ih, declsOf, entriesOf, List.filterMap_cons, List.flatMap_cons, Act.decl?,
        Act.entries, List.nil_append, List.mem_cons, reduceCtorEq, false_or]
    | fail =>
      simp only [applyAct, reduceCtorEq, false_and, exists_false, List.mem_cons, true_or, not_true_eq_false]
    | trans ts =>
      simp only [applyAct, Except.ok.injEq, exists_eq_left', ih, declsOf, entriesOf, List.filterMap_cons, List.flatMap_cons, Act.decl?,
        Act.entries, List.mem_cons, reduceCtorEq, false_or, rawOf, List.append_assoc]
    | set k v =>
      simp only [declsOf, entriesOf, List.filterMap_cons, List.flatMap_cons, Act.decl?, Act.entries, List.nil_append, List.mem_cons,
        reduceCtorEq, false_or, List.map_cons, List.nodup_cons, forall_eq_or_imp]
      have hap : ∀ s, applyAct st (.set k v) = .ok s ↔ st.items.lookup k = none ∧ setRaw k v st = s := fun s => by
        rw [applyAct, Except.ite_error_eq_ok, Bool.not_eq_true, Option.isSome_eq_false_iff, Option.isNone_iff_eq_none,
          Except.ok.injEq]
      constructor
      · rintro ⟨s, hs, h⟩
        obtain ⟨hk, rfl⟩ := (hap s).mp hs
        obtain ⟨hf, hnd, hnew, rfl⟩ := ih.mp h
        have hk' : k ∉ (declsOf as).map (·.1) := fun hm => (setRaw_lookup_eq_none.mp (hnew k hm)).1 rfl
        exact ⟨hf, ⟨hk', hnd⟩, ⟨hk, fun key hm => (setRaw_lookup_eq_none.mp (hnew key hm)).2⟩, rawOf_setRaw v st hk' _⟩
      · rintro ⟨hf, ⟨hk', hnd⟩, ⟨hk, hnew⟩, rfl⟩
        exact ⟨_, (hap _).mpr ⟨hk, rfl⟩, ih.mpr ⟨hf, hnd,
          fun key hm => setRaw_lookup_eq_none.mpr ⟨fun e => hk' (e ▸ hm), hnew key hm⟩, (rawOf_setRaw v st hk' _).symm⟩⟩

theorem parseWordLines_eq_acts (k : Kind) (ok : Word → Bool) (st : Raw) (wls : List (List Word)) :
    parseWordLines k ok st wls = (wls.map (act k ok)).foldlM applyAct st := by
  rw [List.foldlM_map]
  exact congrArg (fun f => List.foldlM f st wls) (funext fun s => funext (parseWords_eq_act k ok s))

/-- the actions of a list of lines (a blank line is `.skip`) -/
def lineActs (k : Kind) (ok : Word → Bool) (ls : List Word) : List Act := ls.map fun l => act k ok (splitWs l)

theorem foldlM_parseLine_eq_acts (k : Kind) (ok : Word → Bool) (st : Raw) (ls : List Word) :
    ls.foldlM (parseLine k ok) st = (lineActs k ok ls).foldlM applyAct st := by
  rw [lineActs, List.foldlM_map]
  exact congrArg (fun f => List.foldlM f st ls) (funext fun s => funext fun l => by rw [parseLine_eq, parseWords_eq_act])

theorem parseRaw_eq_ok {k : Kind} {ok : Word → Bool} {text : Word} {A : Raw} :
    parseRaw k ok text = .ok A ↔
      Act.fail ∉ lineActs k ok (splitOn '\n' text) ∧ ((declsOf (lineActs k ok (splitOn '\n' text))).map (·.1)).Nodup ∧
      A = rawOf {} (declsOf (lineActs k ok (splitOn '\n' text))) (entriesOf (lineActs k ok (splitOn '\n' text))) := by
  rw [parseRaw, foldlM_parseLine_eq_acts, foldlM_applyAct_eq_ok]
  exact ⟨fun h => ⟨h.1, h.2.1, h.2.2.2⟩, fun h => ⟨h.1, h.2.1, fun _ _ => rfl, h.2.2⟩⟩

theorem parseRaw_labels {k : Kind} {ok : Word → Bool} {text : Word} {A0 : Raw} (h : parseRaw k ok text = .ok A0) :
    ∀ t, t ∈ A0.transitions → labelOk k t.2.1 = true := by
  obtain ⟨_, _, rfl⟩ := parseRaw_eq_ok.mp h
  intro t ht
  obtain ⟨a, ha, hta⟩ := List.mem_flatMap.mp (show t ∈ entriesOf _ from ht)
  obtain ⟨l, _, rfl⟩ := List.mem_map.mp ha
  rcases act_spec k ok (splitWs l) with ⟨e, _⟩ | e | ⟨_, _, _, e, _⟩ | ⟨p, q, labels, _, _, _, _, hl, e⟩ <;> rw [e] at hta
  · cases hta
  · cases hta
  · cases hta
  · obtain ⟨l, hl', rfl⟩ := List.mem_map.mp hta
    exact hl l hl'

theorem parseRaw_states_nodup {k : Kind} {ok : Word → Bool} {text : Word} {A0 : Raw}
    (h : parseRaw k ok text = .ok A0) : A0.states.Nodup := by
  obtain ⟨_, _, rfl⟩ := parseRaw_eq_ok.mp h
  show ((List.lookup "states" _).getD []).Nodup
  cases hl : List.lookup "states" (declsOf (lineActs k ok (splitOn '\n' text))) with
  | none => exact List.nodup_nil
  | some v =>
    obtain ⟨a, ha, had⟩ := List.mem_filterMap.mp (Dict.mem_of_lookup hl)
    obtain ⟨l, _, rfl⟩ := List.mem_map.mp ha
    rcases act_spec k ok (splitWs l) with ⟨e, _⟩ | e | ⟨w0, rest, _, e, hk⟩ | ⟨_, _, _, _, _, _, _, _, e⟩ <;> rw [e] at had
    · cases had
    · cases had
    · obtain ⟨e1, rfl⟩ := Prod.mk.inj (Option.some.inj had)
      rcases hk with hk | ⟨_, hn, _⟩
      · exact absurd (.inl e1) (keywords_not_name k _ hk)
      · exact hn
    · cases had

/-- the printed line of the edge `t0`: all labels of its `(p, q)` pair -/
theorem act_transLine {k : Kind} {ok : Word → Bool} {ts : List (String × String × String)}
    (h : ∀ t, t ∈ ts → TransOkFor k ok t) {t0 : String × String × String} (ht0 : t0 ∈ ts) :
    act k ok (splitWs (pairKey t0 ++ " " ++ joinSp ((ts.filter fun t => decide (pairKey t = pairKey t0)).map (·.2.2))).toList) =
      .trans ((ts.filter fun t => decide (pairKey t = pairKey t0)).map fun t => (t.1, t.2.2.toList, t.2.1)) := by
  have h0 := h t0 ht0
  have hf : ∀ t, t ∈ ts.filter (fun t => decide (pairKey t = pairKey t0)) → TransOkFor k ok t ∧ t.1 = t0.1 ∧ t.2.1 = t0.2.1 :=
    fun t ht => by
      obtain ⟨ht1, ht2⟩ := List.mem_filter.mp ht
      exact ⟨h t ht1, pairKey_inj (h t ht1).src.tok (h t ht1).dstTok h0.src.tok h0.dstTok (by simpa using ht2)⟩
  have hne : ((ts.filter fun t => decide (pairKey t = pairKey t0)).map (·.2.2)).map String.toList ≠ [] := fun e =>
    List.not_mem_nil (List.map_eq_nil_iff.mp (List.map_eq_nil_iff.mp e) ▸ List.mem_filter.mpr ⟨ht0, by simp⟩)
  rw [splitWs_transLine h0.src.tok h0.dstTok (fun l hl => by
      obtain ⟨t, ht, rfl⟩ := List.mem_map.mp hl; exact (hf t ht).1.lblTok),
    act_trans_eq _ (by rw [str_toList]; exact h0.src.notKw) hne, if_neg (by simpa using h0.src.notComment), h0.src.ok, h0.dstOk,
    List.all_eq_true.mpr (fun x hx => by
      simp only [List.map_map, List.mem_map, Function.comp] at hx
      obtain ⟨t, ht, rfl⟩ := hx; exact (hf t ht).1.lblOk),
    str_toList, str_toList, List.map_map, List.map_map]
  exact congrArg Act.trans (List.map_congr_left fun t ht => by rw [← (hf t ht).2.1, ← (hf t ht).2.2]; rfl)

theorem lineActs_printed {k : Kind} {ok : Word → Bool} {ds : List (String × List String)} {ts : List (String × String × String)}
    (h : ∀ d, d ∈ ds → DeclOk k ok d) (hts : ∀ t, t ∈ ts → TransOkFor k ok t) :
    lineActs k ok ((ds.map declLine ++ transLines ts).map String.toList) =
      ds.map (fun d => Act.set d.1 d.2) ++ (sortStrings (dedup (ts.map pairKey))).map fun key =>
        Act.trans ((ts.filter fun t => decide (pairKey t = key)).map fun t => (t.1, t.2.2.toList, t.2.1)) := by
  rw [lineActs, transLines_eq, List.map_append, List.map_append, List.map_map, List.map_map, List.map_map, List.map_map]
  refine congr (congrArg _ (List.map_congr_left fun d hd => ?_)) (List.map_congr_left fun key hk => ?_)
  · show act k ok (splitWs (declLine d).toList) = _
    rw [splitWs_declLine (h d hd), act_decl (h d hd)]
  · obtain ⟨t0, ht0, rfl⟩ := List.mem_map.mp (mem_dedup.mp (mem_sortStrings.mp hk))
    dsimp only [Function.comp]
    exact act_transLine hts ht0

theorem declsOf_printed {κ : Type} (ds : List (String × List String)) (ks : List κ) (g : κ → List (String × Word × String)) :
    declsOf (ds.map (fun d => Act.set d.1 d.2) ++ ks.map fun key => Act.trans (g key)) = ds ∧
      entriesOf (ds.map (fun d => Act.set d.1 d.2) ++ ks.map fun key => Act.trans (g key)) = ks.flatMap g ∧
      Act.fail ∉ ds.map (fun d => Act.set d.1 d.2) ++ ks.map fun key => Act.trans (g key) := by
  refine ⟨?_, ?_, ?_⟩
  · simp [declsOf, List.filterMap_append, List.filterMap_map, Function.comp_def, Act.decl?]
  · simp [entriesOf, List.flatMap_append, List.flatMap_map, Act.entries]
  · simp

theorem foldlM_parseLine_printed {k : Kind} {ok : Word → Bool} {ds : List (String × List String)}
    {ts : List (String × String × String)} (h : ∀ d, d ∈ ds → DeclOk k ok d) (hnd : (ds.map (·.1)).Nodup)
    (hts : ∀ t, t ∈ ts → TransOkFor k ok t) :
    ((ds.map declLine ++ transLines ts).map String.toList).foldlM (parseLine k ok) {} = .ok (rawOf {} ds (transOf ts)) := by
  rw [foldlM_parseLine_eq_acts, lineActs_printed h hts, foldlM_applyAct_eq_ok]
  obtain ⟨e1, e2, e3⟩ := declsOf_printed ds (sortStrings (dedup (ts.map pairKey))) fun key =>
    (ts.filter fun t => decide (pairKey t = key)).map fun t => (t.1, t.2.2.toList, t.2.1)
  rw [e1, e2]
  exact ⟨e3, hnd, fun _ _ => rfl, rfl⟩

/-- the lines joined as `"\n".join(lines)` (print_dfa) -/
theorem parseRaw_printed_joined {k : Kind} {ok : Word → Bool} {ds : List (String × List String)} {ts : List (String × String × String)}
    (h : ∀ d, d ∈ ds → DeclOk k ok d) (hnd : (ds.map (·.1)).Nodup) (hts : ∀ t, t ∈ ts → TransOkFor k ok t) (hne : ds ≠ []) :
    parseRaw k ok ("\n".intercalate (ds.map declLine ++ transLines ts)).toList = .ok (rawOf {} ds (transOf ts)) := by
  rw [parseRaw, splitOn_intercalate_newline (by simpa using fun e => absurd e hne) (newline_not_mem_printed h hts)]
  exact foldlM_parseLine_printed h hnd hts

/-- the lines joined as `"".join(l + "\n" for l in lines)` (print_nfa / print_pda / print_tm): the empty piece after the last
    newline is a blank line -/
theorem parseRaw_printed_terminated {k : Kind} {ok : Word → Bool} {ds : List (String × List String)} {ts : List (String × String × String)}
    (h : ∀ d, d ∈ ds → DeclOk k ok d) (hnd : (ds.map (·.1)).Nodup) (hts : ∀ t, t ∈ ts → TransOkFor k ok t) :
    parseRaw k ok ("".intercalate ((ds.map declLine ++ transLines ts).map (· ++ "\n"))).toList =
      .ok (rawOf {} ds (transOf ts)) := by
  rw [parseRaw, splitOn_join_terminated (newline_not_mem_printed h hts), List.foldlM_append, foldlM_parseLine_printed h hnd hts]
  rfl

end Parse
end Gamba
