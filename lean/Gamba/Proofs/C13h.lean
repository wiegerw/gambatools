/-
  Gamba.Proofs.C13h — helper lemmas for C13h: the word list printed by the notebook generator's `generate` command
  (`CheckAll.renderWords`) is read back by `parse_word_list` (`CheckText.parseWordList`) as the same set of words,
  provided every symbol is one non-blank character and no word is the one-symbol word `ε` or `_`.
-/
import Gamba.Model.CheckAll
import Gamba.Proofs.TextBasic
namespace Gamba
namespace CheckAll

/-- the side condition under which `parse_word_list (generate …)` gives the words back: every symbol of every word is a
    single character that is not white space (`Text.isSpace`, the predicate of `Text.splitWs`), and no word is the
    one-symbol word `ε` or `_` (both are read back as the empty word) -/
def Renderable (L : CheckCex.Lang) : Prop :=
  ∀ w, w ∈ L →
    (∀ a, a ∈ w → a.toList.length = 1 ∧ ∀ c, c ∈ a.toList → Text.isSpace c = false) ∧ w ≠ ["ε"] ∧ w ≠ ["_"]

instance (L : CheckCex.Lang) : Decidable (Renderable L) := by unfold Renderable; infer_instance

def renderWord (w : List String) : String := if w.isEmpty then "ε" else String.join w

theorem renderWords_eq (L : CheckCex.Lang) : renderWords L = String.intercalate " " (L.map renderWord) := rfl

/-- what `parse_word_list` does with one piece -/
def readWord (t : List Char) : List String := if t = ['ε'] ∨ t = ['_'] then [] else t.map String.singleton

end CheckAll

namespace C13h
open Text CheckAll

def SymOk (a : String) : Prop := a.toList.length = 1 ∧ ∀ c, c ∈ a.toList → Text.isSpace c = false

theorem SymOk.singleton {a : String} (h : SymOk a) : ∃ c, a.toList = [c] ∧ Text.isSpace c = false ∧ a = String.singleton c := by
  obtain ⟨h1, h2⟩ := h
  match hl : a.toList, h1 with
  | [c], _ =>
    exact ⟨c, rfl, h2 c (by rw [hl]; simp), toList_eq_singleton_iff.mp hl⟩

theorem flatMap_toList {w : List String} (h : ∀ a, a ∈ w → SymOk a) :
    (w.flatMap String.toList).map String.singleton = w ∧ ∀ c, c ∈ w.flatMap String.toList → Text.isSpace c = false := by
  induction w with
  | nil => exact ⟨rfl, by simp⟩
  | cons a w ih =>
    obtain ⟨c, hc, hs, ha⟩ := (h a (by simp)).singleton
    obtain ⟨ih1, ih2⟩ := ih (fun b hb => h b (List.mem_cons_of_mem _ hb))
    rw [List.flatMap_cons, hc]
    refine ⟨?_, ?_⟩
    · simp only [List.singleton_append, List.map_cons, ih1, ← ha]
    · intro d hd
      simp only [List.singleton_append, List.mem_cons] at hd
      rcases hd with rfl | hd
      · exact hs
      · exact ih2 d hd

theorem renderWord_spec {w : List String} (h : ∀ a, a ∈ w → SymOk a) (h1 : w ≠ ["ε"]) (h2 : w ≠ ["_"]) :
    Token (renderWord w).toList ∧ readWord (renderWord w).toList = w := by
  unfold renderWord
  cases w with
  | nil =>
    refine ⟨⟨by decide, by decide⟩, ?_⟩
    simp [readWord]
  | cons a w =>
    simp only [List.isEmpty_cons, Bool.false_eq_true, ↓reduceIte]
    rw [String.toList_join]
    obtain ⟨hm, hs⟩ := flatMap_toList h
    refine ⟨⟨?_, hs⟩, ?_⟩
    · intro he
      rw [he] at hm
      cases hm
    · unfold readWord
      rw [if_neg, hm]
      rintro (he | he) <;> rw [he] at hm
      · exact h1 hm.symm
      · exact h2 hm.symm

theorem renderable_word {L : CheckCex.Lang} (h : Renderable L) {w : List String} (hw : w ∈ L) :
    Token (renderWord w).toList ∧ readWord (renderWord w).toList = w :=
  renderWord_spec (h w hw).1 (h w hw).2.1 (h w hw).2.2

theorem splitWs_renderWords {L : CheckCex.Lang} (h : Renderable L) :
    splitWs (renderWords L).toList = L.map fun w => (renderWord w).toList := by
  rw [renderWords_eq, Text.toList_intercalate, toList_space, splitWs_intercalate, List.map_map]
  · rfl
  · intro t ht
    simp only [List.map_map, List.mem_map, Function.comp] at ht
    obtain ⟨w, hw, rfl⟩ := ht
    exact (renderable_word h hw).1

/-- the generated word list is read back as the list of its words (`parse_word_list` returns a set) -/
theorem parseWordList_renderWords_eq {L : CheckCex.Lang} (h : Renderable L) :
    CheckText.parseWordList (renderWords L) = dedup L := by
  unfold CheckText.parseWordList
  rw [splitWs_renderWords h, List.map_map]
  exact congrArg dedup ((List.map_congr_left fun w hw => (renderable_word h hw).2).trans (List.map_id L))

theorem renderWords_nil : renderWords [] = "" := rfl

theorem parseWordList_renderWords_nil : CheckText.parseWordList (renderWords []) = [] := by
  show CheckText.parseWordList "" = []
  decide

end C13h
end Gamba
