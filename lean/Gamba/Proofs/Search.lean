/-
  Gamba.Proofs.Search — the generic back-pointer path search (`findPath` / `searchLoop` / `searchTargets` /
  `makePath` of Gamba.Model.Simulate) is sound, complete and terminating, for an arbitrary successor function
  (`findPath_sound`, `findPath_none`, `findPath_total`: registered for C15). One invariant (`LoopInv`: `Sat` plus a
  well-founded back-pointer table) and one induction (`searchLoop_spec`). Preceded by the lemmas on `ChainOf`
  (Gamba.Spec.Trace) and by `IsPath`. Base layer of the NFA (`Proofs/C15a`) and PDA (`Proofs/C15c`) versions of
  `*_find_epsilon_path`.
-/
import Gamba.Model.Simulate
import Gamba.Spec.Trace
import Gamba.Proofs.Dict
import Gamba.Proofs.ExceptBasic
import Gamba.Proofs.ListFacts
import Gamba.Proofs.Saturate
namespace Gamba

section Chain
variable {α β : Type}

theorem ChainOf.tail {r : α → α → Prop} {a : α} {l : List α} (h : ChainOf r (a :: l)) : ChainOf r l := by
  cases h with
  | single => exact ChainOf.nil
  | cons _ h => exact h

theorem ChainOf.rel {r : α → α → Prop} {a b : α} {l : List α} (h : ChainOf r (a :: b :: l)) : r a b := by
  cases h with
  | cons h _ => exact h

theorem ChainOf.append {r : α → α → Prop} {l1 l2 : List α} (h1 : ChainOf r l1) (h2 : ChainOf r l2)
    (h : ∀ a b, l1.getLast? = some a → l2.head? = some b → r a b) : ChainOf r (l1 ++ l2) := by
  induction l1 with
  | nil => exact h2
  | cons x l1 ih =>
    cases l1 with
    | nil =>
      cases l2 with
      | nil => exact h1
      | cons y l2 => exact ChainOf.cons (h x y rfl rfl) h2
    | cons x' l1 =>
      refine ChainOf.cons h1.rel (ih h1.tail ?_)
      intro a b ha hb
      exact h a b (by rw [List.getLast?_cons_cons]; exact ha) hb

theorem ChainOf.append_overlap {r : α → α → Prop} {l1 l2 : List α} {a : α}
    (h1 : ChainOf r (l1 ++ [a])) (h2 : ChainOf r (a :: l2)) : ChainOf r (l1 ++ a :: l2) := by
  induction l1 with
  | nil => exact h2
  | cons x l1 ih =>
    cases l1 with
    | nil => exact ChainOf.cons h1.rel h2
    | cons y l1 => exact ChainOf.cons h1.rel (ih h1.tail)

theorem ChainOf.map {r : α → α → Prop} {r' : β → β → Prop} (g : α → β) {l : List α} (h : ChainOf r l)
    (hg : ∀ a b, r a b → r' (g a) (g b)) : ChainOf r' (l.map g) := by
  induction h with
  | nil => exact ChainOf.nil
  | single a => exact ChainOf.single _
  | cons hr _ ih => exact ChainOf.cons (hg _ _ hr) ih

theorem ChainOf.of_append_left {r : α → α → Prop} {l1 l2 : List α} (h : ChainOf r (l1 ++ l2)) : ChainOf r l1 := by
  induction l1 with
  | nil => exact ChainOf.nil
  | cons x l1 ih =>
    cases l1 with
    | nil => exact ChainOf.single x
    | cons y l1 => exact ChainOf.cons h.rel (ih h.tail)

theorem ChainOf.of_append_right {r : α → α → Prop} {l1 l2 : List α} (h : ChainOf r (l1 ++ l2)) : ChainOf r l2 := by
  induction l1 with
  | nil => exact h
  | cons x l1 ih => exact ih h.tail

theorem ChainOf.rel_mid {r : α → α → Prop} {l1 l2 : List α} {a b : α} (h : ChainOf r (l1 ++ a :: b :: l2)) : r a b :=
  (ChainOf.of_append_right h).rel

theorem ChainOf.iff_zip_tail {r : α → α → Prop} {l : List α} :
    ChainOf r l ↔ ∀ p, p ∈ l.zip l.tail → r p.1 p.2 := by
  induction l with
  | nil => exact ⟨fun _ _ hp => (nomatch hp), fun _ => .nil⟩
  | cons a l ih =>
    cases l with
    | nil => exact ⟨fun _ _ hp => (nomatch hp), fun _ => .single a⟩
    | cons b l =>
      rw [List.tail_cons, List.zip_cons_cons, List.forall_mem_cons]
      exact ⟨fun h => ⟨h.rel, ih.mp h.tail⟩, fun h => .cons h.1 (ih.mpr h.2)⟩

theorem ChainOf.forall_of_head {r : α → α → Prop} {P : α → Prop} (hstep : ∀ a b, r a b → P a → P b)
    {l : List α} (hc : ChainOf r l) (hh : ∀ a, l.head? = some a → P a) : ∀ e, e ∈ l → P e := by
  induction hc with
  | nil => exact fun _ he => nomatch he
  | single a => exact fun e he => hh e (congrArg some (List.mem_singleton.mp he).symm)
  | @cons a b l hr _ ih =>
    exact List.forall_mem_cons.mpr ⟨hh a rfl, ih fun x hx => Option.some.inj hx ▸ hstep _ _ hr (hh a rfl)⟩

end Chain

section Search
variable {α : Type} [DecidableEq α]

def IsPath (succ : α → List α) (R : List α) (f : α) (p : List α) : Prop :=
  (∃ r, p.head? = some r ∧ r ∈ R) ∧ ChainOf (fun x y => y ∈ succ x) p ∧ p.getLast? = some f

omit [DecidableEq α] in
theorem IsPath.reach {succ : α → List α} {R : List α} {f : α} {p : List α} (h : IsPath succ R f p) :
    ∀ x, x ∈ p → Reach succ R x := by
  obtain ⟨⟨r, hr, hrR⟩, hc, _⟩ := h
  exact hc.forall_of_head (fun _ _ hs hx => hx.step hs) fun a ha => Option.some.inj (hr.symm.trans ha) ▸ .base hrR

/-- the back-pointer table is well-founded: every entry `(q, p)` was appended when `q` was new and `p` old -/
inductive BPWF (succ : α → List α) (R : List α) : Dict α α → Prop
  | nil : BPWF succ R []
  | snoc {bp : Dict α α} {q p : α} : BPWF succ R bp → q ∉ R → q ∉ bp.map (·.1) →
      (p ∈ R ∨ p ∈ bp.map (·.1)) → q ∈ succ p → BPWF succ R (bp ++ [(q, p)])

theorem makePath_append_ok (R : List α) (bp : Dict α α) (e : α × α) :
    ∀ (fuel : Nat) (q : α) (path res : List α), makePath R bp fuel q path = .ok res →
      makePath R (bp ++ [e]) fuel q path = .ok res := by
  intro fuel
  induction fuel with
  | zero => intro q path res h; simp [makePath] at h
  | succ n ih =>
    intro q path res h
    simp only [makePath] at h ⊢
    by_cases hq : q ∈ R
    · simp only [hq, if_true] at h ⊢; exact h
    · simp only [hq, if_false] at h ⊢
      cases hl : bp.lookup q with
      | none => rw [hl] at h; cases h
      | some p =>
        rw [hl] at h
        have : (bp ++ [e]).lookup q = some p := by
          rw [List.lookup_append, hl]; rfl
        rw [this]
        exact ih p (q :: path) res h

/-- Following the back-pointers from a visited `q` succeeds within `|bp| + 1` steps and prepends to `path` a chain
    `pre ++ [q]` of successor steps that starts in `R`. By induction on the table: the entry added last is never
    looked up from older keys, so older paths are unchanged (`makePath_append_ok`). -/
theorem makePath_spec {succ : α → List α} {R : List α} {bp : Dict α α} (h : BPWF succ R bp) :
    ∀ q, (q ∈ R ∨ q ∈ bp.map (·.1)) → ∀ fuel, bp.length + 1 ≤ fuel → ∀ path,
      ∃ pre, makePath R bp fuel q path = .ok (pre ++ q :: path) ∧
        (∃ r, (pre ++ [q]).head? = some r ∧ r ∈ R) ∧ ChainOf (fun x y => y ∈ succ x) (pre ++ [q]) := by
  induction h with
  | nil =>
    intro q hq fuel hfuel path
    rcases hq with hq | hq
    · obtain ⟨n, rfl⟩ : ∃ n, fuel = n + 1 := ⟨fuel - 1, by omega⟩
      exact ⟨[], by simp [makePath, hq], ⟨q, rfl, hq⟩, ChainOf.single q⟩
    · simp at hq
  | @snoc bp q0 p0 hwf hqR hqk hp hsucc ih =>
    intro q hq fuel hfuel path
    rw [List.length_append, List.length_singleton] at hfuel
    obtain ⟨n, rfl⟩ : ∃ n, fuel = n + 1 := ⟨fuel - 1, by omega⟩
    by_cases hR : q ∈ R
    · exact ⟨[], by simp [makePath, hR], ⟨q, rfl, hR⟩, ChainOf.single q⟩
    · have hq' : q ∈ bp.map (·.1) ∨ q = q0 := by
        rcases hq with hq | hq
        · exact absurd hq hR
        · simpa using hq
      rcases hq' with hq' | rfl
      · obtain ⟨pre, hm, hgood⟩ := ih q (Or.inr hq') (n + 1) (by omega) path
        exact ⟨pre, makePath_append_ok R bp _ _ _ _ _ hm, hgood⟩
      · obtain ⟨pre, hm, ⟨r, hr, hrR⟩, hc⟩ := ih p0 hp n (by omega) (q :: path)
        refine ⟨pre ++ [p0], ?_, ⟨r, ?_, hrR⟩, ?_⟩
        · have hl : (bp ++ [(q, p0)]).lookup q = some p0 := by
            rw [List.lookup_append, Dict.lookup_eq_none_iff.mpr hqk]
            simp [List.lookup]
          simp only [makePath, hR, if_false, hl]
          rw [makePath_append_ok R bp _ _ _ _ _ hm]
          simp
        · rw [List.append_assoc, List.head?_append]
          rw [List.head?_append] at hr
          cases hpre : pre.head? with
          | none => rw [hpre] at hr; simpa using hr
          | some x => rw [hpre] at hr; simpa using hr
        · refine ChainOf.append hc (ChainOf.single q) ?_
          intro a b ha hb
          simp only [List.getLast?_append, List.getLast?_singleton, Option.some_or, Option.some.injEq] at ha
          simp only [List.head?_cons, Option.some.injEq] at hb
          subst ha hb
          exact hsucc

/-- the part of the loop invariant that `searchTargets` maintains on its own. While the successors of a popped state
    are visited one at a time the state still counts as unexpanded: `G` is `[src]` then, and `[]` between iterations. -/
structure SearchInv (succ : α → List α) (R G : List α) (st : SearchState α) : Prop where
  nodup : st.visited.Nodup
  vis_iff : ∀ x, x ∈ st.visited ↔ x ∈ R ∨ x ∈ st.bp.map (·.1)
  sat : Sat succ R st.visited (G ++ st.todo)
  wf : BPWF succ R st.bp

theorem searchTargets_grow (f src : α) (qs : List α) (st : SearchState α) :
    ∃ new, (searchTargets f src qs st).1.visited = st.visited ++ new ∧
      (searchTargets f src qs st).1.todo = st.todo ++ new := by
  induction qs generalizing st with
  | nil => exact ⟨[], (List.append_nil _).symm, (List.append_nil _).symm⟩
  | cons q qs ih =>
    rw [searchTargets]
    split
    · exact ih st
    · split
      · exact ⟨[q], rfl, rfl⟩
      · obtain ⟨new, hv, ht⟩ :=
          ih { visited := st.visited ++ [q], todo := st.todo ++ [q], bp := st.bp ++ [(q, src)] }
        exact ⟨q :: new, by rw [hv, List.append_assoc]; rfl, by rw [ht, List.append_assoc]; rfl⟩

omit [DecidableEq α] in
theorem SearchInv.push {succ : α → List α} {R G : List α} {st : SearchState α} (h : SearchInv succ R G st)
    {src q : α} (hsrc : src ∈ st.visited) (hq : q ∈ succ src) (hqv : q ∉ st.visited) :
    SearchInv succ R G { visited := st.visited ++ [q], todo := st.todo ++ [q], bp := st.bp ++ [(q, src)] } := by
  refine ⟨?_, fun x => ?_, List.append_assoc .. ▸ h.sat.push hsrc hq, ?_⟩
  · refine List.nodup_append.mpr ⟨h.nodup, by simp, fun a ha b hb hab => ?_⟩
    exact hqv (List.mem_singleton.mp hb ▸ hab ▸ ha)
  · simp only [List.mem_append, List.mem_singleton, List.map_append, List.map_cons, List.map_nil, h.vis_iff x]
    exact or_assoc
  · exact BPWF.snoc h.wf (fun hc => hqv ((h.vis_iff q).mpr (Or.inl hc)))
      (fun hc => hqv ((h.vis_iff q).mpr (Or.inr hc))) ((h.vis_iff src).mp hsrc) hq

theorem searchTargets_inv (succ : α → List α) (R : List α) (f src : α) :
    ∀ (qs : List α) (st : SearchState α), (∀ q, q ∈ qs → q ∈ succ src) →
      SearchInv succ R [src] st → f ∉ st.visited →
      SearchInv succ R [src] (searchTargets f src qs st).1 ∧
      ((searchTargets f src qs st).2 = false →
          f ∉ (searchTargets f src qs st).1.visited ∧
            ∀ q, q ∈ qs → q ∈ (searchTargets f src qs st).1.visited) ∧
      ((searchTargets f src qs st).2 = true → f ∈ (searchTargets f src qs st).1.visited) := by
  intro qs
  induction qs with
  | nil => exact fun st _ hinv hf => ⟨hinv, fun _ => ⟨hf, fun q hq => (nomatch hq)⟩, fun h => (nomatch h)⟩
  | cons q qs ih =>
    intro st hqs hinv hf
    have hqs' : ∀ q', q' ∈ qs → q' ∈ succ src := fun q' hq' => hqs q' (List.mem_cons_of_mem _ hq')
    have mono : ∀ st' : SearchState α, q ∈ st'.visited → q ∈ (searchTargets f src qs st').1.visited := by
      intro st' hq
      obtain ⟨new, hv, _⟩ := searchTargets_grow f src qs st'
      rw [hv]; exact List.mem_append_left _ hq
    rw [searchTargets]
    split
    · rename_i hqv
      obtain ⟨h1, h6, h7⟩ := ih st hqs' hinv hf
      exact ⟨h1, fun hn => ⟨(h6 hn).1, List.forall_mem_cons.mpr ⟨mono st hqv, (h6 hn).2⟩⟩, h7⟩
    · rename_i hqv
      have hinv' := hinv.push (hinv.sat.todo_sub src List.mem_cons_self) (hqs q List.mem_cons_self) hqv
      split
      · rename_i hqf
        exact ⟨hinv', fun h => (nomatch h), fun _ => List.mem_append_right _ (List.mem_singleton.mpr hqf.symm)⟩
      · rename_i hqf
        obtain ⟨h1, h6, h7⟩ := ih _ hqs' hinv'
          (fun hc => (List.mem_append.mp hc).elim hf fun hc => hqf (List.mem_singleton.mp hc).symm)
        exact ⟨h1, fun hn => ⟨(h6 hn).1, List.forall_mem_cons.mpr
          ⟨mono _ (List.mem_append_right _ (List.mem_singleton.mpr rfl)), (h6 hn).2⟩⟩, h7⟩

omit [DecidableEq α] in
theorem SearchInv.pop {succ : α → List α} {R : List α} {st : SearchState α} (h : SearchInv succ R [] st)
    {i : Nat} {src : α} {rest : List α} (hp : pickAt st.todo i = some (src, rest)) :
    SearchInv succ R [src] { st with todo := rest } :=
  ⟨h.nodup, h.vis_iff, h.sat.todo_congr fun x => List.mem_cons.trans (pickAt_mem_iff hp x).symm, h.wf⟩

omit [DecidableEq α] in
theorem SearchInv.drop {succ : α → List α} {R : List α} {src : α} {st : SearchState α} (h : SearchInv succ R [src] st)
    (hs : ∀ y, y ∈ succ src → y ∈ st.visited) : SearchInv succ R [] st :=
  ⟨h.nodup, h.vis_iff, h.sat.drop hs, h.wf⟩

/-- what every iteration of `searchLoop` keeps; with `todo = []` the visited set is the reachable set (`Sat.mem_iff`) -/
structure LoopInv (succ : α → List α) (R : List α) (f : α) (st : SearchState α) : Prop extends SearchInv succ R [] st where
  fresh : f ∉ st.visited

/-- one induction for the three facts about the loop: `none` is conclusive, a returned path is genuine, and the
    potential `|todo| + |U ∖ visited|` bounds the number of iterations -/
theorem searchLoop_spec (succ : α → List α) (R : List α) (f : α) :
    ∀ (fuel : Nat) (s : Sched) (st : SearchState α), LoopInv succ R f st →
      (∀ r, searchLoop succ R f fuel s st = .ok r →
        (r = none → ¬ Reach succ R f) ∧ ∀ p, r = some p → IsPath succ R f p) ∧
      ∀ U : List α, (∀ x, Reach succ R x → x ∈ U) → st.todo.length + (U.length - st.visited.length) ≤ fuel →
        ∃ r, searchLoop succ R f fuel s st = .ok r := by
  have final : ∀ st : SearchState α, LoopInv succ R f st → st.todo = [] → ¬ Reach succ R f :=
    fun st h hempty hreach => h.fresh (((hempty ▸ h.sat : Sat succ R st.visited []).mem_iff f).mpr hreach)
  have hlen : ∀ (U G : List α) (st : SearchState α), (∀ x, Reach succ R x → x ∈ U) → SearchInv succ R G st →
      st.visited.length ≤ U.length :=
    fun U G st hU hinv => List.Nodup.length_le_of_subset hinv.nodup fun x hx => hU x (hinv.sat.sound x hx)
  intro fuel
  induction fuel with
  | zero =>
    intro s st h
    simp only [searchLoop]
    refine ⟨fun r hr => ?_, fun U _ hm => ?_⟩
    · obtain ⟨ht, hr⟩ := Except.ite_eq_ok_error.mp hr
      cases hr
      exact ⟨fun _ => final st h (List.isEmpty_iff.mp ht), fun _ hp => (nomatch hp)⟩
    · rw [List.eq_nil_of_length_eq_zero (Nat.eq_zero_of_le_zero (Nat.le_trans (Nat.le_add_right _ _) hm))]
      exact ⟨none, rfl⟩
  | succ n ih =>
    intro s st h
    simp only [searchLoop]
    cases hp : pickAt st.todo s.next.1 with
    | none =>
      exact ⟨fun r hr => by cases hr; exact ⟨fun _ => final st h (pickAt_eq_none_iff.mp hp), fun _ hp => (nomatch hp)⟩,
        fun _ _ _ => ⟨none, rfl⟩⟩
    | some sr =>
      obtain ⟨src, rest⟩ := sr
      simp only
      obtain ⟨h1, h6, h7⟩ := searchTargets_inv succ R f src (succ src)
        { st with todo := rest } (fun q hq => hq) (h.toSearchInv.pop hp) h.fresh
      obtain ⟨new, hv, ht⟩ := searchTargets_grow f src (succ src) { st with todo := rest }
      cases hfound : (searchTargets f src (succ src) { st with todo := rest }).2 with
      | false =>
        simp only [Bool.false_eq_true, if_false]
        obtain ⟨h6a, h6b⟩ := h6 hfound
        obtain ⟨ih1, ih2⟩ := ih s.next.2 _ ⟨h1.drop h6b, h6a⟩
        refine ⟨ih1, fun U hU hm => ih2 U hU ?_⟩
        have hl1 := hlen U _ _ hU h1
        have hpl := pickAt_length hp
        rw [hv, List.length_append] at hl1 ⊢
        rw [ht, List.length_append]
        simp only at hl1 ⊢
        omega
      | true =>
        simp only [if_true]
        obtain ⟨pre, hm, hhead, hchain⟩ :=
          makePath_spec h1.wf f ((h1.vis_iff f).mp (h7 hfound)) _ (Nat.le_refl _) []
        rw [hm]
        exact ⟨fun r hr => by cases hr; exact ⟨fun hn => (nomatch hn), fun p hp => by cases hp; exact ⟨hhead, hchain, by simp⟩⟩,
          fun _ _ _ => ⟨_, rfl⟩⟩

theorem loopInv_init (succ : α → List α) {R : List α} {f : α} (hf : f ∉ R) :
    LoopInv succ R f { visited := dedup R, todo := dedup R, bp := [] } :=
  ⟨⟨nodup_dedup R, fun x => by simp, Sat.init fun _ => mem_dedup, BPWF.nil⟩, by simpa using hf⟩

/-- any returned path is a genuine path: starts in R, consecutive elements are successors, ends in f -/
theorem findPath_sound (succ : α → List α) (fuel : Nat) (s : Sched) (R : List α) (f : α) (p : List α)
    (h : findPath succ fuel s R f = .ok (some p)) :
    (∃ r, p.head? = some r ∧ r ∈ R) ∧ ChainOf (fun x y => y ∈ succ x) p ∧ p.getLast? = some f := by
  unfold findPath at h
  split at h
  · cases h
    exact ⟨⟨f, rfl, ‹_›⟩, ChainOf.single f, rfl⟩
  · exact ((searchLoop_spec succ R f fuel s _ (loopInv_init succ ‹_›)).1 _ h).2 p rfl

/-- `none` only if f is not reachable -/
theorem findPath_none (succ : α → List α) (fuel : Nat) (s : Sched) (R : List α) (f : α)
    (h : findPath succ fuel s R f = .ok none) : ¬ Reach succ R f := by
  unfold findPath at h
  split at h
  · cases h
  · exact ((searchLoop_spec succ R f fuel s _ (loopInv_init succ ‹_›)).1 _ h).1 rfl

/-- termination: if every state reachable from R lies in a list U (finite universe), fuel ≥ U.length + 1
    suffices: the search never yields `.error` (neither out of fuel nor a missing back-pointer) -/
theorem findPath_total (succ : α → List α) (s : Sched) (R : List α) (f : α) (U : List α)
    (hU : ∀ x, Reach succ R x → x ∈ U) (fuel : Nat) (hf : U.length + 1 ≤ fuel) :
    ∃ r, findPath succ fuel s R f = .ok r := by
  unfold findPath
  split
  · exact ⟨_, rfl⟩
  · refine (searchLoop_spec succ R f fuel s _ (loopInv_init succ ‹_›)).2 U hU ?_
    have : (dedup R).length ≤ U.length :=
      List.Nodup.length_le_of_subset (nodup_dedup R) (fun x hx => hU x (Reach.base (mem_dedup.mp hx)))
    simp only
    omega

theorem findPath_complete (succ : α → List α) (s : Sched) (R : List α) (f : α) (U : List α)
    (hU : ∀ x, Reach succ R x → x ∈ U) (fuel : Nat) (hf : U.length + 1 ≤ fuel) (hr : Reach succ R f) :
    ∃ p, findPath succ fuel s R f = .ok (some p) ∧ IsPath succ R f p := by
  obtain ⟨r, hr'⟩ := findPath_total succ s R f U hU fuel hf
  cases r with
  | none => exact absurd hr (findPath_none succ fuel s R f hr')
  | some p => exact ⟨p, hr', findPath_sound succ fuel s R f p hr'⟩

end Search
end Gamba
