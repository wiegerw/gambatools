/-
  Gamba.Proofs.C18 — the three Thompson building blocks `NFA.union`, `NFA.concat`, `NFA.repetition` (as repaired).
  Each is "build the automaton (`unionRaw`, `concatRaw`, `repetitionRaw`), then run the constructor's validity check":
  an inversion lemma for the check, and for each raw automaton its validity (every write keeps the entries admissible:
  `EntryOK`), its language (the transition relation is read off the writes: `Holds`; the operands are then parts of the
  result, joined by ε-bridges: `NFA.Glue`, `NFA.Part.exit_induction`) and the uniqueness of the keys of its δ.  Validity
  needs no hypothesis on the operands' keys, the transition relation needs them distinct (`C18.exDup`), so the two are
  kept apart.  The fresh-name generator `genFresh`; concrete automata for the examples.
-/
import Gamba.Proofs.C01
import Gamba.Proofs.DecEq
import Gamba.Proofs.NFAParts
import Gamba.Proofs.C14a
import Gamba.Proofs.DictFold
namespace Gamba

section DictUpdate
variable {κ ν : Type} [DecidableEq κ]

theorem dictUpdate_cons (d : Dict κ ν) (kv : κ × ν) (e : Dict κ ν) :
    dictUpdate d (kv :: e) = dictUpdate (d.set kv.1 kv.2) e := rfl

theorem dictUpdate_nil (d : Dict κ ν) : dictUpdate d [] = d := rfl

section
variable [BEq κ] [LawfulBEq κ]

theorem lookup_set_self (d : Dict κ ν) (k : κ) (v : ν) : (d.set k v).lookup k = some v :=
  Dict.lookup_set_self d k v

theorem lookup_set_other (d : Dict κ ν) {k k' : κ} (v : ν) (h : k' ≠ k) :
    (d.set k v).lookup k' = d.lookup k' :=
  Dict.lookup_set_other d v h

/-- `d.update(e)` for an `e` without repeated keys: bindings of `e` win.
    (For an `e` with a repeated key the LAST binding would win while `lookup` on `e` returns the FIRST.) -/
theorem lookup_dictUpdate (d e : Dict κ ν) (hn : (e.map (·.1)).Nodup) (k : κ) :
    (dictUpdate d e).lookup k = (e.lookup k).or (d.lookup k) := by
  induction e generalizing d with
  | nil => simp [dictUpdate_nil]
  | cons kv e ih =>
    obtain ⟨k1, v1⟩ := kv
    simp only [List.map_cons, List.nodup_cons] at hn
    rw [dictUpdate_cons, ih _ hn.2, Dict.lookup_set, Dict.lookup_cons_ite]
    by_cases h : k = k1
    · subst h
      simp [Dict.lookup_eq_none_iff.mpr hn.1]
    · simp [h]

end

theorem forall_mem_dictUpdate {P : κ × ν → Prop} {d e : Dict κ ν}
    (hd : ∀ x, x ∈ d → P x) (he : ∀ x, x ∈ e → P x) : ∀ x, x ∈ dictUpdate d e → P x :=
  List.foldlRecOn (motive := fun d : Dict κ ν => ∀ x, x ∈ d → P x) e _ hd fun _ hb kv hkv =>
    Dict.forall_mem_set hb (he kv hkv)

theorem nodup_keys_dictUpdate {d : Dict κ ν} (e : Dict κ ν) (h : (d.map (·.1)).Nodup) :
    ((dictUpdate d e).map (·.1)).Nodup :=
  List.foldlRecOn (motive := fun d : Dict κ ν => (d.map (·.1)).Nodup) e _ h fun _ hb _ _ =>
    Dict.nodup_keys_set _ _ hb

end DictUpdate

section
variable {σ τ : Type} [DecidableEq σ] [DecidableEq τ]

omit [DecidableEq σ] in
theorem NFA.rekey_self (N : NFA σ τ) {eps : τ} (he : N.eps = eps) : N.rekey eps = N.delta := by
  unfold NFA.rekey
  have : ∀ e : (σ × τ) × List σ, ((e.1.1, if e.1.2 = N.eps then eps else e.1.2), e.2) = e := by
    intro e
    obtain ⟨⟨q, a⟩, T⟩ := e
    simp only [Prod.mk.injEq, and_true, true_and]
    split
    · rename_i h; rw [h, he]
    · rfl
  simp only [this, List.map_id']

theorem nodup_keys_foldAddTarget (F : List σ) (a : τ) (t : σ) {d : Dict (σ × τ) (List σ)}
    (h : (d.map (·.1)).Nodup) : (((F.foldl (fun d q => addTarget d (q, a) t) d)).map (·.1)).Nodup :=
  List.foldlRecOn (motive := fun d : Dict (σ × τ) (List σ) => (d.map (·.1)).Nodup) F _ h fun _ hb _ _ =>
    Dict.nodup_keys_set _ _ hb

/-- an entry of δ mentions only declared states and symbols -/
def EntryOK (Q : List σ) (Sigma : List τ) (eps : τ) (e : (σ × τ) × List σ) : Prop :=
  e.1.1 ∈ Q ∧ (e.1.2 ∈ Sigma ∨ e.1.2 = eps) ∧ ∀ x, x ∈ e.2 → x ∈ Q

theorem NFA.valid_iff_entryOK (N : NFA σ τ) :
    N.valid = true ↔
      N.q0 ∈ N.Q ∧ (∀ f, f ∈ N.F → f ∈ N.Q) ∧ N.eps ∉ N.Sigma ∧
      ∀ e, e ∈ N.delta → EntryOK N.Q N.Sigma N.eps e := by
  rw [NFA.valid_iff]
  constructor
  · rintro ⟨h1, h2, h3, h4⟩
    exact ⟨h1, h2, h3, fun e he => h4 e.1.1 e.1.2 e.2 he⟩
  · rintro ⟨h1, h2, h3, h4⟩
    exact ⟨h1, h2, h3, fun q a T he => h4 _ he⟩

omit [DecidableEq σ] [DecidableEq τ] in
theorem EntryOK.mono {Q Q' : List σ} {Sigma Sigma' : List τ} {eps : τ} {e : (σ × τ) × List σ}
    (hQ : ∀ q, q ∈ Q → q ∈ Q') (hS : ∀ a, a ∈ Sigma → a ∈ Sigma') (h : EntryOK Q Sigma eps e) :
    EntryOK Q' Sigma' eps e :=
  ⟨hQ _ h.1, h.2.1.imp (hS _) id, fun x hx => hQ _ (h.2.2 x hx)⟩

theorem entryOK_addTarget {Q : List σ} {Sigma : List τ} {eps : τ} {d : Dict (σ × τ) (List σ)} {k : σ × τ} {t : σ}
    (hk : k.1 ∈ Q ∧ (k.2 ∈ Sigma ∨ k.2 = eps)) (ht : t ∈ Q) (hd : ∀ e, e ∈ d → EntryOK Q Sigma eps e) :
    ∀ e, e ∈ addTarget d k t → EntryOK Q Sigma eps e := by
  refine Dict.forall_mem_set hd ⟨hk.1, hk.2, fun x hx => ?_⟩
  rcases mem_sinsert.mp hx with hx | rfl
  · obtain ⟨T, hl, hx⟩ := mem_getD_nil_iff.mp hx
    exact (hd _ (Dict.mem_of_lookup hl)).2.2 x hx
  · exact ht

theorem entryOK_foldAddTarget {Q : List σ} {Sigma : List τ} {eps : τ} (F : List σ) {a : τ} {t : σ}
    (hF : ∀ f, f ∈ F → f ∈ Q) (ha : a ∈ Sigma ∨ a = eps) (ht : t ∈ Q)
    {d : Dict (σ × τ) (List σ)} (hd : ∀ e, e ∈ d → EntryOK Q Sigma eps e) :
    ∀ e, e ∈ F.foldl (fun d q => addTarget d (q, a) t) d → EntryOK Q Sigma eps e :=
  List.foldlRecOn (motive := fun d : Dict (σ × τ) (List σ) => ∀ e, e ∈ d → EntryOK Q Sigma eps e) F _ hd
    fun _ hb f hf => entryOK_addTarget ⟨hF f hf, ha⟩ ht hb

theorem NFA.entryOK_of_valid {N : NFA σ τ} (h : N.valid = true) {Q : List σ} {Sigma : List τ}
    (hQ : ∀ q, q ∈ N.Q → q ∈ Q) (hS : ∀ a, a ∈ N.Sigma → a ∈ Sigma) :
    ∀ e, e ∈ N.delta → EntryOK Q Sigma N.eps e :=
  fun e he => (((NFA.valid_iff_entryOK N).mp h).2.2.2 e he).mono hQ hS

/-- `q' ∈ d[q, a]` (a missing key means ∅) iff `R q a q'` -/
def Holds (d : Dict (σ × τ) (List σ)) (R : σ → τ → σ → Prop) : Prop :=
  ∀ q a q', q' ∈ (d.lookup (q, a)).getD [] ↔ R q a q'

theorem Holds.succ {N : NFA σ τ} {R : σ → τ → σ → Prop} (h : Holds N.delta R) (q : σ) (a : τ) (q' : σ) :
    N.Succ q a q' ↔ R q a q' :=
  (N.mem_succ_iff q a q').symm.trans (h q a q')

/-- `d[p, b] = T`, where `T` contains what `d[p, b]` held -/
theorem Holds.set {d : Dict (σ × τ) (List σ)} {R : σ → τ → σ → Prop} (h : Holds d R) {p : σ} {b : τ} {T : List σ}
    (hT : ∀ q', R p b q' → q' ∈ T) :
    Holds (d.set (p, b) T) fun q a q' => R q a q' ∨ (q = p ∧ a = b ∧ q' ∈ T) := by
  intro q a q'
  rw [Dict.lookup_set]
  split
  · rename_i hk
    cases hk
    exact ⟨fun hx => Or.inr ⟨rfl, rfl, hx⟩, fun hx => hx.elim (hT q') fun hx => hx.2.2⟩
  · rename_i hk
    exact (h q a q').trans ⟨Or.inl, fun hx => hx.resolve_right fun hx => hk (by rw [hx.1, hx.2.1])⟩

/-- `d[f, b] |= {t}` for `f` in `F` -/
theorem Holds.foldAddTarget {d : Dict (σ × τ) (List σ)} {R : σ → τ → σ → Prop} (h : Holds d R) (F : List σ) (b : τ)
    (t : σ) :
    Holds (F.foldl (fun d f => addTarget d (f, b) t) d) fun q a q' => R q a q' ∨ (q ∈ F ∧ a = b ∧ q' = t) := by
  intro q a q'
  refine (Dict.mem_lookup_foldl_add (fun f => (f, b)) (fun _ => t) F d (q, a) q').trans (or_congr (h q a q') ?_)
  constructor
  · rintro ⟨f, hf, hk, ht⟩
    cases hk
    exact ⟨hf, rfl, ht.symm⟩
  · rintro ⟨hf, rfl, rfl⟩
    exact ⟨q, hf, rfl, rfl⟩

/-- `_nfa_copy_delta` of a dict with the operand's own ε -/
theorem NFA.holds_copy (N : NFA σ τ) (hk : (N.delta.map (·.1)).Nodup) :
    Holds (dictUpdate [] (N.rekey N.eps)) N.Succ := by
  intro q a q'
  rw [N.rekey_self rfl, lookup_dictUpdate _ _ hk, List.lookup_nil, Option.or_none]
  exact N.mem_succ_iff q a q'

/-- `dictUpdate (dictUpdate [] δ1') δ2'` of `nfa_union` / `nfa_concatenation` -/
def mergedDelta (N1 N2 : NFA σ τ) : Dict (σ × τ) (List σ) :=
  dictUpdate (dictUpdate [] (N1.rekey N1.eps)) (N2.rekey N1.eps)

theorem holds_mergedDelta (N1 N2 : NFA σ τ) (h1 : N1.valid = true) (h2 : N2.valid = true)
    (hk1 : (N1.delta.map (·.1)).Nodup) (hk2 : (N2.delta.map (·.1)).Nodup)
    (hd : ∀ q, q ∈ N1.Q → q ∉ N2.Q) (he : N2.eps = N1.eps) :
    Holds (mergedDelta N1 N2) fun q a q' => N1.Succ q a q' ∨ N2.Succ q a q' := by
  intro q a q'
  show _ ∈ ((dictUpdate _ (N2.rekey N1.eps)).lookup _).getD [] ↔ N1.Succ q a q' ∨ N2.Succ q a q'
  rw [N2.rekey_self he, lookup_dictUpdate _ _ hk2, ← N2.mem_succ_iff, NFA.succ, ← N1.holds_copy hk1 q a q']
  cases hl2 : N2.delta.lookup (q, a) with
  | none => simp
  | some T =>
    -- a key of `N2` is no key of `N1`
    rw [Option.some_or, Option.getD_some, iff_or_self]
    intro hx
    exact absurd (NFA.valid_closed h2 (Dict.mem_of_lookup hl2)).1
      (hd q (NFA.valid_Succ_src h1 ((N1.holds_copy hk1 q a q').mp hx)))

theorem entryOK_mergedDelta (N1 N2 : NFA σ τ) (h1 : N1.valid = true) (h2 : N2.valid = true)
    (he : N2.eps = N1.eps) {Q : List σ} (hQ1 : ∀ q, q ∈ N1.Q → q ∈ Q) (hQ2 : ∀ q, q ∈ N2.Q → q ∈ Q) :
    ∀ e, e ∈ mergedDelta N1 N2 → EntryOK Q (sunion N1.Sigma N2.Sigma) N1.eps e := by
  unfold mergedDelta
  rw [N1.rekey_self rfl, N2.rekey_self he]
  apply forall_mem_dictUpdate
  · apply forall_mem_dictUpdate
    · intro x hx; cases hx
    · exact NFA.entryOK_of_valid h1 hQ1 fun a ha => mem_sunion.mpr (Or.inl ha)
  · exact he ▸ NFA.entryOK_of_valid h2 hQ2 fun a ha => mem_sunion.mpr (Or.inr ha)

theorem nodup_keys_mergedDelta (N1 N2 : NFA σ τ) : ((mergedDelta N1 N2).map (·.1)).Nodup :=
  nodup_keys_dictUpdate _ (nodup_keys_dictUpdate _ (by simp))

/-- the automaton built by `nfa_union` before the validity check -/
def NFA.unionRaw (N1 N2 : NFA σ τ) (q0 : σ) : NFA σ τ :=
  { Q := sinsert (sunion N1.Q N2.Q) q0, Sigma := sunion N1.Sigma N2.Sigma,
    delta := (mergedDelta N1 N2).set (q0, N1.eps) (dedup [N1.q0, N2.q0]),
    q0 := q0, F := sunion N1.F N2.F, eps := N1.eps }

theorem NFA.union_eq (N1 N2 : NFA σ τ) (q0 : σ) :
    N1.union N2 q0 = if !sdisjoint N1.Q N2.Q then .error .assertion else (N1.unionRaw N2 q0).checked := rfl

theorem NFA.unionRaw_valid (N1 N2 : NFA σ τ) (q0 : σ) (h1 : N1.valid = true) (h2 : N2.valid = true)
    (he : N2.eps = N1.eps) : (N1.unionRaw N2 q0).valid = true := by
  rw [NFA.valid_iff_entryOK]
  refine ⟨?_, ?_, ?_, ?_⟩
  · simp [NFA.unionRaw]
  · intro f hf
    simp only [NFA.unionRaw, mem_sunion, mem_sinsert] at hf ⊢
    rcases hf with hf | hf
    · exact Or.inl (Or.inl (NFA.valid_F h1 hf))
    · exact Or.inl (Or.inr (NFA.valid_F h2 hf))
  · simp only [NFA.unionRaw, mem_sunion, not_or]
    exact ⟨NFA.valid_eps h1, he ▸ NFA.valid_eps h2⟩
  · simp only [NFA.unionRaw]
    apply Dict.forall_mem_set
    · exact entryOK_mergedDelta N1 N2 h1 h2 he
        (fun q hq => mem_sinsert.mpr (Or.inl (mem_sunion.mpr (Or.inl hq))))
        (fun q hq => mem_sinsert.mpr (Or.inl (mem_sunion.mpr (Or.inr hq))))
    · refine ⟨by simp, Or.inr rfl, ?_⟩
      intro x hx
      simp only [mem_dedup, List.mem_cons, List.not_mem_nil, or_false] at hx
      simp only [mem_sinsert, mem_sunion]
      rcases hx with rfl | rfl
      · exact Or.inl (Or.inl (NFA.valid_q0 h1))
      · exact Or.inl (Or.inr (NFA.valid_q0 h2))

theorem NFA.unionRaw_lang (N1 N2 : NFA σ τ) (q0 : σ) (h1 : N1.valid = true) (h2 : N2.valid = true)
    (hk1 : (N1.delta.map (·.1)).Nodup) (hk2 : (N2.delta.map (·.1)).Nodup)
    (hd : ∀ q, q ∈ N1.Q → q ∉ N2.Q) (hq1 : q0 ∉ N1.Q) (hq2 : q0 ∉ N2.Q) (he : N2.eps = N1.eps)
    (w : List τ) :
    (N1.unionRaw N2 q0).Accepts w ↔ (N1.Accepts w ∨ N2.Accepts w) := by
  -- `q0` has no transition in the merged δ, so `δ[q0, ε] = {N1.q0, N2.q0}` overwrites nothing
  have g : Glue N1 N2 (N1.unionRaw N2 q0) _ :=
    ⟨h1, h2, hd, rfl, he.symm, ((holds_mergedDelta N1 N2 h1 h2 hk1 hk2 hd he).set (T := dedup [N1.q0, N2.q0])
      fun q' hs => (hs.elim (fun s => hq1 (valid_Succ_src h1 s)) fun s => hq2 (valid_Succ_src h2 s)).elim).succ
        (N := N1.unionRaw N2 q0)⟩
  have p1 : Part N1 _ _ fun _ _ => False := g.left fun q a q' hq hx => absurd (hx.1 ▸ hq) hq1
  have p2 : Part N2 _ _ fun _ _ => False := g.right fun q a q' hq hx => absurd (hx.1 ▸ hq) hq2
  constructor
  · rintro ⟨f, hf, hr⟩
    have hf : f ∈ N1.F ∨ f ∈ N2.F := mem_sunion.mp hf
    -- the first move leaves `q0` for one of the two initial states, and the rest of the run stays in that operand
    cases hr with
    | nil => exact (hf.elim (fun h => hq1 (valid_F h1 h)) fun h => hq2 (valid_F h2 h)).elim
    | sym ha hs _ => exact absurd (g.outside hq1 hq2 hs).2.1 ha
    | eps hs hr' =>
      obtain ⟨-, -, ht⟩ := g.outside hq1 hq2 hs
      rcases List.mem_cons.mp (mem_dedup.mp ht) with rfl | ht
      · obtain ⟨hr1, hfQ⟩ := p1.confined hr' (valid_q0 h1)
        exact Or.inl ⟨f, hf.resolve_right fun hf2 => hd f hfQ (valid_F h2 hf2), hr1⟩
      · cases List.mem_singleton.mp ht
        obtain ⟨hr2, hfQ⟩ := p2.confined hr' (valid_q0 h2)
        exact Or.inr ⟨f, hf.resolve_left fun hf1 => hd f (valid_F h1 hf1) hfQ, hr2⟩
  · have hb : ∀ t, t ∈ [N1.q0, N2.q0] → (N1.unionRaw N2 q0).Succ q0 N1.eps t :=
      fun t ht => (g.succ _ _ _).mpr (Or.inr ⟨rfl, rfl, mem_dedup.mpr ht⟩)
    rintro (⟨f, hf, hr⟩ | ⟨f, hf, hr⟩)
    · exact ⟨f, mem_sunion.mpr (Or.inl hf), .eps (hb _ List.mem_cons_self) (p1.run hr)⟩
    · exact ⟨f, mem_sunion.mpr (Or.inr hf), .eps (hb _ (List.mem_cons_of_mem _ List.mem_cons_self)) (p2.run hr)⟩

theorem NFA.unionRaw_keys_nodup (N1 N2 : NFA σ τ) (q0 : σ) :
    ((N1.unionRaw N2 q0).delta.map (·.1)).Nodup :=
  Dict.nodup_keys_set _ _ (nodup_keys_mergedDelta N1 N2)

theorem NFA.union_eq_ok_iff {N1 N2 N : NFA σ τ} {q0 : σ} :
    N1.union N2 q0 = .ok N ↔
      (∀ q, q ∈ N1.Q → q ∉ N2.Q) ∧ (N1.unionRaw N2 q0).valid = true ∧ N = N1.unionRaw N2 q0 := by
  rw [NFA.union_eq, Except.ite_error_eq_ok, NFA.checked_eq_ok_iff, Bool.not_eq_true, Bool.not_eq_false',
    sdisjoint_iff]

theorem NFA.union_ok (N1 N2 : NFA σ τ) (q0 : σ) (h1 : N1.valid = true) (h2 : N2.valid = true)
    (hd : ∀ q, q ∈ N1.Q → q ∉ N2.Q) (he : N2.eps = N1.eps) :
    N1.union N2 q0 = .ok (N1.unionRaw N2 q0) :=
  NFA.union_eq_ok_iff.mpr ⟨hd, NFA.unionRaw_valid N1 N2 q0 h1 h2 he, rfl⟩

/-- the automaton built by `nfa_concatenation` before the validity check -/
def NFA.concatRaw (N1 N2 : NFA σ τ) : NFA σ τ :=
  { Q := sinsert (sunion N1.Q N2.Q) N1.q0, Sigma := sunion N1.Sigma N2.Sigma,
    delta := N1.F.foldl (fun d q => addTarget d (q, N1.eps) N2.q0) (mergedDelta N1 N2),
    q0 := N1.q0, F := N2.F, eps := N1.eps }

theorem NFA.concat_eq (N1 N2 : NFA σ τ) :
    N1.concat N2 = if !sdisjoint N1.Q N2.Q then .error .assertion else (N1.concatRaw N2).checked := rfl

theorem NFA.concatRaw_valid (N1 N2 : NFA σ τ) (h1 : N1.valid = true) (h2 : N2.valid = true)
    (he : N2.eps = N1.eps) : (N1.concatRaw N2).valid = true := by
  have hQ1 : ∀ q, q ∈ N1.Q → q ∈ sinsert (sunion N1.Q N2.Q) N1.q0 :=
    fun q hq => mem_sinsert.mpr (Or.inl (mem_sunion.mpr (Or.inl hq)))
  have hQ2 : ∀ q, q ∈ N2.Q → q ∈ sinsert (sunion N1.Q N2.Q) N1.q0 :=
    fun q hq => mem_sinsert.mpr (Or.inl (mem_sunion.mpr (Or.inr hq)))
  rw [NFA.valid_iff_entryOK]
  refine ⟨?_, ?_, ?_, ?_⟩
  · simp [NFA.concatRaw]
  · intro f hf
    exact hQ2 f (NFA.valid_F h2 hf)
  · simp only [NFA.concatRaw, mem_sunion, not_or]
    exact ⟨NFA.valid_eps h1, he ▸ NFA.valid_eps h2⟩
  · simp only [NFA.concatRaw]
    exact entryOK_foldAddTarget N1.F (fun f hf => hQ1 f (NFA.valid_F h1 hf)) (Or.inr rfl)
      (hQ2 _ (NFA.valid_q0 h2)) (entryOK_mergedDelta N1 N2 h1 h2 he hQ1 hQ2)

theorem NFA.concat_eq_ok_iff {N1 N2 N : NFA σ τ} :
    N1.concat N2 = .ok N ↔
      (∀ q, q ∈ N1.Q → q ∉ N2.Q) ∧ (N1.concatRaw N2).valid = true ∧ N = N1.concatRaw N2 := by
  rw [NFA.concat_eq, Except.ite_error_eq_ok, NFA.checked_eq_ok_iff, Bool.not_eq_true, Bool.not_eq_false',
    sdisjoint_iff]

theorem NFA.concat_ok (N1 N2 : NFA σ τ) (h1 : N1.valid = true) (h2 : N2.valid = true)
    (hd : ∀ q, q ∈ N1.Q → q ∉ N2.Q) (he : N2.eps = N1.eps) :
    N1.concat N2 = .ok (N1.concatRaw N2) :=
  NFA.concat_eq_ok_iff.mpr ⟨hd, NFA.concatRaw_valid N1 N2 h1 h2 he, rfl⟩

theorem NFA.concatRaw_lang (N1 N2 : NFA σ τ) (h1 : N1.valid = true) (h2 : N2.valid = true)
    (hk1 : (N1.delta.map (·.1)).Nodup) (hk2 : (N2.delta.map (·.1)).Nodup)
    (hd : ∀ q, q ∈ N1.Q → q ∉ N2.Q) (he : N2.eps = N1.eps) (w : List τ) :
    (N1.concatRaw N2).Accepts w ↔ ∃ u v, w = u ++ v ∧ N1.Accepts u ∧ N2.Accepts v := by
  have g : Glue N1 N2 (N1.concatRaw N2) _ :=
    ⟨h1, h2, hd, rfl, he.symm, ((holds_mergedDelta N1 N2 h1 h2 hk1 hk2 hd he).foldAddTarget N1.F N1.eps N2.q0).succ
      (N := N1.concatRaw N2)⟩
  have p1 : Part N1 _ _ fun e t => e ∈ N1.F ∧ t = N2.q0 := g.left fun q a q' _ hx => ⟨hx.2.1, hx.1, hx.2.2⟩
  have p2 : Part N2 _ _ fun _ _ => False :=
    g.right fun q a q' hq hx => absurd hq (hd q (valid_F h1 hx.1))
  constructor
  · rintro ⟨f, hf, hr⟩
    -- the run leaves `N1` once, from a final state, and the rest is a run of `N2`
    refine p1.exit_induction (C := fun q w f => f ∈ N2.F → ∃ u v, w = u ++ v ∧ (∃ e, e ∈ N1.F ∧ N1.Run q u e) ∧ N2.Accepts v)
      ?_ ?_ hr (valid_q0 h1) hf
    · intro q w r _ hr1 hr2
      exact absurd (valid_F h2 hr2) (hd r hr1)
    · rintro q u e t v r hu - ⟨he1, rfl⟩ hv - hr2
      exact ⟨u, v, rfl, ⟨e, he1, hu⟩, r, hr2, (p2.confined hv (valid_q0 h2)).1⟩
  · rintro ⟨u, v, rfl, ⟨e, he1, hu⟩, f, hf, hv⟩
    exact ⟨f, hf, p1.bridge (fun e t hb => (g.succ _ _ _).mpr (Or.inr ⟨hb.1, rfl, hb.2⟩)) hu ⟨he1, rfl⟩
      (p2.run hv)⟩

theorem NFA.concatRaw_keys_nodup (N1 N2 : NFA σ τ) :
    ((N1.concatRaw N2).delta.map (·.1)).Nodup :=
  nodup_keys_foldAddTarget _ _ _ (nodup_keys_mergedDelta N1 N2)

/-- the automaton built by `nfa_repetition` before the validity check -/
def NFA.repetitionRaw (N : NFA σ τ) (q0 : σ) : NFA σ τ :=
  { Q := sinsert N.Q q0, Sigma := N.Sigma,
    delta := ((sinsert N.F q0).foldl (fun d q => addTarget d (q, N.eps) N.q0)
                (dictUpdate [] (N.rekey N.eps))).set (q0, N.eps) [N.q0],
    q0 := q0, F := sinsert N.F q0, eps := N.eps }

theorem NFA.repetitionRaw_valid (N : NFA σ τ) (q0 : σ) (h1 : N.valid = true) :
    (N.repetitionRaw q0).valid = true := by
  have hQ : ∀ q, q ∈ N.Q → q ∈ sinsert N.Q q0 := fun q hq => mem_sinsert.mpr (Or.inl hq)
  rw [NFA.valid_iff_entryOK]
  refine ⟨?_, ?_, ?_, ?_⟩
  · simp [NFA.repetitionRaw]
  · intro f hf
    simp only [NFA.repetitionRaw, mem_sinsert] at hf ⊢
    exact hf.imp (NFA.valid_F h1) id
  · exact (NFA.valid_eps h1 : N.eps ∉ N.Sigma)
  · simp only [NFA.repetitionRaw]
    apply Dict.forall_mem_set
    · apply entryOK_foldAddTarget
      · intro f hf
        simp only [mem_sinsert] at hf ⊢
        exact hf.imp (NFA.valid_F h1) id
      · exact Or.inr rfl
      · exact hQ _ (NFA.valid_q0 h1)
      · rw [N.rekey_self rfl]
        apply forall_mem_dictUpdate
        · intro x hx; cases hx
        · exact NFA.entryOK_of_valid h1 hQ fun a ha => ha
    · exact ⟨by simp, Or.inr rfl, fun x hx => by
        simp only [List.mem_singleton] at hx; subst hx; exact hQ _ (NFA.valid_q0 h1)⟩

theorem NFA.repetition_ok (N : NFA σ τ) (q0 : σ) (h1 : N.valid = true) :
    N.repetition q0 = .ok (N.repetitionRaw q0) :=
  NFA.checked_of_valid (NFA.repetitionRaw_valid N q0 h1)

theorem NFA.repetitionRaw_lang (N : NFA σ τ) (q0 : σ) (h1 : N.valid = true)
    (hk : (N.delta.map (·.1)).Nodup) (hq : q0 ∉ N.Q) (w : List τ) :
    (N.repetitionRaw q0).Accepts w ↔ ∃ ws : List (List τ), w = ws.flatten ∧ ∀ u, u ∈ ws → N.Accepts u := by
  -- the last write, `δ[q0, ε] = {N.q0}`, repeats what the loop over `F ∪ {q0}` has put there
  have hS := (((N.holds_copy hk).foldAddTarget (sinsert N.F q0) N.eps N.q0).set (T := [N.q0]) fun q' hs =>
    hs.elim (fun s => absurd (valid_Succ_src h1 s) hq) fun s => List.mem_singleton.mpr s.2.2).succ (N := N.repetitionRaw q0)
  -- `q0` counts as a state of the part: it has no transitions of `N`, and its bridge is that of the final states
  have pt : Part N (N.repetitionRaw q0) (fun q => q ∈ N.Q ∨ q = q0) fun e t => (e ∈ N.F ∨ e = q0) ∧ t = N.q0 :=
    ⟨rfl, fun q a q' hs => (hS q a q').mpr (Or.inl (Or.inl hs)), fun q a q' _ hs => by
      rcases (hS q a q').mp hs with (s | ⟨hf, ha, ht⟩) | ⟨hf, ha, ht⟩
      · exact Or.inl ⟨s, Or.inl (valid_Succ h1 s)⟩
      · exact Or.inr ⟨ha, mem_sinsert.mp hf, ht⟩
      · exact Or.inr ⟨ha, Or.inr hf, List.mem_singleton.mp ht⟩⟩
  have hb : ∀ e t, (e ∈ N.F ∨ e = q0) ∧ t = N.q0 → (N.repetitionRaw q0).Succ e N.eps t :=
    fun e t hb => (hS _ _ _).mpr (Or.inl (Or.inr ⟨mem_sinsert.mpr hb.1, rfl, hb.2⟩))
  constructor
  · rintro ⟨f, hf, hr⟩
    -- a run to a final state: a run of `N` to a final state or `q0`, then accepted words
    obtain ⟨u, ws, rfl, ⟨e, -, hu⟩, hws⟩ := pt.exit_induction (C := fun q w f => (f ∈ N.F ∨ f = q0) → ∃ u ws,
        w = u ++ List.flatten ws ∧ (∃ e, (e ∈ N.F ∨ e = q0) ∧ N.Run q u e) ∧ ∀ v, v ∈ ws → N.Accepts v)
      (fun q w r hr1 _ hf => ⟨w, [], (List.append_nil w).symm, ⟨r, hf, hr1⟩, fun _ hv => nomatch hv⟩)
      (by
        rintro q u e t v r hu - ⟨he1, rfl⟩ - ih hf
        obtain ⟨u', ws, rfl, ⟨e', he', hu'⟩, hws⟩ := ih (Or.inl (valid_q0 h1)) hf
        have he' : e' ∈ N.F := he'.resolve_right fun h => hq (h ▸ (hu'.mem h1 (valid_q0 h1)).1)
        exact ⟨u, u' :: ws, rfl, ⟨e, he1, hu⟩, List.forall_mem_cons.mpr ⟨⟨e', he', hu'⟩, hws⟩⟩)
      hr (Or.inr rfl) (mem_sinsert.mp hf)
    rw [(hu.of_no_succ fun a q' s => hq (valid_Succ_src h1 s)).1]
    exact ⟨ws, rfl, hws⟩
  · rintro ⟨ws, rfl, hws⟩
    -- from `q0` or a final state: a bridge, an accepted word, and again
    suffices H : ∀ p, p ∈ N.F ∨ p = q0 → ∃ f, (f ∈ N.F ∨ f = q0) ∧ (N.repetitionRaw q0).Run p ws.flatten f by
      obtain ⟨f, hf, hr⟩ := H q0 (Or.inr rfl)
      exact ⟨f, mem_sinsert.mpr hf, hr⟩
    induction ws with
    | nil => exact fun p hp => ⟨p, hp, .nil _⟩
    | cons u ws ih =>
      intro p hp
      obtain ⟨⟨e, he1, hu⟩, hws⟩ := List.forall_mem_cons.mp hws
      obtain ⟨f, hf, hr⟩ := ih hws e (Or.inl he1)
      exact ⟨f, hf, .eps (hb p _ ⟨hp, rfl⟩) ((pt.run hu).append hr)⟩

theorem NFA.repetitionRaw_keys_nodup (N : NFA σ τ) (q0 : σ) :
    ((N.repetitionRaw q0).delta.map (·.1)).Nodup :=
  Dict.nodup_keys_set _ _ (nodup_keys_foldAddTarget _ _ _ (nodup_keys_dictUpdate _ (by simp)))

end

theorem genFreshAux_fst (Q : List String) (fuel i : Nat) :
    (genFreshAux Q fuel i).1 = freshStateAux Q "q" fuel i := by
  induction fuel generalizing i with
  | zero => rfl
  | succ fuel ih =>
    unfold genFreshAux freshStateAux
    split
    · exact ih (i + 1)
    · rfl

theorem genFreshAux_snd (Q : List String) (fuel i : Nat) : i < (genFreshAux Q fuel i).2 := by
  induction fuel generalizing i with
  | zero => simp [genFreshAux]
  | succ fuel ih =>
    unfold genFreshAux
    split
    · exact Nat.lt_trans (Nat.lt_succ_self i) (ih (i + 1))
    · simp

/-! ### concrete automata for the examples of Props/C18 and Props/C18b -/
namespace C18

/-- the single word `a` -/
def exA : NFA String String :=
  { Q := ["a0", "a1"], Sigma := ["a"], delta := [(("a0", "a"), ["a1"])], q0 := "a0", F := ["a1"],
    eps := "eps" }

/-- `b⁺`, with an ε-move back to the start -/
def exB : NFA String String :=
  { Q := ["b0", "b1"], Sigma := ["b"], delta := [(("b0", "b"), ["b1"]), (("b1", "eps"), ["b0"])],
    q0 := "b0", F := ["b1"], eps := "eps" }

/-- a δ with a repeated key (impossible for a Python dict): `lookup` sees the first binding,
    `dictUpdate` keeps the last one -/
def exDup : NFA String String :=
  { Q := ["s", "t", "u"], Sigma := ["a"], delta := [(("s", "a"), ["t"]), (("s", "a"), ["u"])],
    q0 := "s", F := ["t"], eps := "eps" }

/-- no transitions, empty language -/
def exEmpty : NFA String String :=
  { Q := ["z"], Sigma := ["a"], delta := [], q0 := "z", F := [], eps := "eps" }

theorem exA_accepts : exA.Accepts ["a"] :=
  (NFA.Accepts_iff_eval (s := []) (b := true) (by decide +kernel) (by decide +kernel) (by decide +kernel)).mpr rfl

theorem exB_accepts : exB.Accepts ["b", "b"] :=
  (NFA.Accepts_iff_eval (s := []) (b := true) (by decide +kernel) (by decide +kernel) (by decide +kernel)).mpr rfl

/-- the operand with the repeated key accepts `a` … -/
theorem exDup_accepts : exDup.Accepts ["a"] :=
  (NFA.Accepts_iff_eval (s := []) (b := true) (by decide +kernel) (by decide +kernel) (by decide +kernel)).mpr rfl

/-- … but its union with the empty automaton does not: no transition of the union enters `t` -/
theorem exDup_union_not_accepts : ¬ (exDup.unionRaw exEmpty "n").Accepts ["a"] := fun h =>
  Bool.false_ne_true
    ((NFA.Accepts_iff_eval (s := []) (b := false) (by decide +kernel) (by decide +kernel) (by decide +kernel)).mp h)

/-- hence the language clause of `nfa_union_spec` fails for δ lists with a repeated key -/
theorem exDup_union_counterexample :
    exDup.valid = true ∧ exEmpty.valid = true ∧ (∀ q, q ∈ exDup.Q → q ∉ exEmpty.Q) ∧
    "n" ∉ exDup.Q ∧ "n" ∉ exEmpty.Q ∧ exEmpty.eps = exDup.eps ∧
    ∃ N, exDup.union exEmpty "n" = .ok N ∧
      ¬ ∀ w, N.Accepts w ↔ (exDup.Accepts w ∨ exEmpty.Accepts w) := by
  refine ⟨by decide, by decide, sdisjoint_iff.mp (by decide), by decide, by decide, rfl,
    exDup.unionRaw exEmpty "n", by rfl, ?_⟩
  intro h
  exact exDup_union_not_accepts ((h ["a"]).mpr (Or.inl exDup_accepts))

end C18

end Gamba
