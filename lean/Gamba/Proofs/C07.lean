/-
  Gamba.Proofs.C07 — the CYK table of the model is exact for grammars in Chomsky normal form
  (soundness unconditionally; completeness when every variable occurring on a right-hand side
  is declared in `G.V`, which `G.valid` implies).
-/
import Gamba.Proofs.CFGBasic
import Gamba.Proofs.Dict
namespace Gamba
namespace CFG

def RhsDeclared (G : CFG) : Prop := ∀ r, r ∈ G.R → ∀ B, Sym.v B ∈ r.rhs → B ∈ G.V

theorem rhsDeclared_of_valid {G : CFG} (h : G.valid = true) : G.RhsDeclared := by
  intro r hr B hB
  exact ((valid_iff G).mp h r hr).2 (.v B) hB

theorem RhsDeclared.of_hasRule {G : CFG} (h : G.RhsDeclared) {A : String} {rhs : List Sym}
    (hr : G.HasRule A rhs) {B : String} (hB : Sym.v B ∈ rhs) : B ∈ G.V := by
  obtain ⟨r, hrR, _, rfl⟩ := hr
  exact h r hrR B hB

theorem mem_cykCell {G : CFG} {X : CykTable} {i j : Nat} {A : String} :
    A ∈ cykCell G X i j ↔
      A ∈ G.V ∧ ∃ k B C, i ≤ k ∧ k < j ∧ B ∈ cykGet X i k ∧ C ∈ cykGet X (k + 1) j ∧
        G.HasRule A [.v B, .v C] := by
  unfold cykCell
  rw [mem_foldl_acc (P := fun d A => ∃ B, B ∈ cykGet X i (i + d) ∧ ∃ C, C ∈ cykGet X (i + d + 1) j ∧
    A ∈ G.V.filter (fun A => decide ([Sym.v B, Sym.v C] ∈ G.prods A)))]
  · simp only [List.not_mem_nil, false_or, List.mem_range, List.mem_filter, decide_eq_true_eq,
      mem_prods_iff]
    constructor
    · rintro ⟨d, hd, B, hB, C, hC, hV, hr⟩
      exact ⟨hV, i + d, B, C, by omega, by omega, hB, hC, hr⟩
    · rintro ⟨hV, k, B, C, hik, hkj, hB, hC, hr⟩
      have hk : i + (k - i) = k := by omega
      refine ⟨k - i, by omega, B, ?_, C, ?_, hV, hr⟩
      · rw [hk]; exact hB
      · rw [hk]; exact hC
  · intro acc d x
    show x ∈ (cykGet X i (i + d)).foldl _ acc ↔ _
    rw [mem_foldl_acc (P := fun B A => ∃ C, C ∈ cykGet X (i + d + 1) j ∧
      A ∈ G.V.filter (fun A => decide ([Sym.v B, Sym.v C] ∈ G.prods A)))]
    intro acc B x
    rw [mem_foldl_acc (P := fun C A =>
      A ∈ G.V.filter (fun A => decide ([Sym.v B, Sym.v C] ∈ G.prods A)))]
    intro acc C x
    exact mem_sunion

/-- `w[i..j]` (both ends included) -/
def subw (w : List String) (i j : Nat) : List String := (w.drop i).take (j - i + 1)

theorem length_subw {w : List String} {i j : Nat} (hij : i ≤ j) (hj : j < w.length) :
    (subw w i j).length = j - i + 1 := by
  simp only [subw, List.length_take, List.length_drop]; omega

theorem subw_split {w : List String} {i k j : Nat} (hik : i ≤ k) (hkj : k < j) :
    subw w i j = subw w i k ++ subw w (k + 1) j := by
  unfold subw
  have h1 : j - i + 1 = (k - i + 1) + (j - (k + 1) + 1) := by omega
  have h2 : i + (k - i + 1) = k + 1 := by omega
  rw [h1, List.take_add, List.drop_drop, h2]

theorem subw_diag {w : List String} {i : Nat} (hi : i < w.length) : subw w i i = [w[i]] := by
  simp only [subw, Nat.sub_self, Nat.zero_add]
  rw [List.drop_eq_getElem_cons hi, List.take_succ_cons, List.take_zero]

theorem subw_full (w : List String) : subw w 0 (w.length - 1) = w := by
  simp only [subw, List.drop_zero, Nat.sub_zero]
  apply List.take_of_length_le
  omega

theorem cnf_gen_subw_split {G : CFG} (hc : G.isChomsky = true) {w : List String} {i j : Nat} (hij : i < j)
    (hj : j < w.length) {A : String} (hg : G.Gen [.v A] (subw w i j)) :
    ∃ k B C, i ≤ k ∧ k < j ∧ G.HasRule A [.v B, .v C] ∧ G.Gen [.v B] (subw w i k) ∧
      G.Gen [.v C] (subw w (k + 1) j) := by
  have hlen : (subw w i j).length = j - i + 1 := length_subw (by omega) hj
  obtain ⟨B, C, u, v, hr, hu, hv, huv, hune, hvne⟩ := (cnf_gen_v_ge2_iff hc (by omega)).mp hg
  have hul := List.length_pos_iff.mpr hune
  have hvl := List.length_pos_iff.mpr hvne
  have hsum : u.length + v.length = j - i + 1 := by rw [← List.length_append, ← huv, hlen]
  -- the split point is fixed by the length of the left part
  have hik : i ≤ i + u.length - 1 := by omega
  have hkj : i + u.length - 1 < j := by omega
  have hsp := subw_split (w := w) hik hkj
  rw [huv] at hsp
  obtain ⟨e1, e2⟩ := List.append_inj hsp (by rw [length_subw hik (by omega)]; omega)
  exact ⟨i + u.length - 1, B, C, hik, hkj, hr, e1 ▸ hu, e2 ▸ hv⟩

/-- cell `(i, j)` is filled once all rows (span lengths) below `m` and the first `I` cells of row `m` are done -/
def Done (n m I i j : Nat) : Prop := i ≤ j ∧ j < n ∧ (j - i < m ∨ (j - i = m ∧ i < I))

/-- the table `X` while row `m` is being filled, up to column `I`: it has only `Done` cells, every variable
    in a cell is declared and generates the subword, and (declared right-hand sides) every such variable is there -/
structure Inv (G : CFG) (w : List String) (m I : Nat) (X : CykTable) : Prop where
  keys : ∀ i j, X.lookup (i, j) ≠ none → Done w.length m I i j
  sound : ∀ i j, Done w.length m I i j → ∀ A, A ∈ cykGet X i j →
    (A ∈ G.V ∧ G.Gen [.v A] (subw w i j))
  complete : G.RhsDeclared → ∀ i j, Done w.length m I i j → ∀ A, A ∈ G.V →
    G.Gen [.v A] (subw w i j) → A ∈ cykGet X i j

def cykDiag (G : CFG) (w : List String) : CykTable :=
  w.zipIdx.map fun (a, i) => ((i, i), G.V.filter fun A => decide ([Sym.t a] ∈ G.prods A))

theorem mem_cykDiag {G : CFG} {w : List String} {k : Nat × Nat} {c : List String} :
    (k, c) ∈ cykDiag G w ↔
      ∃ i, ∃ hi : i < w.length, k = (i, i) ∧ c = G.V.filter fun A => decide ([Sym.t w[i]] ∈ G.prods A) := by
  simp only [cykDiag, List.mem_map, Prod.exists, List.mem_zipIdx_iff_getElem?, List.getElem?_eq_some_iff,
    Prod.mk.injEq]
  constructor
  · rintro ⟨a, i, ⟨hi, ha⟩, he, rfl⟩; exact ⟨i, hi, he.symm, ha ▸ rfl⟩
  · rintro ⟨i, hi, rfl, rfl⟩; exact ⟨_, i, ⟨hi, rfl⟩, rfl, rfl⟩

theorem cykGet_diag {G : CFG} {w : List String} {i : Nat} (hi : i < w.length) :
    cykGet (cykDiag G w) i i = G.V.filter fun A => decide ([Sym.t w[i]] ∈ G.prods A) := by
  unfold cykGet
  rw [lookup_eq_some_of_unique (mem_cykDiag.mpr ⟨i, hi, rfl, rfl⟩) fun c hc => by
    obtain ⟨i', hi', he, rfl⟩ := mem_cykDiag.mp hc
    cases he; rfl]
  rfl

theorem inv_diag {G : CFG} (hc : G.isChomsky = true) (w : List String) :
    Inv G w 1 0 (cykDiag G w) := by
  have hdone : ∀ i j, Done w.length 1 0 i j → i = j ∧ i < w.length := by
    intro i j h; unfold Done at h; omega
  refine ⟨?_, ?_, ?_⟩
  · intro i j hne
    obtain ⟨c, hlk⟩ := Option.ne_none_iff_exists'.mp hne
    obtain ⟨i', hi', he, _⟩ := mem_cykDiag.mp (Dict.mem_of_lookup hlk)
    cases he
    unfold Done; omega
  · intro i j hd A hA
    obtain ⟨rfl, hi⟩ := hdone i j hd
    rw [cykGet_diag hi] at hA
    simp only [List.mem_filter, decide_eq_true_eq, mem_prods_iff] at hA
    rw [subw_diag hi]
    exact ⟨hA.1, (cnf_gen_v_single_iff hc).mpr hA.2⟩
  · intro _ i j hd A hV hg
    obtain ⟨rfl, hi⟩ := hdone i j hd
    rw [cykGet_diag hi]
    rw [subw_diag hi] at hg
    simp only [List.mem_filter, decide_eq_true_eq, mem_prods_iff]
    exact ⟨hV, (cnf_gen_v_single_iff hc).mp hg⟩

theorem inv_step {G : CFG} (hc : G.isChomsky = true) {w : List String} {m I : Nat} {X : CykTable}
    (hm : 1 ≤ m) (hI : I + m < w.length) (h : Inv G w m I X) :
    Inv G w m (I + 1) (X ++ [((I, I + m), cykCell G X I (I + m))]) := by
  -- the key is new, so appending the cell is the dictionary update `X[(I, I + m)] = cell`
  have hnone : X.lookup (I, I + m) = none := by
    apply Classical.byContradiction
    intro hne
    have := h.keys _ _ hne
    unfold Done at this; omega
  rw [← Dict.set_of_not_mem _ (Dict.lookup_eq_none_iff.mp hnone)]
  have hnew : cykGet (Dict.set X (I, I + m) (cykCell G X I (I + m))) I (I + m) = cykCell G X I (I + m) := by
    unfold cykGet; rw [Dict.lookup_set_self]; rfl
  have hold : ∀ i j, (i, j) ≠ (I, I + m) →
      cykGet (Dict.set X (I, I + m) (cykCell G X I (I + m))) i j = cykGet X i j := by
    intro i j hne; unfold cykGet; rw [Dict.lookup_set_other _ _ hne]
  have hsplit : ∀ i j, Done w.length m (I + 1) i j →
      (Done w.length m I i j ∧ (i, j) ≠ (I, I + m)) ∨ (i = I ∧ j = I + m) := by
    intro i j hd
    unfold Done at hd ⊢
    by_cases he : i = I ∧ j = I + m
    · exact Or.inr he
    · left
      refine ⟨by omega, ?_⟩
      intro hp
      simp only [Prod.mk.injEq] at hp
      exact he hp
  have hsmall1 : ∀ k, I ≤ k → k < I + m → Done w.length m I I k := by
    intro k h1 h2; unfold Done; omega
  have hsmall2 : ∀ k, I ≤ k → k < I + m → Done w.length m I (k + 1) (I + m) := by
    intro k h1 h2; unfold Done; omega
  refine ⟨?_, ?_, ?_⟩
  · intro i j hne
    rw [Dict.lookup_set] at hne
    split at hne
    · rename_i he
      cases he
      unfold Done; omega
    · have := h.keys i j hne
      unfold Done at this ⊢; omega
  · intro i j hd A hA
    rcases hsplit i j hd with ⟨hd', hne⟩ | ⟨rfl, rfl⟩
    · rw [hold i j hne] at hA
      exact h.sound i j hd' A hA
    · rw [hnew, mem_cykCell] at hA
      obtain ⟨hV, k, B, C, hik, hkj, hB, hC, hr⟩ := hA
      refine ⟨hV, ?_⟩
      have hB' := (h.sound _ _ (hsmall1 k hik hkj) B hB).2
      have hC' := (h.sound _ _ (hsmall2 k hik hkj) C hC).2
      rw [subw_split hik hkj]
      exact gen_v_iff.mpr ⟨_, hr, gen_vv_iff.mpr ⟨_, _, rfl, hB', hC'⟩⟩
  · intro hdecl i j hd A hV hg
    rcases hsplit i j hd with ⟨hd', hne⟩ | ⟨rfl, rfl⟩
    · rw [hold i j hne]
      exact h.complete hdecl i j hd' A hV hg
    · rw [hnew, mem_cykCell]
      obtain ⟨k, B, C, hik, hkj, hr, hu, hv⟩ := cnf_gen_subw_split hc (by omega) hI hg
      exact ⟨hV, k, B, C, hik, hkj,
        h.complete hdecl _ _ (hsmall1 k hik hkj) B (hdecl.of_hasRule hr (by simp)) hu,
        h.complete hdecl _ _ (hsmall2 k hik hkj) C (hdecl.of_hasRule hr (by simp)) hv, hr⟩

theorem inv_row_aux {G : CFG} (hc : G.isChomsky = true) {w : List String} {m : Nat} {X : CykTable}
    (hm : 1 ≤ m) (h : Inv G w m 0 X) (I : Nat) (hI : I ≤ w.length - m) :
    Inv G w m I ((List.range I).foldl
      (fun X i => X ++ [((i, i + m), cykCell G X i (i + m))]) X) := by
  induction I with
  | zero => simpa using h
  | succ I ih =>
    rw [List.range_succ, List.foldl_append]
    simp only [List.foldl_cons, List.foldl_nil]
    exact inv_step hc hm (by omega) (ih (by omega))

theorem inv_row {G : CFG} (hc : G.isChomsky = true) {w : List String} {m : Nat} {X : CykTable}
    (hm : 1 ≤ m) (h : Inv G w m 0 X) : Inv G w (m + 1) 0 (cykRow G w.length m X) := by
  have h' := inv_row_aux hc hm h (w.length - m) (Nat.le_refl _)
  have hd : ∀ i j, Done w.length (m + 1) 0 i j ↔ Done w.length m (w.length - m) i j := by
    intro i j; unfold Done; omega
  unfold cykRow
  exact ⟨fun i j hne => (hd i j).mpr (h'.keys i j hne),
    fun i j hdone => h'.sound i j ((hd i j).mp hdone),
    fun hdecl i j hdone => h'.complete hdecl i j ((hd i j).mp hdone)⟩

theorem inv_rows {G : CFG} (hc : G.isChomsky = true) (w : List String) (M : Nat) :
    Inv G w (M + 1) 0 ((List.range (M + 1)).foldl
      (fun X m => if m = 0 then X else cykRow G w.length m X) (cykDiag G w)) := by
  induction M with
  | zero => simpa using inv_diag hc w
  | succ M ih =>
    rw [List.range_succ, List.foldl_append]
    simp only [List.foldl_cons, List.foldl_nil, Nat.add_one_ne_zero, if_false]
    exact inv_row hc (by omega) ih

theorem cykMatrix_eq {G : CFG} (hc : G.isChomsky = true) (w : List String) :
    G.cykMatrix w = .ok ((List.range w.length).foldl
      (fun X m => if m = 0 then X else cykRow G w.length m X) (cykDiag G w)) := by
  unfold cykMatrix cykDiag
  simp [hc]

theorem cykMatrix_inv {G : CFG} (hc : G.isChomsky = true) {w : List String} {X : CykTable}
    (hX : G.cykMatrix w = .ok X) (hw : w ≠ []) : Inv G w w.length 0 X := by
  rw [cykMatrix_eq hc] at hX
  injection hX with hX
  subst hX
  have hpos := List.length_pos_iff.mpr hw
  have := inv_rows hc w (w.length - 1)
  have he : w.length - 1 + 1 = w.length := by omega
  rw [he] at this
  exact this

theorem cykMatrix_sound {G : CFG} (hc : G.isChomsky = true) {w : List String} {X : CykTable}
    (hX : G.cykMatrix w = .ok X) {i j : Nat} (hij : i ≤ j) (hj : j < w.length) {A : String}
    (hA : A ∈ cykGet X i j) : A ∈ G.V ∧ G.Gen [.v A] ((w.drop i).take (j - i + 1)) := by
  have hw : w ≠ [] := by rintro rfl; simp at hj
  exact (cykMatrix_inv hc hX hw).sound i j (by unfold Done; omega) A hA

theorem cykMatrix_complete {G : CFG} (hc : G.isChomsky = true) (hdecl : G.RhsDeclared)
    {w : List String} {X : CykTable}
    (hX : G.cykMatrix w = .ok X) {i j : Nat} (hij : i ≤ j) (hj : j < w.length) {A : String}
    (hV : A ∈ G.V) (hg : G.Gen [.v A] ((w.drop i).take (j - i + 1))) : A ∈ cykGet X i j := by
  have hw : w ≠ [] := by rintro rfl; simp at hj
  exact (cykMatrix_inv hc hX hw).complete hdecl i j (by unfold Done; omega) A hV hg

theorem lang_of_start_mem_cell {G : CFG} (hc : G.isChomsky = true) {w : List String} (hw : w ≠ [])
    {X : CykTable} (hX : G.cykMatrix w = .ok X) (h : G.S ∈ cykGet X 0 (w.length - 1)) : G.Lang w := by
  have hpos := List.length_pos_iff.mpr hw
  exact subw_full w ▸ (cykMatrix_sound hc hX (Nat.zero_le _) (by omega) h).2

theorem start_mem_cell_iff {G : CFG} (hc : G.isChomsky = true) (hdecl : G.RhsDeclared) (hS : G.S ∈ G.V)
    {w : List String} (hw : w ≠ []) {X : CykTable} (hX : G.cykMatrix w = .ok X) :
    G.S ∈ cykGet X 0 (w.length - 1) ↔ G.Lang w := by
  have hpos := List.length_pos_iff.mpr hw
  have hfull : (w.drop 0).take (w.length - 1 - 0 + 1) = w := subw_full w
  exact ⟨lang_of_start_mem_cell hc hw hX, fun h =>
    cykMatrix_complete hc hdecl hX (Nat.zero_le _) (by omega) hS (hfull.symm ▸ h)⟩

theorem accepts_cnf_nil {G : CFG} (hc : G.isChomsky = true) :
    G.accepts [] = .ok (G.R.any fun r => decide (r.lhs = G.S) && r.rhs.isEmpty) := by
  simp [accepts, hc]

theorem accepts_cnf_cons {G : CFG} (hc : G.isChomsky = true) {w : List String} (hw : w ≠ [])
    {X : CykTable} (hX : G.cykMatrix w = .ok X) :
    G.accepts w = .ok (decide (G.S ∈ cykGet X 0 (w.length - 1))) := by
  have : w.isEmpty = false := by
    cases w with
    | nil => exact absurd rfl hw
    | cons => rfl
  simp only [accepts, hc, if_true, this, hX]
  rfl

theorem cykMatrix_ne_nil {G : CFG} {w : List String} (hw : w ≠ []) {X : CFG.CykTable}
    (hX : G.cykMatrix w = .ok X) : X ≠ [] := by
  unfold CFG.cykMatrix at hX
  split at hX
  · cases hX
  · injection hX with hX
    subst hX
    -- the diagonal is not empty, and rows are only appended
    refine List.foldlRecOn _ _ (motive := (· ≠ [])) (by cases w <;> simp_all) fun X hX m _ => ?_
    split
    · exact hX
    · exact List.foldlRecOn _ _ (motive := (· ≠ [])) hX fun _ _ _ _ => by simp

end CFG
end Gamba
