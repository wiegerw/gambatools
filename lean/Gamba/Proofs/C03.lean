/-
  Gamba.Proofs.C03 — helper lemmas for property C03: the subset construction `nfa_to_dfa`
  (`NFA.toDfaSets` / `NFA.toDfa`) terminates and yields a valid total DFA with the same language,
  all of whose states are reachable.
-/
import Gamba.Proofs.DFABasic
import Gamba.Proofs.C01
import Gamba.Proofs.DecEq
import Gamba.Proofs.TextBasic
namespace Gamba
set_option linter.unusedSectionVars false

section Generic

/-- lookup of a pair key, elaborated at variable key types, so that at `κ₁ := List σ` it is syntactically the lookup
    that `DFA.Run`, `DFA.next`, `DFA.valid_iff` contain after instantiation (see `lookup_beq_irrel` for the obstacle).
    Converting with `lookup_beq_irrel` instead would have to be repeated at every use of the invariants `SInv`/`OInv`,
    which state the transition table through this definition. -/
def C03.dget {κ₁ κ₂ ν : Type} [DecidableEq κ₁] [DecidableEq κ₂] (d : Dict (κ₁ × κ₂) ν) (q : κ₁) (a : κ₂) :
    Option ν := d.lookup (q, a)

theorem C03.dget_set {κ₁ κ₂ ν : Type} [DecidableEq κ₁] [DecidableEq κ₂] (d : Dict (κ₁ × κ₂) ν)
    (q : κ₁) (a : κ₂) (v : ν) (q' : κ₁) (a' : κ₂) :
    C03.dget (d.set (q, a) v) q' a' = if q' = q ∧ a' = a then some v else C03.dget d q' a' := by
  unfold C03.dget
  rw [Dict.lookup_set]
  simp only [Prod.mk.injEq]

/-- all sublists of a list (with multiplicity): `2 ^ length` of them -/
def C03.subLists {α : Type} : List α → List (List α)
  | [] => [[]]
  | x :: l => C03.subLists l ++ (C03.subLists l).map (x :: ·)

theorem C03.length_subLists {α : Type} (l : List α) : (C03.subLists l).length = 2 ^ l.length := by
  induction l with
  | nil => rfl
  | cons x l ih =>
    simp only [C03.subLists, List.length_append, List.length_map, ih, List.length_cons, Nat.pow_succ]
    omega

theorem C03.filter_mem_subLists {α : Type} (p : α → Bool) (l : List α) : l.filter p ∈ C03.subLists l := by
  induction l with
  | nil => simp [C03.subLists]
  | cons x l ih =>
    simp only [C03.subLists, List.filter_cons, List.mem_append, List.mem_map]
    cases p x with
    | false => exact Or.inl ih
    | true => exact Or.inr ⟨_, ih, rfl⟩

end Generic

section
variable {σ τ : Type} [DecidableEq σ] [DecidableEq τ]

theorem NFA.mem_canon (N : NFA σ τ) (C : List σ) (q : σ) : q ∈ N.canon C ↔ q ∈ N.Q ∧ q ∈ C := by
  simp [NFA.canon, List.mem_filter]

theorem NFA.canon_congr (N : NFA σ τ) {C C' : List σ} (h : ∀ q, q ∈ N.Q → (q ∈ C ↔ q ∈ C')) :
    N.canon C = N.canon C' := by
  unfold NFA.canon
  apply List.filter_congr
  intro q hq
  simp only [decide_eq_decide]
  exact h q hq

theorem NFA.canon_canon (N : NFA σ τ) (C : List σ) : N.canon (N.canon C) = N.canon C := by
  apply N.canon_congr
  intro q hq
  rw [N.mem_canon]
  exact ⟨fun h => h.2, fun h => ⟨hq, h⟩⟩

theorem NFA.canon_eq_of_mem_iff (N : NFA σ τ) {S T : List σ} (hS : N.canon S = S) (hT : N.canon T = T)
    (h : ∀ q, q ∈ S ↔ q ∈ T) : S = T := by
  rw [← hS, ← hT]
  exact N.canon_congr (fun q _ => h q)

theorem NFA.mem_Q_of_canon (N : NFA σ τ) {S : List σ} (hS : N.canon S = S) {q : σ} (hq : q ∈ S) : q ∈ N.Q := by
  rw [← hS] at hq
  exact ((N.mem_canon _ _).mp hq).1

/-- `S` is the canonical list of the set of states reached on the word `u` -/
def NFA.Sub (N : NFA σ τ) (S : List σ) (u : List τ) : Prop :=
  N.canon S = S ∧ ∀ q, q ∈ S ↔ N.Run N.q0 u q

theorem NFA.Sub.ext {N : NFA σ τ} {S T : List σ} {u : List τ} (h1 : N.Sub S u) (h2 : N.Sub T u) : S = T :=
  N.canon_eq_of_mem_iff h1.1 h2.1 fun q => (h1.2 q).trans (h2.2 q).symm

theorem NFA.canon_mem_subLists (N : NFA σ τ) (C : List σ) : N.canon C ∈ C03.subLists N.Q :=
  C03.filter_mem_subLists _ _

def NFA.stepT (N : NFA σ τ) (s : Sched) (S : List σ) (a : τ) : List σ :=
  N.canon (N.closureT s (N.moveSet S a))

/-- an ε-closure taken inside `N.Q` loses nothing when it is made canonical -/
theorem NFA.mem_canon_closureT {N : NFA σ τ} (hv : N.valid = true) (s : Sched) {S : List σ}
    (hS : ∀ q, q ∈ S → q ∈ N.Q) (q : σ) : q ∈ N.canon (N.closureT s S) ↔ N.EpsReach S q := by
  rw [N.mem_canon, NFA.mem_closureT hv]
  exact and_iff_right_of_imp (NFA.EpsReach.mem_Q hv hS)

theorem NFA.mem_stepT {N : NFA σ τ} (hv : N.valid = true) (s : Sched) (S : List σ) (a : τ) (q : σ) :
    q ∈ N.stepT s S a ↔ ∃ p q1, p ∈ S ∧ N.Succ p a q1 ∧ N.EpsReach [q1] q :=
  (NFA.mem_canon_closureT hv s (fun x hx => ((N.mem_moveSet S a x).mp hx).elim fun _ h => NFA.valid_Succ hv h.2) q).trans
    NFA.epsReach_moveSet_iff

theorem NFA.Sub.step {N : NFA σ τ} (hv : N.valid = true) (s : Sched) {S : List σ} {u : List τ}
    (h : N.Sub S u) {a : τ} (ha : a ∈ N.Sigma) : N.Sub (N.stepT s S a) (u ++ [a]) :=
  ⟨N.canon_canon _, NFA.Reached.step (S := (· ∈ S)) h.2 (NFA.valid_ne_eps hv ha) (NFA.mem_stepT hv s S a)⟩

theorem NFA.Sub.init {N : NFA σ τ} (hv : N.valid = true) (s : Sched) :
    N.Sub (N.canon (N.closureT s [N.q0])) [] :=
  ⟨N.canon_canon _, fun q => (NFA.mem_canon_closureT hv s
    (fun _ hx => List.mem_singleton.mp hx ▸ NFA.valid_q0 hv) q).trans (NFA.Reached.init N q)⟩

/-! ### the inner loop as a total function -/

def NFA.innerF (N : NFA σ τ) (F : List (List σ)) (Q2 : List σ) : List (List σ) :=
  if !sdisjoint Q2 N.F then sinsert F Q2 else F

theorem NFA.mem_innerF (N : NFA σ τ) (F : List (List σ)) (Q2 S : List σ) :
    S ∈ N.innerF F Q2 ↔ S ∈ F ∨ (S = Q2 ∧ sdisjoint Q2 N.F = false) := by
  unfold NFA.innerF
  cases h : sdisjoint Q2 N.F <;> simp

def NFA.innerT (N : NFA σ τ) (s : Sched) (Q1 : List σ) (acc : SubsetAcc σ τ) (a : τ) : SubsetAcc σ τ :=
  { Q := sinsert acc.Q (N.stepT s Q1 a), delta := acc.delta.set (Q1, a) (N.stepT s Q1 a),
    F := N.innerF acc.F (N.stepT s Q1 a),
    todo := if N.stepT s Q1 a ∈ acc.Q then acc.todo else N.stepT s Q1 a :: acc.todo }

theorem NFA.subsetInner_eq {N : NFA σ τ} (hv : N.valid = true) (s : Sched) (Q1 : List σ)
    (acc : SubsetAcc σ τ) (a : τ) : N.subsetInner s Q1 acc a = .ok (N.innerT s Q1 acc a) := by
  unfold NFA.subsetInner
  rw [NFA.closure_eq_ok hv]
  show (if N.stepT s Q1 a ∈ acc.Q then _ else _) = _
  unfold NFA.innerT sinsert
  by_cases hc : N.stepT s Q1 a ∈ acc.Q
  · simp only [if_pos hc]; rfl
  · simp only [if_neg hc]; rfl

/-- one iteration of the `while todo:` loop after popping `Q1` (rest of the stack: `rest`) -/
def NFA.popT (N : NFA σ τ) (s : Sched) (Q1 : List σ) (rest : List (List σ)) (acc : SubsetAcc σ τ) :
    SubsetAcc σ τ :=
  N.Sigma.foldl (N.innerT s Q1) { acc with todo := rest }

theorem NFA.subsetLoop_succ {N : NFA σ τ} (hv : N.valid = true) (s : Sched) (fuel : Nat)
    (acc : SubsetAcc σ τ) :
    N.subsetLoop s (fuel + 1) acc =
      match acc.todo with
      | [] => .ok acc
      | Q1 :: rest => N.subsetLoop s fuel (N.popT s Q1 rest acc) := by
  rw [NFA.subsetLoop]
  cases acc.todo with
  | nil => rfl
  | cons Q1 rest =>
    simp only
    rw [foldlM_ok (g := N.innerT s Q1) _ _ (fun b a => NFA.subsetInner_eq hv s Q1 b a)]
    rfl

/-- invariant of the inner `for a in Sigma:` loop while `Q1` is being processed; `done` = the symbols
    already handled -/
structure NFA.SInv (N : NFA σ τ) (s : Sched) (Q0 : List σ) (acc : SubsetAcc σ τ) (Q1 : List σ)
    (done : List τ) : Prop where
  q0 : Q0 ∈ acc.Q
  sub : ∀ S, S ∈ acc.Q → ∃ u, (∀ a, a ∈ u → a ∈ N.Sigma) ∧ N.Sub S u
  todo : ∀ S, S ∈ acc.todo → S ∈ acc.Q
  dlt : ∀ S, S ∈ acc.Q → S ∉ acc.todo → S ≠ Q1 → ∀ a, a ∈ N.Sigma →
    C03.dget acc.delta S a = some (N.stepT s S a) ∧ N.stepT s S a ∈ acc.Q
  cur : Q1 ∈ acc.Q ∧ ∀ a, a ∈ done →
    C03.dget acc.delta Q1 a = some (N.stepT s Q1 a) ∧ N.stepT s Q1 a ∈ acc.Q
  closed : ∀ e, e ∈ acc.delta → e.1.1 ∈ acc.Q ∧ e.1.2 ∈ N.Sigma ∧ e.2 ∈ acc.Q
  fin : ∀ S, S ∈ acc.F ↔ S ∈ acc.Q ∧ sdisjoint S N.F = false
  nodup : acc.Q.Nodup

/-- invariant of the outer `while todo:` loop -/
structure NFA.OInv (N : NFA σ τ) (s : Sched) (Q0 : List σ) (acc : SubsetAcc σ τ) : Prop where
  q0 : Q0 ∈ acc.Q
  sub : ∀ S, S ∈ acc.Q → ∃ u, (∀ a, a ∈ u → a ∈ N.Sigma) ∧ N.Sub S u
  todo : ∀ S, S ∈ acc.todo → S ∈ acc.Q
  dlt : ∀ S, S ∈ acc.Q → S ∉ acc.todo → ∀ a, a ∈ N.Sigma →
    C03.dget acc.delta S a = some (N.stepT s S a) ∧ N.stepT s S a ∈ acc.Q
  closed : ∀ e, e ∈ acc.delta → e.1.1 ∈ acc.Q ∧ e.1.2 ∈ N.Sigma ∧ e.2 ∈ acc.Q
  fin : ∀ S, S ∈ acc.F ↔ S ∈ acc.Q ∧ sdisjoint S N.F = false
  nodup : acc.Q.Nodup

theorem NFA.SInv.inner {N : NFA σ τ} (hv : N.valid = true) {s : Sched} {Q0 : List σ}
    {acc : SubsetAcc σ τ} {Q1 : List σ} {done : List τ} (h : N.SInv s Q0 acc Q1 done)
    {a : τ} (ha : a ∈ N.Sigma) :
    N.SInv s Q0 (N.innerT s Q1 acc a) Q1 (a :: done) ∧
      (N.innerT s Q1 acc a).Q.length + acc.todo.length =
        acc.Q.length + (N.innerT s Q1 acc a).todo.length := by
  obtain ⟨u, hu, hsub1⟩ := h.sub Q1 h.cur.1
  have hQ : ∀ {S}, S ∈ (N.innerT s Q1 acc a).Q ↔ S ∈ acc.Q ∨ S = N.stepT s Q1 a := mem_sinsert
  have old : ∀ {S}, S ∈ acc.Q → S ∈ (N.innerT s Q1 acc a).Q := fun hS => hQ.mpr (.inl hS)
  have hQ2 : N.stepT s Q1 a ∈ (N.innerT s Q1 acc a).Q := hQ.mpr (.inr rfl)
  -- the only place where it matters whether `stepT Q1 a` is new
  obtain ⟨hT, hN, hlen⟩ : (∀ {S}, S ∈ (N.innerT s Q1 acc a).todo ↔
        S ∈ acc.todo ∨ S = N.stepT s Q1 a ∧ N.stepT s Q1 a ∉ acc.Q) ∧ (N.innerT s Q1 acc a).Q.Nodup ∧
      (N.innerT s Q1 acc a).Q.length + acc.todo.length = acc.Q.length + (N.innerT s Q1 acc a).todo.length := by
    unfold NFA.innerT sinsert
    by_cases hc : N.stepT s Q1 a ∈ acc.Q
    · simp only [if_pos hc]
      exact ⟨⟨.inl, fun h' => h'.elim id fun h' => absurd hc h'.2⟩, h.nodup, trivial⟩
    · simp only [if_neg hc]
      refine ⟨?_, List.nodup_append.mpr ⟨h.nodup, by simp, fun x hx y hy e =>
        hc (List.mem_singleton.mp hy ▸ e ▸ hx)⟩, ?_⟩
      · intro S
        rw [List.mem_cons, or_comm]
        exact or_congr_right ⟨fun h' => ⟨h', hc⟩, And.left⟩
      · simp only [List.length_append, List.length_cons, List.length_nil]
        omega
  refine ⟨⟨old h.q0, fun S hS => ?_, fun S hS => ?_, fun S hS hnt hne b hb => ?_, ⟨old h.cur.1, fun b hb => ?_⟩,
    fun e he => ?_, fun S => ?_, hN⟩, hlen⟩
  · rcases hQ.mp hS with hS | rfl
    · exact h.sub S hS
    · exact ⟨_, List.forall_mem_append.mpr ⟨hu, List.forall_mem_singleton.mpr ha⟩, hsub1.step hv s ha⟩
  · rcases hT.mp hS with hS | ⟨rfl, _⟩
    · exact old (h.todo S hS)
    · exact hQ2
  · -- a state that is neither on the worklist nor `Q1` was there before: a new state is on the worklist
    have hS0 : S ∈ acc.Q := (hQ.mp hS).elim id fun e =>
      Decidable.byContradiction fun hc => hnt (hT.mpr (.inr ⟨e, e ▸ hc⟩))
    obtain ⟨h1, h2⟩ := h.dlt S hS0 (fun hc => hnt (hT.mpr (.inl hc))) hne b hb
    exact ⟨(C03.dget_set ..).trans ((if_neg fun hc => hne hc.1).trans h1), old h2⟩
  · show C03.dget (acc.delta.set _ _) Q1 b = _ ∧ _
    rw [C03.dget_set]
    by_cases hba : b = a
    · subst hba
      rw [if_pos ⟨rfl, rfl⟩]
      exact ⟨rfl, hQ2⟩
    · rw [if_neg (fun hc => hba hc.2)]
      obtain ⟨h1, h2⟩ := h.cur.2 b ((List.mem_cons.mp hb).resolve_left hba)
      exact ⟨h1, old h2⟩
  · rcases Dict.mem_set he with rfl | he
    · exact ⟨old h.cur.1, ha, hQ2⟩
    · obtain ⟨h1, h2, h3⟩ := h.closed e he
      exact ⟨old h1, h2, old h3⟩
  · show S ∈ N.innerF _ _ ↔ _
    rw [N.mem_innerF, h.fin, hQ]
    constructor
    · rintro (⟨h1, h2⟩ | ⟨rfl, h2⟩)
      · exact ⟨Or.inl h1, h2⟩
      · exact ⟨Or.inr rfl, h2⟩
    · rintro ⟨h1 | rfl, h2⟩
      · exact Or.inl ⟨h1, h2⟩
      · exact Or.inr ⟨rfl, h2⟩

theorem NFA.SInv.fold {N : NFA σ τ} (hv : N.valid = true) {s : Sched} {Q0 : List σ} {Q1 : List σ}
    (l : List τ) (hl : ∀ a, a ∈ l → a ∈ N.Sigma) :
    ∀ (acc : SubsetAcc σ τ) (done : List τ), N.SInv s Q0 acc Q1 done →
    N.SInv s Q0 (l.foldl (N.innerT s Q1) acc) Q1 (l.reverse ++ done) ∧
      (l.foldl (N.innerT s Q1) acc).Q.length + acc.todo.length =
        acc.Q.length + (l.foldl (N.innerT s Q1) acc).todo.length := by
  induction l with
  | nil => intro acc done h; exact ⟨h, rfl⟩
  | cons a l ih =>
    intro acc done h
    obtain ⟨h1, hlen1⟩ := h.inner hv (hl a List.mem_cons_self)
    obtain ⟨h2, hlen2⟩ := ih (fun b hb => hl b (List.mem_cons_of_mem _ hb)) _ _ h1
    rw [List.foldl_cons, List.reverse_cons, List.append_assoc]
    refine ⟨h2, ?_⟩
    omega

theorem NFA.OInv.pop {N : NFA σ τ} {s : Sched} {Q0 : List σ} {acc : SubsetAcc σ τ}
    (h : N.OInv s Q0 acc) {Q1 : List σ} {rest : List (List σ)} (ht : acc.todo = Q1 :: rest) :
    N.SInv s Q0 { acc with todo := rest } Q1 [] := by
  refine ⟨h.q0, h.sub, ?_, ?_, ⟨h.todo Q1 (ht ▸ List.mem_cons_self), fun a ha => by cases ha⟩,
    h.closed, h.fin, h.nodup⟩
  · intro S hS
    exact h.todo S (ht ▸ List.mem_cons_of_mem _ hS)
  · intro S hS hnt hne a ha
    refine h.dlt S hS ?_ a ha
    rw [ht]
    intro hc
    rcases List.mem_cons.mp hc with hc | hc
    · exact hne hc
    · exact hnt hc

theorem NFA.SInv.unpop {N : NFA σ τ} {s : Sched} {Q0 : List σ} {acc : SubsetAcc σ τ} {Q1 : List σ}
    {done : List τ} (h : N.SInv s Q0 acc Q1 done) (hd : ∀ a, a ∈ N.Sigma → a ∈ done) :
    N.OInv s Q0 acc := by
  refine ⟨h.q0, h.sub, h.todo, ?_, h.closed, h.fin, h.nodup⟩
  intro S hS hnt a ha
  by_cases hne : S = Q1
  · subst hne
    exact h.cur.2 a (hd a ha)
  · exact h.dlt S hS hnt hne a ha

/-- one iteration of the outer loop preserves the invariant and decreases the measure by one -/
theorem NFA.OInv.step {N : NFA σ τ} (hv : N.valid = true) {s : Sched} {Q0 : List σ}
    {acc : SubsetAcc σ τ} (h : N.OInv s Q0 acc) {Q1 : List σ} {rest : List (List σ)}
    (ht : acc.todo = Q1 :: rest) :
    N.OInv s Q0 (N.popT s Q1 rest acc) ∧
      (N.popT s Q1 rest acc).Q.length + rest.length = acc.Q.length + (N.popT s Q1 rest acc).todo.length := by
  obtain ⟨h1, hlen⟩ := NFA.SInv.fold hv N.Sigma (fun a ha => ha) _ _ (h.pop ht)
  refine ⟨h1.unpop ?_, hlen⟩
  intro a ha
  simp [ha]

theorem NFA.OInv.canon {N : NFA σ τ} {s : Sched} {Q0 : List σ} {acc : SubsetAcc σ τ}
    (h : N.OInv s Q0 acc) {S : List σ} (hS : S ∈ acc.Q) : N.canon S = S :=
  (h.sub S hS).elim fun _ h => h.2.1

theorem NFA.OInv.length_le {N : NFA σ τ} {s : Sched} {Q0 : List σ} {acc : SubsetAcc σ τ}
    (h : N.OInv s Q0 acc) : acc.Q.length ≤ 2 ^ N.Q.length := by
  rw [← C03.length_subLists]
  apply List.Nodup.length_le_of_subset h.nodup
  intro S hS
  rw [← h.canon hS]
  exact N.canon_mem_subLists S

/-- one induction over the loop. Partial correctness for EVERY fuel: a successful run ends in a state satisfying the
    invariant with an empty worklist; termination: the measure `(2^|Q_N| - |Q|) + |todo|` bounds the number of
    iterations -/
theorem NFA.subsetLoop_spec {N : NFA σ τ} (hv : N.valid = true) (s : Sched) (Q0 : List σ) (fuel : Nat) :
    ∀ acc, N.OInv s Q0 acc →
      (∀ acc', N.subsetLoop s fuel acc = .ok acc' → N.OInv s Q0 acc' ∧ acc'.todo = []) ∧
      ((2 ^ N.Q.length - acc.Q.length) + acc.todo.length ≤ fuel → ∃ acc', N.subsetLoop s fuel acc = .ok acc') := by
  induction fuel with
  | zero =>
    intro acc h
    simp only [NFA.subsetLoop]
    refine ⟨fun acc' he => ?_, fun hm => ?_⟩
    · obtain ⟨ht, he⟩ := Except.ite_eq_ok_error.mp he
      cases he
      exact ⟨h, List.isEmpty_iff.mp ht⟩
    · rw [List.eq_nil_of_length_eq_zero (Nat.eq_zero_of_le_zero (Nat.le_trans (Nat.le_add_left _ _) hm))]
      exact ⟨acc, rfl⟩
  | succ fuel ih =>
    intro acc h
    rw [NFA.subsetLoop_succ hv]
    split
    · exact ⟨fun acc' he => by cases he; exact ⟨h, ‹_›⟩, fun _ => ⟨acc, rfl⟩⟩
    · rename_i Q1 rest ht
      obtain ⟨h', hlen⟩ := h.step hv ht
      refine ⟨(ih _ h').1, fun hm => (ih _ h').2 ?_⟩
      have h1 := h'.length_le
      have h2 := h.length_le
      rw [ht, List.length_cons] at hm
      generalize 2 ^ N.Q.length = M at *
      omega

def SubsetAcc.toDFA (acc : SubsetAcc σ τ) (Sigma : List τ) (Q0 : List σ) : DFA (List σ) τ :=
  { Q := acc.Q, Sigma := Sigma, delta := acc.delta, q0 := Q0, F := acc.F }

theorem NFA.OInv.valid {N : NFA σ τ} {s : Sched} {Q0 : List σ} {acc : SubsetAcc σ τ}
    (h : N.OInv s Q0 acc) (ht : acc.todo = []) : (acc.toDFA N.Sigma Q0).valid = true := by
  rw [DFA.valid_iff]
  refine ⟨h.q0, fun f hf => ((h.fin f).mp hf).1, fun q a r he => h.closed _ he, ?_⟩
  intro q a hq ha
  exact ⟨_, (h.dlt q hq (by rw [ht]; simp) a ha).1⟩

theorem NFA.OInv.next {N : NFA σ τ} {s : Sched} {Q0 : List σ} {acc : SubsetAcc σ τ}
    (h : N.OInv s Q0 acc) (ht : acc.todo = []) {S : List σ} (hS : S ∈ acc.Q) {a : τ} (ha : a ∈ N.Sigma) :
    (acc.toDFA N.Sigma Q0).next S a = N.stepT s S a ∧ N.stepT s S a ∈ acc.Q := by
  obtain ⟨h1, h2⟩ := h.dlt S hS (by rw [ht]; simp) a ha
  exact ⟨DFA.next_of_lookup h1, h2⟩

theorem NFA.OInv.runT {N : NFA σ τ} (hv : N.valid = true) {s : Sched} {Q0 : List σ}
    {acc : SubsetAcc σ τ} (h : N.OInv s Q0 acc) (ht : acc.todo = []) (w : List τ)
    (hw : ∀ a, a ∈ w → a ∈ N.Sigma) :
    ∀ (S : List σ) (u : List τ), S ∈ acc.Q → N.Sub S u →
      (acc.toDFA N.Sigma Q0).runT S w ∈ acc.Q ∧ N.Sub ((acc.toDFA N.Sigma Q0).runT S w) (u ++ w) := by
  induction w with
  | nil => intro S u hS hsub; rw [List.append_nil]; exact ⟨hS, hsub⟩
  | cons a w ih =>
    intro S u hS hsub
    have ha := hw a List.mem_cons_self
    obtain ⟨hn, hm⟩ := h.next ht hS ha
    rw [DFA.runT_cons, hn]
    have := ih (fun b hb => hw b (List.mem_cons_of_mem _ hb)) _ _ hm (hsub.step hv s ha)
    rw [List.append_assoc] at this
    exact this

theorem NFA.OInv.final {N : NFA σ τ} (hv : N.valid = true) {s : Sched} {acc : SubsetAcc σ τ}
    (h : N.OInv s (N.canon (N.closureT s [N.q0])) acc) (ht : acc.todo = []) :
    let D := acc.toDFA N.Sigma (N.canon (N.closureT s [N.q0]))
    D.valid = true ∧ D.Sigma = N.Sigma ∧
      (∀ q, q ∈ D.q0 ↔ N.EpsReach [N.q0] q) ∧
      (∀ S, S ∈ D.Q → D.Reachable S) ∧
      (∀ S, S ∈ D.Q → ∀ q, q ∈ S → q ∈ N.Q) ∧
      ∀ w, (∀ a, a ∈ w → a ∈ N.Sigma) → (D.Accepts w ↔ N.Accepts w) := by
  intro D
  have hval : D.valid = true := h.valid ht
  have hinit := NFA.Sub.init hv s
  have hrun : ∀ w, (∀ a, a ∈ w → a ∈ N.Sigma) → D.runT D.q0 w ∈ acc.Q ∧ N.Sub (D.runT D.q0 w) w := by
    intro w hw
    have := h.runT hv ht w hw _ _ h.q0 hinit
    rw [List.nil_append] at this
    exact this
  refine ⟨hval, rfl, ?_, ?_, ?_, ?_⟩
  · intro q
    rw [← NFA.Run_nil_iff_epsReach]
    exact hinit.2 q
  · intro S hS
    obtain ⟨u, hu, hsub⟩ := h.sub S hS
    exact (DFA.Reachable_iff hval S).mpr ⟨u, hu, hsub.ext (hrun u hu).2⟩
  · exact fun S hS q hq => N.mem_Q_of_canon (h.canon hS) hq
  · intro w hw
    obtain ⟨hm, hsub⟩ := hrun w hw
    rw [DFA.Accepts_iff_runT hval hw, NFA.Reached.accepts_iff (S := (· ∈ D.runT D.q0 w)) hsub.2]
    show D.runT D.q0 w ∈ acc.F ↔ _
    rw [h.fin, sdisjoint_false_iff]
    exact ⟨fun h => h.2, fun h => ⟨hm, h⟩⟩

theorem NFA.OInv.initial {N : NFA σ τ} (hv : N.valid = true) (s : Sched) :
    N.OInv s (N.canon (N.closureT s [N.q0]))
      { Q := [N.canon (N.closureT s [N.q0])], delta := [],
        F := if !sdisjoint (N.canon (N.closureT s [N.q0])) N.F then [N.canon (N.closureT s [N.q0])] else [],
        todo := [N.canon (N.closureT s [N.q0])] } := by
  refine ⟨List.mem_singleton.mpr rfl, ?_, fun S hS => hS, ?_, ?_, ?_, by simp⟩
  · intro S hS
    rw [List.mem_singleton.mp hS]
    exact ⟨[], fun a ha => (by cases ha), NFA.Sub.init hv s⟩
  · intro S hS hnt
    exact absurd hS hnt
  · intro e he
    cases he
  · intro S
    -- the initial `F` is what one pass of the inner loop makes of the empty one
    show S ∈ N.innerF [] _ ↔ _
    rw [N.mem_innerF, List.mem_singleton]
    exact ⟨fun h => h.elim (nomatch ·) fun h => ⟨h.1, h.1 ▸ h.2⟩, fun h => .inr ⟨h.1, h.1 ▸ h.2⟩⟩

/-- `toDfaSets` on a valid NFA: the closure of the start state does not raise; what remains is the loop with fuel
    `2 ^ |Q| + 1` and the validity assertion of the `DFA` constructor -/
theorem NFA.toDfaSets_eq {N : NFA σ τ} (hv : N.valid = true) (s : Sched) :
    N.toDfaSets s = (do
      let acc ← N.subsetLoop s (2 ^ N.Q.length + 1)
        { Q := [N.canon (N.closureT s [N.q0])], delta := [],
          F := if !sdisjoint (N.canon (N.closureT s [N.q0])) N.F then [N.canon (N.closureT s [N.q0])] else [],
          todo := [N.canon (N.closureT s [N.q0])] }
      DFA.checked (acc.toDFA N.Sigma (N.canon (N.closureT s [N.q0])))) := by
  unfold NFA.toDfaSets
  rw [NFA.closure_eq_ok hv]
  rfl

theorem NFA.subsetLoop_keys {N : NFA σ τ} (hv : N.valid = true) (s : Sched) (fuel : Nat) {acc acc' : SubsetAcc σ τ}
    (h : N.subsetLoop s fuel acc = .ok acc') (hk : (acc.delta.map (·.1)).Nodup) : (acc'.delta.map (·.1)).Nodup := by
  induction fuel generalizing acc with
  | zero =>
    rw [NFA.subsetLoop] at h
    cases (Except.ite_eq_ok_error.mp h).2
    exact hk
  | succ fuel ih =>
    rw [NFA.subsetLoop_succ hv] at h
    split at h
    · cases h; exact hk
    · rename_i Q1 rest _
      exact ih h (List.foldlRecOn (motive := fun a : SubsetAcc σ τ => (a.delta.map (·.1)).Nodup) N.Sigma
        (N.innerT s Q1) (b := { acc with todo := rest }) hk fun _ hb _ _ => Dict.nodup_keys_set _ _ hb)

theorem NFA.toDfaSets_keys {N : NFA σ τ} (hv : N.valid = true) {s : Sched} {D0 : DFA (List σ) τ}
    (h : N.toDfaSets s = .ok D0) : (D0.delta.map (·.1)).Nodup := by
  rw [NFA.toDfaSets_eq hv, Except.bind_eq_ok'] at h
  obtain ⟨acc, hacc, hc⟩ := h
  obtain ⟨_, rfl⟩ := DFA.checked_eq_ok_iff.mp hc
  exact NFA.subsetLoop_keys hv s _ hacc List.nodup_nil

theorem NFA.toDfaSets_acc {N : NFA σ τ} (hv : N.valid = true) (s : Sched) :
    ∃ acc, N.OInv s (N.canon (N.closureT s [N.q0])) acc ∧ acc.todo = [] ∧
      N.toDfaSets s = .ok (acc.toDFA N.Sigma (N.canon (N.closureT s [N.q0]))) := by
  have h0 := NFA.OInv.initial hv s
  obtain ⟨hinv, hterm⟩ := NFA.subsetLoop_spec hv s _ (2 ^ N.Q.length + 1) _ h0
  obtain ⟨acc, hacc⟩ := hterm (by
    simp only [List.length_singleton]
    have : 0 < 2 ^ N.Q.length := Nat.pow_pos (by decide)
    generalize 2 ^ N.Q.length = M at *
    omega)
  obtain ⟨h1, ht⟩ := hinv acc hacc
  refine ⟨acc, h1, ht, ?_⟩
  rw [NFA.toDfaSets_eq hv, hacc]
  exact DFA.checked_of_valid (h1.valid ht)

end

theorem NFA.toDfa_eq_ok {N : NFA String String} {s : Sched} {D : DFA (List String) String}
    (h : N.toDfaSets s = .ok D) : N.toDfa s = .ok (D.mapStates printStateSet) := by
  unfold NFA.toDfa
  rw [h]
  rfl

/-! ### concrete objects for the non-vacuity examples of `Gamba.Props.C03` -/
namespace C03

/-- `a`-move `0 → {0,1}` (nondeterminism), ε-move `1 → 2`, `b`-loop on `2`; partial δ -/
def exN : NFA String String :=
  { Q := ["0", "1", "2"], Sigma := ["a", "b"],
    delta := [(("0", "a"), ["0", "1"]), (("1", "eps"), ["2"]), (("2", "b"), ["2"])],
    q0 := "0", F := ["2"], eps := "eps" }

/-- the subset automaton of `exN` on structured states: 4 subsets, among them `∅` -/
def exD : DFA (List String) String :=
  { Q := [["0"], ["0", "1", "2"], [], ["2"]],
    Sigma := ["a", "b"],
    delta := [((["0"], "a"), ["0", "1", "2"]), ((["0"], "b"), []), (([], "a"), []), (([], "b"), []),
              ((["0", "1", "2"], "a"), ["0", "1", "2"]), ((["0", "1", "2"], "b"), ["2"]),
              ((["2"], "a"), []), ((["2"], "b"), ["2"])],
    q0 := ["0"],
    F := [["0", "1", "2"], ["2"]] }

/-- … and with `print_state_set` names -/
def exDnamed : DFA String String :=
  { Q := ["{0}", "{0,1,2}", "{}", "{2}"],
    Sigma := ["a", "b"],
    delta := [(("{0}", "a"), "{0,1,2}"), (("{0}", "b"), "{}"), (("{}", "a"), "{}"), (("{}", "b"), "{}"),
              (("{0,1,2}", "a"), "{0,1,2}"), (("{0,1,2}", "b"), "{2}"),
              (("{2}", "a"), "{}"), (("{2}", "b"), "{2}")],
    q0 := "{0}",
    F := ["{0,1,2}", "{2}"] }

theorem exN_valid : exN.valid = true := by decide +kernel

theorem exN_toDfaSets : exN.toDfaSets [] = .ok exD := by decide +kernel

theorem exN_toDfaSets' : exN.toDfaSets [3, 1, 2] = .ok exD := by decide +kernel

theorem name_0 : printStateSet ["0"] = "{0}" := by simp [printStateSet, sortStrings, dedup]
theorem name_empty : printStateSet [] = "{}" := by simp [printStateSet, sortStrings, dedup]
theorem name_2 : printStateSet ["2"] = "{2}" := by simp [printStateSet, sortStrings, dedup]
theorem name_012 : printStateSet ["0", "1", "2"] = "{0,1,2}" := by
  rw [printStateSet_eq_isort]; decide +kernel

theorem exD_named : exD.mapStates printStateSet = exDnamed := by
  simp [DFA.mapStates, exD, exDnamed, name_0, name_empty, name_2, name_012]

theorem exN_toDfa : exN.toDfa [] = .ok exDnamed :=
  exD_named ▸ NFA.toDfa_eq_ok exN_toDfaSets

theorem exD_names_inj :
    ∀ S T, S ∈ exD.Q → T ∈ exD.Q → printStateSet S = printStateSet T → S = T := by
  intro S T hS hT
  simp only [exD, List.mem_cons, List.not_mem_nil, or_false] at hS hT
  rcases hS with rfl | rfl | rfl | rfl <;> rcases hT with rfl | rfl | rfl | rfl <;>
    simp only [name_0, name_empty, name_2, name_012] <;> decide

end C03
end Gamba
