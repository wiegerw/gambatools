/-
  Gamba.Proofs.C14n — helper lemmas for the formal boundary of the product-name hypotheses:
  `productName` is injective as soon as the FIRST components (or the SECOND components) are comma-free, and
  the concrete collision witness (operand states `a`, `a,b` and `b,c`, `c`) showing that some hypothesis on
  the names is needed.
-/
import Gamba.Proofs.DecEq
import Gamba.Proofs.ListFacts
namespace Gamba
namespace C14n

theorem productName_toList (p q : String) :
    (productName (p, q)).toList = '(' :: (p.toList ++ ',' :: (q.toList ++ [')'])) := by
  simp [productName, String.toList_append]

/-- what `extract_states` sees of a product name: the text `p,q` between the parentheses -/
theorem inner_productName (p q : String) :
    Text.inner (productName (p, q)).toList = p.toList ++ ',' :: q.toList := by
  rw [productName_toList]
  unfold Text.inner
  simp only [List.drop_succ_cons, List.drop_zero]
  rw [show p.toList ++ ',' :: (q.toList ++ [')']) = (p.toList ++ ',' :: q.toList) ++ [')'] by simp]
  exact List.dropLast_concat

theorem productName_core {p q p' q' : String} (h : productName (p, q) = productName (p', q')) :
    p.toList ++ ',' :: q.toList = p'.toList ++ ',' :: q'.toList := by
  rw [← inner_productName p q, ← inner_productName p' q', h]

theorem productName_inj_left {p q p' q' : String} (hp : ',' ∉ p.toList) (hp' : ',' ∉ p'.toList)
    (h : productName (p, q) = productName (p', q')) : (p, q) = (p', q') := by
  obtain ⟨e1, e2⟩ := append_sep_inj ',' _ _ _ _ hp hp' (productName_core h)
  rw [String.toList_injective e1, String.toList_injective e2]

theorem productName_inj_right {p q p' q' : String} (hq : ',' ∉ q.toList) (hq' : ',' ∉ q'.toList)
    (h : productName (p, q) = productName (p', q')) : (p, q) = (p', q') := by
  obtain ⟨e1, e2⟩ := append_sep_inj_right ',' _ _ _ _ hq hq' (productName_core h)
  rw [String.toList_injective e1, String.toList_injective e2]

/-! ### the recorded defect `product-name-collision` -/

/-- operands found on the real library: `D1` has the states `a`, `a,b`; `D2` has the states `b,c`, `c`
    (all states reachable, both languages non-trivial) -/
def badD1 : DFA String String :=
  { Q := ["a", "a,b"], Sigma := ["x", "y"],
    delta := [(("a", "x"), "a,b"), (("a", "y"), "a"), (("a,b", "x"), "a,b"), (("a,b", "y"), "a")],
    q0 := "a", F := ["a"] }

def badD2 : DFA String String :=
  { Q := ["b,c", "c"], Sigma := ["x", "y"],
    delta := [(("b,c", "x"), "b,c"), (("b,c", "y"), "c"), (("c", "x"), "c"), (("c", "y"), "b,c")],
    q0 := "c", F := ["b,c"] }

def badP : DFA (String × String) String :=
  { Q := [("a", "b,c"), ("a", "c"), ("a,b", "b,c"), ("a,b", "c")],
    Sigma := ["x", "y"],
    delta := [((("a", "b,c"), "x"), ("a,b", "b,c")), ((("a", "b,c"), "y"), ("a", "c")),
              ((("a", "c"), "x"), ("a,b", "c")), ((("a", "c"), "y"), ("a", "b,c")),
              ((("a,b", "b,c"), "x"), ("a,b", "b,c")), ((("a,b", "b,c"), "y"), ("a", "c")),
              ((("a,b", "c"), "x"), ("a,b", "c")), ((("a,b", "c"), "y"), ("a", "b,c"))],
    q0 := ("a", "c"),
    F := [("a", "b,c"), ("a", "c"), ("a,b", "b,c")] }

/-- what the library returns: the accepting pair `(a, "b,c")` and the rejecting pair `("a,b", c)` are both
    called `"(a,b,c)"` -/
def badNamed : DFA String String :=
  { Q := ["(a,b,c)", "(a,c)", "(a,b,b,c)", "(a,b,c)"],
    Sigma := ["x", "y"],
    delta := [(("(a,b,c)", "x"), "(a,b,b,c)"), (("(a,b,c)", "y"), "(a,c)"),
              (("(a,c)", "x"), "(a,b,c)"), (("(a,c)", "y"), "(a,b,c)"),
              (("(a,b,b,c)", "x"), "(a,b,b,c)"), (("(a,b,b,c)", "y"), "(a,c)"),
              (("(a,b,c)", "x"), "(a,b,c)"), (("(a,b,c)", "y"), "(a,b,c)")],
    q0 := "(a,c)",
    F := ["(a,b,c)", "(a,c)", "(a,b,b,c)"] }

theorem badD1_valid : badD1.valid = true := by decide +kernel
theorem badD2_valid : badD2.valid = true := by decide +kernel
theorem bad_sigma : ∀ a, a ∈ badD1.Sigma ↔ a ∈ badD2.Sigma := fun _ => Iff.rfl

theorem bad_product : badD1.product badD2 .union = badP := by decide +kernel

theorem name_a_bc : productName ("a", "b,c") = "(a,b,c)" := by decide +kernel
theorem name_a_c : productName ("a", "c") = "(a,c)" := by decide +kernel
theorem name_ab_bc : productName ("a,b", "b,c") = "(a,b,b,c)" := by decide +kernel
theorem name_ab_c : productName ("a,b", "c") = "(a,b,c)" := by decide +kernel

theorem badP_named : badP.mapStates productName = badNamed := by
  simp [DFA.mapStates, badP, badNamed, name_a_bc, name_a_c, name_ab_bc, name_ab_c]

theorem bad_named : (badD1.product badD2 .union).mapStates productName = badNamed := by
  rw [bad_product, badP_named]

theorem badP_valid : badP.valid = true := by decide +kernel
theorem badNamed_valid : badNamed.valid = true := by decide +kernel

theorem badP_acceptsT_x : badP.acceptsT ["x"] = false := by decide +kernel

end C14n
end Gamba
