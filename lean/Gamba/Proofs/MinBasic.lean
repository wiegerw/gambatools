/-
  Gamba.Proofs.MinBasic — the base layer of the three minimisation proofs (`minimizeTable`, `quotient`, `hopcroft`):
  the classes of a Boolean relation as a list of blocks (`Classes`: what table filling assembles and what Moore's split
  makes of a block), partitions of `Q`, Nerode equivalence, congruences; the quotient `DFA.ofBlocks` of a valid DFA by a congruence is
  valid and has the same language, a congruence that separates inequivalent states is the Nerode partition, and its
  quotient is what all three routines return (`DFA.minimiser_spec`).  `DFA.ofBlocks_nerode` and `DFA.equiv_iff_not_dist`
  are registered for C04.
-/
import Gamba.Model.Minimize
import Gamba.Proofs.DFABasic
import Gamba.Proofs.ListFacts
namespace Gamba
set_option linter.unusedSectionVars false
variable {σ τ : Type} [DecidableEq σ] [DecidableEq τ]

/-- `WW` lists classes of `r`: no empty block, related inside a block, unrelated across blocks (by position, so for a
    reflexive `r` no block occurs twice). Both `classesFrom` (table filling, `r` = not marked) and `splitBlock` (Moore,
    `r` = same signature) build such a list. -/
structure Classes (r : σ → σ → Bool) (WW : List (List σ)) : Prop where
  ne : ∀ W, W ∈ WW → W ≠ []
  same : ∀ W, W ∈ WW → ∀ x, x ∈ W → ∀ y, y ∈ W → r x y = true
  pw : WW.Pairwise (fun W W' => ∀ x, x ∈ W → ∀ y, y ∈ W' → r x y = false)

theorem Classes.nil (r : σ → σ → Bool) : Classes r ([] : List (List σ)) :=
  ⟨nofun, nofun, List.Pairwise.nil⟩

theorem classes_cons {r : σ → σ → Bool} {W : List σ} {WW : List (List σ)} :
    Classes r (W :: WW) ↔ W ≠ [] ∧ (∀ x, x ∈ W → ∀ y, y ∈ W → r x y = true) ∧
      (∀ W', W' ∈ WW → ∀ x, x ∈ W → ∀ y, y ∈ W' → r x y = false) ∧ Classes r WW := by
  constructor
  · rintro ⟨h1, h2, h3⟩
    rw [List.forall_mem_cons] at h1 h2
    rw [List.pairwise_cons] at h3
    exact ⟨h1.1, h2.1, h3.1, h1.2, h2.2, h3.2⟩
  · rintro ⟨h1, h2, h3, g1, g2, g3⟩
    exact ⟨List.forall_mem_cons.mpr ⟨h1, g1⟩, List.forall_mem_cons.mpr ⟨h2, g2⟩, List.pairwise_cons.mpr ⟨h3, g3⟩⟩

theorem Classes.eq_of_rel {r : σ → σ → Bool} (hsymm : ∀ x y, r x y = true → r y x = true) {WW : List (List σ)}
    (h : Classes r WW) {W W' : List σ} (hW : W ∈ WW) (hW' : W' ∈ WW) {x y : σ} (hx : x ∈ W) (hy : y ∈ W')
    (hxy : r x y = true) : W = W' := by
  induction WW with
  | nil => cases hW
  | cons W0 WW ih =>
    obtain ⟨_, _, hcross, htl⟩ := classes_cons.mp h
    rcases List.mem_cons.mp hW with rfl | hW1 <;> rcases List.mem_cons.mp hW' with rfl | hW2
    · rfl
    · exact absurd hxy (Bool.eq_false_iff.mp (hcross W' hW2 x hx y hy))
    · exact absurd (hsymm x y hxy) (Bool.eq_false_iff.mp (hcross W hW1 y hy x hx))
    · exact ih htl hW1 hW2

structure DFA.IsPartition (D : DFA σ τ) (blocks : List (List σ)) : Prop where
  nonempty : ∀ B, B ∈ blocks → B ≠ []
  sub : ∀ B, B ∈ blocks → ∀ q, q ∈ B → q ∈ D.Q
  cover : ∀ q, q ∈ D.Q → ∃ B, B ∈ blocks ∧ q ∈ B
  disj : ∀ B C, B ∈ blocks → C ∈ blocks → ∀ q, q ∈ B → q ∈ C → B = C

/-- two states are Nerode-equivalent: no word over Σ distinguishes them -/
def DFA.Equiv (D : DFA σ τ) (p q : σ) : Prop :=
  ∀ w, (∀ a, a ∈ w → a ∈ D.Sigma) → (D.runT p w ∈ D.F ↔ D.runT q w ∈ D.F)

def DFA.IsNerode (D : DFA σ τ) (blocks : List (List σ)) : Prop :=
  D.IsPartition blocks ∧
    ∀ B C, B ∈ blocks → C ∈ blocks → ∀ p q, p ∈ B → q ∈ C → (B = C ↔ D.Equiv p q)

structure DFA.IsCongr (D : DFA σ τ) (blocks : List (List σ)) : Prop where
  part : D.IsPartition blocks
  fin : ∀ B, B ∈ blocks → ∀ p q, p ∈ B → q ∈ B → (p ∈ D.F ↔ q ∈ D.F)
  step : ∀ B, B ∈ blocks → ∀ p q, p ∈ B → q ∈ B → ∀ a, a ∈ D.Sigma →
    blockOf blocks (D.next p a) = blockOf blocks (D.next q a)

theorem DFA.Equiv.refl (D : DFA σ τ) (p : σ) : D.Equiv p p := fun _ _ => Iff.rfl

theorem DFA.Equiv.symm {D : DFA σ τ} {p q : σ} (h : D.Equiv p q) : D.Equiv q p :=
  fun w hw => (h w hw).symm

theorem DFA.Equiv.trans {D : DFA σ τ} {p q r : σ} (h1 : D.Equiv p q) (h2 : D.Equiv q r) :
    D.Equiv p r := fun w hw => (h1 w hw).trans (h2 w hw)

theorem DFA.Equiv.fin {D : DFA σ τ} {p q : σ} (h : D.Equiv p q) : p ∈ D.F ↔ q ∈ D.F :=
  h [] (fun _ ha => by cases ha)

theorem DFA.Equiv.next {D : DFA σ τ} {p q : σ} (h : D.Equiv p q) {a : τ} (ha : a ∈ D.Sigma) :
    D.Equiv (D.next p a) (D.next q a) := by
  intro w hw
  simpa only [DFA.runT_cons] using h (a :: w) (List.forall_mem_cons.mpr ⟨ha, hw⟩)

theorem DFA.Equiv.runT {D : DFA σ τ} {p q : σ} (h : D.Equiv p q) {u : List τ}
    (hu : ∀ a, a ∈ u → a ∈ D.Sigma) : D.Equiv (D.runT p u) (D.runT q u) :=
  DFA.runT_rel D.Equiv (fun _ _ _ h ha => h.next ha) h hu

theorem DFA.not_equiv_iff (D : DFA σ τ) (p q : σ) :
    ¬ D.Equiv p q ↔ ∃ w, (∀ a, a ∈ w → a ∈ D.Sigma) ∧ ¬ (D.runT p w ∈ D.F ↔ D.runT q w ∈ D.F) := by
  simp only [DFA.Equiv, Classical.not_forall, exists_prop]

theorem DFA.not_equiv_of_next {D : DFA σ τ} {p q : σ} {a : τ} (ha : a ∈ D.Sigma)
    (h : ¬ D.Equiv (D.next p a) (D.next q a)) : ¬ D.Equiv p q := fun he => h (he.next ha)

theorem DFA.not_equiv_of_fin {D : DFA σ τ} {p q : σ} (h : ¬ (p ∈ D.F ↔ q ∈ D.F)) : ¬ D.Equiv p q :=
  fun he => h he.fin

theorem DFA.equiv_iff_not_dist (D : DFA σ τ) (hv : D.valid = true) (p q : σ) (hp : p ∈ D.Q) (hq : q ∈ D.Q) :
    D.Equiv p q ↔ ¬ D.Dist p q := by
  rw [DFA.dist_iff_runT D hv p q hp hq, ← DFA.not_equiv_iff]
  exact ⟨fun h hn => hn h, fun h => Classical.byContradiction h⟩

theorem DFA.dist_iff_not_equiv (D : DFA σ τ) (hv : D.valid = true) (p q : σ) (hp : p ∈ D.Q) (hq : q ∈ D.Q) :
    D.Dist p q ↔ ¬ D.Equiv p q := by
  rw [DFA.dist_iff_runT D hv p q hp hq, ← DFA.not_equiv_iff]

theorem blockOf_spec {blocks : List (List σ)} {q : σ} (h : ∃ B, B ∈ blocks ∧ q ∈ B) :
    blockOf blocks q ∈ blocks ∧ q ∈ blockOf blocks q := by
  unfold blockOf
  cases hf : blocks.find? (fun B => decide (q ∈ B)) with
  | none =>
    obtain ⟨B, hB, hq⟩ := h
    exact absurd (decide_eq_true hq) (List.find?_eq_none.mp hf B hB)
  | some B' =>
    exact ⟨List.mem_of_find?_eq_some hf, of_decide_eq_true (List.find?_some (p := fun B => decide (q ∈ B)) hf)⟩

theorem blockOf_eq_nil {blocks : List (List σ)} {q : σ} (h : ∀ B, B ∈ blocks → q ∉ B) :
    blockOf blocks q = [] := by
  unfold blockOf
  rw [List.find?_eq_none.mpr fun B hB => mt of_decide_eq_true (h B hB)]
  rfl

theorem blockOf_eq_of_mem {blocks : List (List σ)}
    (hd : ∀ B C, B ∈ blocks → C ∈ blocks → ∀ q, q ∈ B → q ∈ C → B = C)
    {B : List σ} {q : σ} (hB : B ∈ blocks) (hq : q ∈ B) : blockOf blocks q = B := by
  obtain ⟨h1, h2⟩ := blockOf_spec ⟨B, hB, hq⟩
  exact hd _ _ h1 hB q h2 hq

theorem DFA.IsPartition.blockOf_mem {D : DFA σ τ} {blocks : List (List σ)} (hP : D.IsPartition blocks)
    {q : σ} (hq : q ∈ D.Q) : blockOf blocks q ∈ blocks ∧ q ∈ blockOf blocks q :=
  blockOf_spec (hP.cover q hq)

theorem DFA.IsPartition.blockOf_eq {D : DFA σ τ} {blocks : List (List σ)} (hP : D.IsPartition blocks)
    {B : List σ} {q : σ} (hB : B ∈ blocks) (hq : q ∈ B) : blockOf blocks q = B :=
  blockOf_eq_of_mem hP.disj hB hq

theorem DFA.IsPartition.blockOf_eq_iff {D : DFA σ τ} {blocks : List (List σ)} (hP : D.IsPartition blocks)
    {p q : σ} (hp : p ∈ D.Q) (hq : q ∈ D.Q) :
    blockOf blocks p = blockOf blocks q ↔ ∃ B, B ∈ blocks ∧ p ∈ B ∧ q ∈ B := by
  constructor
  · intro h
    obtain ⟨h1, h2⟩ := hP.blockOf_mem hp
    obtain ⟨_, h4⟩ := hP.blockOf_mem hq
    exact ⟨_, h1, h2, h ▸ h4⟩
  · rintro ⟨B, hB, hpB, hqB⟩
    rw [hP.blockOf_eq hB hpB, hP.blockOf_eq hB hqB]

/-- pigeonhole on the heads of the blocks -/
theorem DFA.IsPartition.length_le {D : DFA σ τ} {P : List (List σ)} (hP : D.IsPartition P)
    (hn : P.Nodup) : P.length ≤ D.Q.length :=
  length_le_of_disjoint P D.Q hP.nonempty hP.sub
    (hn.imp_of_mem fun hB hC hne q hqB hqC => hne (hP.disj _ _ hB hC q hqB hqC))

@[simp] theorem DFA.ofBlocks_Q (D : DFA σ τ) (blocks : List (List σ)) : (D.ofBlocks blocks).Q = blocks := rfl
@[simp] theorem DFA.ofBlocks_Sigma (D : DFA σ τ) (blocks : List (List σ)) :
    (D.ofBlocks blocks).Sigma = D.Sigma := rfl
@[simp] theorem DFA.ofBlocks_q0 (D : DFA σ τ) (blocks : List (List σ)) :
    (D.ofBlocks blocks).q0 = blockOf blocks D.q0 := rfl

theorem DFA.ofBlocks_mem_F (D : DFA σ τ) (blocks : List (List σ)) (B : List σ) :
    B ∈ (D.ofBlocks blocks).F ↔ B ∈ blocks ∧ ∃ x, x ∈ B ∧ x ∈ D.F := by
  simp only [DFA.ofBlocks, List.mem_filter, Bool.not_eq_true', sdisjoint_false_iff]

/-- the target of block `B` under `a` in `ofBlocks`: the block of the successor of the HEAD of `B` -/
def DFA.repNext (D : DFA σ τ) (blocks : List (List σ)) (B : List σ) (a : τ) : List σ :=
  match B with
  | [] => []
  | v :: _ => blockOf blocks (D.next v a)

theorem DFA.repNext_eq (D : DFA σ τ) (blocks : List (List σ)) {B : List σ} (hB : B ≠ []) (a : τ) :
    ∃ v, v ∈ B ∧ D.repNext blocks B a = blockOf blocks (D.next v a) := by
  cases B with
  | nil => exact absurd rfl hB
  | cons v B => exact ⟨v, List.mem_cons_self, rfl⟩

theorem DFA.ofBlocks_delta_eq (D : DFA σ τ) (blocks : List (List σ)) (hne : ∀ B, B ∈ blocks → B ≠ []) :
    (D.ofBlocks blocks).delta =
      blocks.flatMap (fun B => D.Sigma.map (fun a => ((B, a), D.repNext blocks B a))) := by
  simp only [DFA.ofBlocks]
  apply flatMap_congr
  intro B hB
  cases B with
  | nil => exact absurd rfl (hne _ hB)
  | cons v B => rfl

theorem DFA.ofBlocks_table (D : DFA σ τ) (blocks : List (List σ)) (hne : ∀ B, B ∈ blocks → B ≠ []) :
    (D.ofBlocks blocks).IsTable (D.repNext blocks) :=
  DFA.ofBlocks_delta_eq D blocks hne

theorem DFA.ofBlocks_next (D : DFA σ τ) (blocks : List (List σ)) (hne : ∀ B, B ∈ blocks → B ≠ [])
    {B : List σ} {a : τ} (hB : B ∈ blocks) (ha : a ∈ D.Sigma) :
    (D.ofBlocks blocks).next B a = D.repNext blocks B a :=
  (D.ofBlocks_table blocks hne).next hB ha

theorem DFA.ofBlocks_valid (D : DFA σ τ) (hv : D.valid = true) (blocks : List (List σ))
    (hP : D.IsPartition blocks) : (D.ofBlocks blocks).valid = true := by
  refine (D.ofBlocks_table blocks hP.nonempty).valid (hP.blockOf_mem (DFA.valid_q0 hv)).1
    (fun B hB => ((DFA.ofBlocks_mem_F D blocks B).mp hB).1) fun B a hB ha => ?_
  obtain ⟨v, hv', hr⟩ := DFA.repNext_eq D blocks (hP.nonempty B hB) a
  rw [hr]
  exact (hP.blockOf_mem (DFA.valid_next_mem hv (hP.sub B hB v hv') ha)).1

/-- on a congruence, any member of the block gives the same target block as the head -/
theorem DFA.IsCongr.next_blockOf {D : DFA σ τ} {blocks : List (List σ)} (hC : D.IsCongr blocks)
    {q : σ} (hq : q ∈ D.Q) {a : τ} (ha : a ∈ D.Sigma) :
    (D.ofBlocks blocks).next (blockOf blocks q) a = blockOf blocks (D.next q a) := by
  obtain ⟨hB, hqB⟩ := hC.part.blockOf_mem hq
  rw [DFA.ofBlocks_next D blocks hC.part.nonempty hB ha]
  obtain ⟨v, hvB, hr⟩ := DFA.repNext_eq D blocks (hC.part.nonempty _ hB) a
  rw [hr]
  exact hC.step _ hB v q hvB hqB a ha

theorem DFA.IsCongr.next_block {D : DFA σ τ} {blocks : List (List σ)} (hC : D.IsCongr blocks)
    {B : List σ} (hB : B ∈ blocks) {q : σ} (hq : q ∈ B) {a : τ} (ha : a ∈ D.Sigma) :
    (D.ofBlocks blocks).next B a = blockOf blocks (D.next q a) := by
  have := hC.next_blockOf (hC.part.sub B hB q hq) ha
  rwa [hC.part.blockOf_eq hB hq] at this

theorem DFA.IsCongr.blockOf_mem_F {D : DFA σ τ} {blocks : List (List σ)} (hC : D.IsCongr blocks)
    {q : σ} (hq : q ∈ D.Q) : blockOf blocks q ∈ (D.ofBlocks blocks).F ↔ q ∈ D.F := by
  obtain ⟨hB, hqB⟩ := hC.part.blockOf_mem hq
  rw [DFA.ofBlocks_mem_F]
  constructor
  · rintro ⟨_, x, hx, hxF⟩
    exact (hC.fin _ hB x q hx hqB).mp hxF
  · intro hF
    exact ⟨hB, q, hqB, hF⟩

theorem DFA.IsCongr.block_mem_F {D : DFA σ τ} {blocks : List (List σ)} (hC : D.IsCongr blocks)
    {B : List σ} (hB : B ∈ blocks) {q : σ} (hq : q ∈ B) : B ∈ (D.ofBlocks blocks).F ↔ q ∈ D.F := by
  have := hC.blockOf_mem_F (hC.part.sub B hB q hq)
  rwa [hC.part.blockOf_eq hB hq] at this

theorem DFA.IsCongr.hom {D : DFA σ τ} {blocks : List (List σ)} (hC : D.IsCongr blocks) :
    D.Hom (D.ofBlocks blocks) (blockOf blocks) :=
  ⟨rfl, rfl, fun _ hq => (hC.part.blockOf_mem hq).1, fun _ _ hq ha => hC.next_blockOf hq ha, fun _ hq => hC.blockOf_mem_F hq⟩

/-- the quotient by a congruence: valid, same alphabet, states = blocks, same language -/
theorem DFA.ofBlocks_congr (D : DFA σ τ) (hv : D.valid = true) (blocks : List (List σ))
    (hC : D.IsCongr blocks) :
    (D.ofBlocks blocks).valid = true ∧ (D.ofBlocks blocks).Sigma = D.Sigma ∧
    (D.ofBlocks blocks).Q = blocks ∧
    (∀ w, (∀ a, a ∈ w → a ∈ D.Sigma) → ((D.ofBlocks blocks).Accepts w ↔ D.Accepts w)) :=
  have hv' := DFA.ofBlocks_valid D hv blocks hC.part
  ⟨hv', rfl, rfl, fun w _ => hC.hom.accepts_iff hv hv' w⟩

theorem DFA.IsCongr.dist_iff {D : DFA σ τ} (hv : D.valid = true) {blocks : List (List σ)}
    (hC : D.IsCongr blocks) {B C : List σ} (hB : B ∈ blocks) (hCm : C ∈ blocks) {p q : σ}
    (hp : p ∈ B) (hq : q ∈ C) : (D.ofBlocks blocks).Dist B C ↔ ¬ D.Equiv p q := by
  have hpQ := hC.part.sub B hB p hp
  have hqQ := hC.part.sub C hCm q hq
  rw [← hC.part.blockOf_eq hB hp, ← hC.part.blockOf_eq hCm hq,
    hC.hom.dist_iff hv (DFA.ofBlocks_valid D hv blocks hC.part) hpQ hqQ, DFA.dist_iff_not_equiv D hv p q hpQ hqQ]

theorem DFA.IsCongr.not_equiv_of_dist {D : DFA σ τ} (hv : D.valid = true) {blocks : List (List σ)}
    (hC : D.IsCongr blocks) {B C : List σ} (hB : B ∈ blocks) (hCm : C ∈ blocks) {p q : σ}
    (hp : p ∈ B) (hq : q ∈ C) (hd : (D.ofBlocks blocks).Dist B C) : ¬ D.Equiv p q :=
  (hC.dist_iff hv hB hCm hp hq).mp hd

theorem DFA.IsNerode.equiv_of_mem {D : DFA σ τ} {blocks : List (List σ)} (hN : D.IsNerode blocks)
    {B : List σ} (hB : B ∈ blocks) {p q : σ} (hp : p ∈ B) (hq : q ∈ B) : D.Equiv p q :=
  (hN.2 B B hB hB p q hp hq).mp rfl

theorem DFA.IsNerode.isCongr {D : DFA σ τ} (hv : D.valid = true) {blocks : List (List σ)}
    (hN : D.IsNerode blocks) : D.IsCongr blocks := by
  refine ⟨hN.1, ?_, ?_⟩
  · intro B hB p q hp hq
    exact (hN.equiv_of_mem hB hp hq).fin
  · intro B hB p q hp hq a ha
    have he : D.Equiv (D.next p a) (D.next q a) := (hN.equiv_of_mem hB hp hq).next ha
    obtain ⟨h1, h2⟩ := hN.1.blockOf_mem (DFA.valid_next_mem hv (hN.1.sub B hB p hp) ha)
    obtain ⟨h3, h4⟩ := hN.1.blockOf_mem (DFA.valid_next_mem hv (hN.1.sub B hB q hq) ha)
    exact (hN.2 _ _ h1 h3 _ _ h2 h4).mpr he

theorem DFA.IsCongr.isNerode {D : DFA σ τ} (hv : D.valid = true) {blocks : List (List σ)}
    (hC : D.IsCongr blocks)
    (hsep : ∀ B C, B ∈ blocks → C ∈ blocks → ∀ p q, p ∈ B → q ∈ C → D.Equiv p q → B = C) :
    D.IsNerode blocks := by
  refine ⟨hC.part, ?_⟩
  intro B C hB hCm p q hp hq
  constructor
  · rintro rfl
    intro w hw
    rw [← hC.hom.runT_mem_F hv (hC.part.sub B hB p hp) hw, ← hC.hom.runT_mem_F hv (hC.part.sub B hB q hq) hw,
      hC.part.blockOf_eq hB hp, hC.part.blockOf_eq hB hq]
  · exact hsep B C hB hCm p q hp hq

theorem DFA.IsNerode.block_corr {D : DFA σ τ}
    {P P' : List (List σ)} (hN : D.IsNerode P) (hN' : D.IsNerode P') :
    ∀ B, B ∈ P → ∃ B', B' ∈ P' ∧ ∀ q, q ∈ B ↔ q ∈ B' := by
  intro B hB
  obtain ⟨p, hp⟩ := List.exists_mem_of_ne_nil B (hN.1.nonempty B hB)
  have hpQ : p ∈ D.Q := hN.1.sub B hB p hp
  obtain ⟨B', hB', hp'⟩ := hN'.1.cover p hpQ
  refine ⟨B', hB', fun q => ⟨fun hq => ?_, fun hq => ?_⟩⟩
  · have he : D.Equiv p q := hN.equiv_of_mem hB hp hq
    obtain ⟨C', hC', hq'⟩ := hN'.1.cover q (hN.1.sub B hB q hq)
    have : B' = C' := (hN'.2 B' C' hB' hC' p q hp' hq').mpr he
    rw [this]; exact hq'
  · have he : D.Equiv p q := hN'.equiv_of_mem hB' hp' hq
    obtain ⟨C, hC, hqC⟩ := hN.1.cover q (hN'.1.sub B' hB' q hq)
    have : B = C := (hN.2 B C hB hC p q hp hqC).mpr he
    rw [this]; exact hqC

/-- C04. The quotient by the Nerode partition: valid, same language, pairwise distinguishable states,
    one state per class -/
theorem DFA.ofBlocks_nerode (D : DFA σ τ) (hv : D.valid = true) (blocks : List (List σ))
    (hN : D.IsNerode blocks) :
    (D.ofBlocks blocks).valid = true ∧ (D.ofBlocks blocks).Sigma = D.Sigma ∧
    (D.ofBlocks blocks).Q = blocks ∧
    (∀ w, (∀ a, a ∈ w → a ∈ D.Sigma) → ((D.ofBlocks blocks).Accepts w ↔ D.Accepts w)) ∧
    (∀ B C, B ∈ blocks → C ∈ blocks → B ≠ C → (D.ofBlocks blocks).Dist B C) := by
  have hC := hN.isCongr hv
  obtain ⟨h1, h2, h3, h4⟩ := DFA.ofBlocks_congr D hv blocks hC
  refine ⟨h1, h2, h3, h4, ?_⟩
  intro B C hB hCm hne
  obtain ⟨p, hp⟩ := List.exists_mem_of_ne_nil B (hN.1.nonempty B hB)
  obtain ⟨q, hq⟩ := List.exists_mem_of_ne_nil C (hN.1.nonempty C hCm)
  exact (hC.dist_iff hv hB hCm hp hq).mpr fun he => hne ((hN.2 B C hB hCm p q hp hq).mpr he)

theorem DFA.checked_ofBlocks (D : DFA σ τ) (hv : D.valid = true) {blocks : List (List σ)} (hN : D.IsNerode blocks) :
    DFA.checked (D.ofBlocks blocks) = .ok (D.ofBlocks blocks) :=
  DFA.checked_of_valid (DFA.ofBlocks_nerode D hv blocks hN).1

theorem DFA.ofBlocks_keys_nodup {σ' : Type} [DecidableEq σ'] (D : DFA σ τ) (R : List (List σ)) (f : List σ → σ') (hR : R.Nodup)
    (hS : D.Sigma.Nodup) (hinj : ∀ B C, B ∈ R → C ∈ R → f B = f C → B = C) :
    ((((D.ofBlocks R).mapStates f).delta).map (·.1)).Nodup := by
  have e : (((D.ofBlocks R).mapStates f).delta).map (·.1) =
      R.flatMap fun B => (match B with | [] => [] | _ :: _ => D.Sigma).map fun a => (f B, a) := by
    show List.map _ (List.map _ (D.ofBlocks R).delta) = _
    show List.map _ (List.map _ (R.flatMap _)) = _
    rw [List.map_map, List.map_flatMap]
    congr 1
    funext B
    cases B with
    | nil => rfl
    | cons v B' => simp only [List.map_map]; rfl
  rw [e]
  apply nodup_flatMap_pairs R _ f hR
  · intro B _
    cases B with
    | nil => simp
    | cons v B' => exact hS
  · exact hinj

/-- what each of the three minimisers shows of its result `r` is that it is the quotient by a Nerode partition; the
    specification follows: valid, the alphabet and the language of `D`, the Nerode classes of ALL states as states, and these
    pairwise distinguishable -/
theorem DFA.minimiser_spec (D : DFA σ τ) (hv : D.valid = true) {r : Except Err (DFA (List σ) τ)}
    (h : ∃ blocks, r = .ok (D.ofBlocks blocks) ∧ D.IsNerode blocks) :
    ∃ M, r = .ok M ∧ M.valid = true ∧ M.Sigma = D.Sigma ∧ D.IsNerode M.Q ∧
      (∀ w, (∀ a, a ∈ w → a ∈ D.Sigma) → (M.Accepts w ↔ D.Accepts w)) ∧
      (∀ B C, B ∈ M.Q → C ∈ M.Q → B ≠ C → M.Dist B C) := by
  obtain ⟨blocks, hr, hN⟩ := h
  obtain ⟨h1, h2, _, h4, h5⟩ := DFA.ofBlocks_nerode D hv blocks hN
  exact ⟨_, hr, h1, h2, hN, h4, h5⟩

/-- an unreachable-state-free statement of minimality: two blocks of the Nerode quotient are equal iff
    they are not distinguishable in the quotient -/
theorem DFA.ofBlocks_nerode_dist_iff (D : DFA σ τ) (hv : D.valid = true) (blocks : List (List σ))
    (hN : D.IsNerode blocks) {B C : List σ} (hB : B ∈ blocks) (hCm : C ∈ blocks) :
    (D.ofBlocks blocks).Dist B C ↔ B ≠ C := by
  constructor
  · intro hd hBC
    subst hBC
    have hv' := (DFA.ofBlocks_nerode D hv blocks hN).1
    exact ((DFA.equiv_iff_not_dist _ hv' B B hB hB).mp (DFA.Equiv.refl _ B)) hd
  · exact (DFA.ofBlocks_nerode D hv blocks hN).2.2.2.2 B C hB hCm

theorem nerode_block_ext {D : DFA σ τ} {blocks : List (List σ)}
    (hN : D.IsNerode blocks) {B C : List σ} (hB : B ∈ blocks) (hC : C ∈ blocks)
    (h : ∀ q, q ∈ B ↔ q ∈ C) : B = C := by
  cases hBl : B with
  | nil => exact absurd hBl (hN.1.nonempty B hB)
  | cons p B' =>
    have hp : p ∈ B := hBl ▸ List.mem_cons_self
    rw [← hBl]
    exact hN.1.disj B C hB hC p hp ((h p).mp hp)

def headBlock (P2 : List (List σ)) (B : List σ) : List σ :=
  match B with
  | [] => []
  | p :: _ => blockOf P2 p

theorem headBlock_eq (P2 : List (List σ)) {B : List σ} (hB : B ≠ []) : ∃ p, p ∈ B ∧ headBlock P2 B = blockOf P2 p := by
  cases B with
  | nil => exact absurd rfl hB
  | cons p B => exact ⟨p, List.mem_cons_self, rfl⟩

theorem nerode_length_le (D : DFA σ τ) {P1 P2 : List (List σ)} (h1 : D.IsNerode P1) (h2 : D.IsNerode P2) :
    (dedup P1).length ≤ (dedup P2).length := by
  -- `headBlock P2` sends a block of `P1` to the block of `P2` with the same elements
  have key : ∀ B, B ∈ P1 → headBlock P2 B ∈ P2 ∧ ∀ q, q ∈ B ↔ q ∈ headBlock P2 B := by
    intro B hB
    obtain ⟨p, hp, he⟩ := headBlock_eq P2 (h1.1.nonempty B hB)
    obtain ⟨B', hB', hiff⟩ := h1.block_corr h2 B hB
    rw [he, h2.1.blockOf_eq hB' ((hiff p).mp hp)]
    exact ⟨hB', hiff⟩
  refine dedup_length_le_of_inj (headBlock P2) P1 P2 (fun B hB => (key B hB).1) fun B C hB hC he => ?_
  exact nerode_block_ext h1 hB hC fun q => ((key B hB).2 q).trans (he ▸ ((key C hC).2 q).symm)

theorem nerode_length_eq (D : DFA σ τ) {P1 P2 : List (List σ)} (h1 : D.IsNerode P1) (h2 : D.IsNerode P2) :
    (dedup P1).length = (dedup P2).length :=
  Nat.le_antisymm (nerode_length_le D h1 h2) (nerode_length_le D h2 h1)

end Gamba
