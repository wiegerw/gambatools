/-
  Gamba.Proofs.C12a — what each object-level checker of Model/Check.lean with an automaton answer tests, as an equivalence
  `Check.f args = verdict OK ↔ Spec`, with `Spec` in terms of membership, lookups, `Accepts` and `IsNerode`.
  Soundness of a checker (Props/C12a) is the forward direction followed by a weakening; that the library's own answer passes
  (C13; the `*_key` lemmas of Proofs/C13a) is the backward direction applied to the specification theorem of the generator.
  The language tests go through `Enum` (Proofs/C12enum).
-/
import Gamba.Proofs.C12enum
import Gamba.Props.C14a
import Gamba.Props.C04b
namespace Gamba

namespace C12a
open Check

theorem maxStatesOk_iff (nQ maxStates : Nat) :
    maxStatesOk nQ maxStates = true ↔ (maxStates = 0 ∨ nQ ≤ maxStates) := by
  unfold maxStatesOk
  simp only [Bool.not_eq_true', Bool.and_eq_false_iff, decide_eq_false_iff_not]
  omega

theorem maxStatesOk_zero (m : Nat) : Check.maxStatesOk 0 m = true := by
  unfold Check.maxStatesOk
  simp

theorem languageFromWords_iff (nQ maxStates : Nat) (A words : List (List String)) :
    Check.languageFromWords nQ maxStates A words = true ↔
      (maxStates = 0 ∨ nQ ≤ maxStates) ∧ ∀ w, w ∈ A ↔ w ∈ words := by
  unfold Check.languageFromWords
  rw [Bool.and_eq_true, maxStatesOk_iff, compare_isNone_iff]

theorem equalLanguages_iff (A1 A2 : List (List String)) :
    Check.equalLanguages A1 A2 = true ↔ ∀ w, w ∈ A1 ↔ w ∈ A2 :=
  compare_isNone_iff A1 A2

theorem equalLanguages_refl (L : List (List String)) : Check.equalLanguages L L = true :=
  compare_refl L

theorem deltaEq_lookup {d1 d2 : Dict (String × String) String} (h : deltaEq d1 d2 = true)
    (k : String × String) : d2.lookup k = d1.lookup k := by
  unfold deltaEq at h
  simp only [Bool.and_eq_true, List.all_eq_true, beq_iff_eq] at h
  obtain ⟨h1, h2⟩ := h
  cases h' : d1.lookup k with
  | some v => exact h1 (k, v) (Dict.mem_of_lookup h')
  | none =>
    cases h'' : d2.lookup k with
    | none => rfl
    | some v =>
      have := h2 (k, v) (Dict.mem_of_lookup h'')
      simp only at this
      rw [h'] at this
      cases this

theorem deltaEq_iff {d1 d2 : Dict (String × String) String} (h1 : (d1.map (·.1)).Nodup) (h2 : (d2.map (·.1)).Nodup) :
    deltaEq d1 d2 = true ↔ ∀ k, d2.lookup k = d1.lookup k := by
  refine ⟨deltaEq_lookup, fun h => ?_⟩
  unfold deltaEq
  simp only [Bool.and_eq_true, List.all_eq_true, beq_iff_eq]
  exact ⟨fun e he => (h e.1).trans (Dict.lookup_of_mem_nodup h1 he),
    fun e he => (h e.1).symm.trans (Dict.lookup_of_mem_nodup h2 he)⟩

/-- the structural test of the product exercises; the δ clause speaks of the ENTRIES of the answer (a shadowed
    entry is tested too), which for a table with unique keys are its lookups -/
theorem productFeedback_iff {D D1 D2 A : DFA String String} :
    productFeedbackEmpty D D1 D2 A = some true ↔
      (∀ q, q ∈ A.Q → ∃ p r, extractPair q = some (p, r) ∧ p ∈ D1.Q ∧ r ∈ D2.Q) ∧
      (∀ a, a ∈ D.Sigma ↔ a ∈ A.Sigma) ∧ A.q0 = D.q0 ∧
      (∀ e, e ∈ A.delta → ∀ r, D.delta.lookup e.1 = some r → e.2 = r) ∧
      (∀ q, q ∈ D.F ↔ q ∈ A.F) := by
  unfold productFeedbackEmpty
  split
  · rename_i hany
    obtain ⟨q, hq, hn⟩ := List.any_eq_true.mp hany
    refine ⟨nofun, fun h => ?_⟩
    obtain ⟨p, r, he, _⟩ := h.1 q hq
    rw [he] at hn
    cases hn
  · simp only [Option.some.injEq, Bool.and_eq_true, List.all_eq_true, seq_iff, decide_eq_true_eq, and_assoc]
    -- the two `match` clauses are settled inside the goal: a `match` stated apart is another matcher constant
    refine and_congr (forall₂_congr fun q _ => ?_)
      (and_congr_right' (and_congr_right' (and_congr_left' (forall₂_congr fun e _ => ?_))))
    · cases extractPair q with
      | none => simp only [Bool.false_eq_true, reduceCtorEq, false_and, exists_const]
      | some pr =>
        obtain ⟨p, r⟩ := pr
        simp only [Bool.and_eq_true, decide_eq_true_eq, Option.some.injEq, Prod.mk.injEq, and_assoc, exists_and_left,
          exists_eq_left']
    · cases D.delta.lookup e.1 <;>
        simp only [reduceCtorEq, false_implies, implies_true, decide_eq_true_eq, Option.some.injEq, forall_eq']

theorem productCheck_iff {t : ProductType} {D1 D2 A : DFA String String} {len : Nat} :
    productCheck t D1 D2 A len = some true ↔
      (∀ a, a ∈ D1.Sigma ↔ a ∈ D2.Sigma) ∧
      productFeedbackEmpty ((D1.product D2 t).mapStates productName) D1 D2 A = some true ∧
      ∀ w, w ∈ A.wordsUpTo len ↔ w ∈ CheckCex.expectedProduct t (D1.wordsUpTo len) (D2.wordsUpTo len) := by
  unfold productCheck
  split
  · rename_i hS
    refine ⟨nofun, fun h => ?_⟩
    rw [seq_iff.mpr h.1] at hS
    cases hS
  · rename_i hS
    simp only [Bool.not_eq_true, Bool.not_eq_false', seq_iff] at hS
    cases hfb : productFeedbackEmpty ((D1.product D2 t).mapStates productName) D1 D2 A with
    | none => simp only [hfb, reduceCtorEq, false_and, and_false]
    | some fb =>
      cases t <;>
        simp only [hfb, Option.some.injEq, Bool.and_eq_true, compare_isNone_iff, CheckCex.expectedProduct, hS,
          implies_true, true_and]

open Classical in
theorem productCheck_spec {t : ProductType} {D1 D2 A : DFA String String} {len : Nat}
    (h1 : D1.valid = true) (h2 : D2.valid = true) (ha : A.valid = true) :
    productCheck t D1 D2 A len = some true ↔
      (∀ a, a ∈ D1.Sigma ↔ a ∈ D2.Sigma) ∧
      productFeedbackEmpty ((D1.product D2 t).mapStates productName) D1 D2 A = some true ∧
      ∀ w, w.length ≤ len → (A.Accepts w ↔ t.accept (decide (D1.Accepts w)) (decide (D2.Accepts w)) = true) := by
  rw [productCheck_iff, Enum.same_iff (DFA.enum ha len) ((DFA.enum h1 len).product (DFA.enum h2 len) t)]

theorem complementCheck_iff {D1 A : DFA String String} (hk1 : (D1.delta.map (·.1)).Nodup)
    (hk : (A.delta.map (·.1)).Nodup) :
    complementCheck D1 A = true ↔
      (∀ a, a ∈ A.Sigma ↔ a ∈ D1.Sigma) ∧ (∀ q, q ∈ A.Q ↔ q ∈ D1.Q) ∧ A.q0 = D1.q0 ∧
      (∀ k, A.delta.lookup k = D1.delta.lookup k) ∧ (∀ q, q ∈ A.F ↔ (q ∈ D1.Q ∧ q ∉ D1.F)) := by
  unfold complementCheck
  simp only [Bool.and_eq_true, decide_eq_true_eq, seq_iff, deltaEq_iff (d1 := D1.complement.delta) hk1 hk, and_assoc]
  -- the checker compares reference with answer, the criterion reads answer against reference
  exact and_congr ⟨fun h a => (h a).symm, fun h a => (h a).symm⟩ (and_congr ⟨fun h a => (h a).symm, fun h a => (h a).symm⟩
    (and_congr eq_comm (and_congr_right' ⟨fun h q => (h q).symm.trans mem_sdiff, fun h q => ((h q).trans mem_sdiff.symm).symm⟩)))

theorem reverseCheck_iff {D : DFA String String} {A : NFA String String} {s : Sched} {len : Nat}
    (hv : D.valid = true) (ha : A.valid = true) :
    reverseCheck D A s len = .ok true ↔
      (∀ a, a ∈ D.Sigma ↔ a ∈ A.Sigma) ∧ (∀ q, q ∈ D.Q → q ∈ A.Q) ∧
      (∀ e, e ∈ D.delta → e.1.1 ∈ A.succ e.2 e.1.2) ∧ A.q0 ∉ D.Q ∧ (∀ q, q ∈ A.F ↔ q = D.q0) ∧
      ∀ w, w.length ≤ len → (A.Accepts w ↔ D.Accepts w.reverse) := by
  obtain ⟨L, hL, _⟩ := nfa_words_exact A ha s len
  unfold reverseCheck
  rw [hL]
  simp only [bind, Except.bind, pure, Except.pure, Except.ok.injEq, Bool.and_eq_true, seq_iff, ssubset_iff,
    List.all_eq_true, decide_eq_true_eq, List.mem_singleton,
    Enum.isNone_iff (NFA.enum ha hL) (DFA.enum_reverse hv len), and_assoc]

theorem quotient_lang {D : DFA String String} {M : DFA (List String) String} (hv : D.valid = true) (hQ : D.Q.Nodup) (hM : D.quotient = .ok M) :
    M.valid = true ∧ ∀ w, M.Accepts w ↔ D.Accepts w := by
  obtain ⟨M', hM', hMv, hMS, _, hML, _⟩ := quotient_spec D hv hQ
  rw [hM] at hM'
  cases hM'
  exact ⟨hMv, DFA.accepts_iff_of_valid hv hMv hMS hML⟩

/-- `check_dfa_minimal`: the reference is the quotient automaton, whose states are a Nerode partition; any two Nerode
    partitions have the same number of blocks, so the size test is a statement about `D` alone -/
theorem minimalCheck_iff {D A : DFA String String} {len : Nat} (hv : D.valid = true) (hQ : D.Q.Nodup)
    (ha : A.valid = true) :
    minimalCheck D A len = .ok true ↔
      (∀ a, a ∈ A.Sigma ↔ a ∈ D.Sigma) ∧
      (∃ blocks, D.IsNerode blocks ∧ (dedup blocks).length = (dedup A.Q).length) ∧
      ∀ w, w.length ≤ len → (A.Accepts w ↔ D.Accepts w) := by
  obtain ⟨M, hM, _, hMS, hN, _⟩ := quotient_spec D hv hQ
  obtain ⟨hMv, hML⟩ := quotient_lang hv hQ hM
  unfold minimalCheck
  rw [hM]
  simp only [bind, Except.bind, pure, Except.pure, Except.ok.injEq, Bool.and_eq_true, seq_iff, decide_eq_true_eq, hMS,
    Enum.isNone_iff (DFA.enum ha len) (DFA.enum hMv len), hML, and_assoc]
  refine and_congr ⟨fun h a => (h a).symm, fun h a => (h a).symm⟩ (and_congr_left' ⟨fun h => ⟨M.Q, hN, h⟩, ?_⟩)
  rintro ⟨blocks, hb, h⟩
  exact (nerode_length_eq D hN hb).trans h

/-! ### concrete answers for the examples of Props/C12a
    (`C14a.exD1`: words over {a,b} ending in `a`; `C14a.exD2`: words of even length;
     `C14b.exD`: words ending in `a` with an unreachable accepting state; `exC04b`: 4 states, 3 Nerode classes) -/

/-- a hand-written correct answer to the union exercise for `exD1`, `exD2` (states listed in another order) -/
def exAnsUnion : DFA String String :=
  { Q := ["(q,o)", "(q,e)", "(p,o)", "(p,e)"], Sigma := ["b", "a"],
    delta := [(("(p,e)", "a"), "(q,o)"), (("(p,e)", "b"), "(p,o)"), (("(p,o)", "a"), "(q,e)"),
              (("(p,o)", "b"), "(p,e)"), (("(q,e)", "a"), "(q,o)"), (("(q,e)", "b"), "(p,o)"),
              (("(q,o)", "a"), "(q,e)"), (("(q,o)", "b"), "(p,e)")],
    q0 := "(p,e)", F := ["(q,o)", "(q,e)", "(p,e)"] }

/-- the same automaton with the accepting states of the intersection -/
def exAnsInter : DFA String String := { exAnsUnion with F := ["(q,e)"] }

/-- … and of the symmetric difference -/
def exAnsSymDiff : DFA String String := { exAnsUnion with F := ["(p,e)", "(q,o)"] }

/-- a correct product automaton whose state names are not of the form `(p,q)` -/
def exAnsBadNames : DFA String String :=
  (C14a.exD1.product C14a.exD2 .union).mapStates fun p => p.1 ++ p.2

/-- the complement of `exD1`, written out -/
def exAnsCompl : DFA String String :=
  { Q := ["q", "p"], Sigma := ["b", "a"],
    delta := [(("q", "b"), "p"), (("q", "a"), "q"), (("p", "a"), "q"), (("p", "b"), "p")],
    q0 := "p", F := ["p"] }

/-- `exD1` itself handed in as its own complement (accepting set not flipped) -/
def exAnsComplBad : DFA String String := { exAnsCompl with F := ["q"] }

/-- the reversal of `C14b.exD`, written out (fresh initial state `s`, ε = "") -/
def exAnsRev : NFA String String :=
  { Q := ["s", "p", "q", "z"], Sigma := ["a", "b"],
    delta := [(("s", ""), ["z", "q"]), (("q", "a"), ["q", "p"]), (("p", "b"), ["q", "p"]),
              (("p", "a"), ["z"]), (("z", "b"), ["z"])],
    q0 := "s", F := ["p"], eps := "" }

/-- the same NFA without the reversed edge `p -a-> z` of `z -a-> p`: the language is unchanged (`z` is a dead end of
    the reversal) but the edge test fails -/
def exAnsRevBad : NFA String String :=
  { exAnsRev with delta := [(("s", ""), ["z", "q"]), (("q", "a"), ["q", "p"]), (("p", "b"), ["q", "p"]),
                             (("z", "b"), ["z"])] }

/-- the minimal DFA of `exC04b`, with fresh state names -/
def exAnsMin : DFA String String :=
  { Q := ["A", "B", "C"], Sigma := ["a", "b"],
    delta := [(("A", "a"), "B"), (("A", "b"), "B"), (("B", "a"), "C"), (("B", "b"), "A"),
              (("C", "a"), "C"), (("C", "b"), "C")],
    q0 := "A", F := ["C"] }

/-- a 3-state DFA with another language (`b` loops on `B`) -/
def exAnsMinBad : DFA String String :=
  { exAnsMin with delta := [(("A", "a"), "B"), (("A", "b"), "B"), (("B", "a"), "C"), (("B", "b"), "B"),
                             (("C", "a"), "C"), (("C", "b"), "C")] }

end C12a
end Gamba
