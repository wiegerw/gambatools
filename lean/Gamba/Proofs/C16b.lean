/-
  Gamba.Proofs.C16b — the NFA text format: the grouping of the parsed transitions (`groupNfa`), `parseNfa` as the line parser
  followed by `nfaOfRaw`, what every result of `parseNfa` satisfies (`ParsedNfa`), the round trip `parseNfa (printNfa N)` (its
  result is `N` up to the order of its sets, `C13f.NfaSim`), and `parseNfa (printDfa D)` (the NFA → DFA exercise reads its answer
  that way).
-/
import Gamba.Proofs.C16a
import Gamba.Model.Keys
import Gamba.Proofs.NFABasic
namespace Gamba
open Text

namespace C13f

/-- `DfaSim` for NFAs (same ε-label, same successor sets as sets) -/
structure NfaSim (N' N : NFA String String) : Prop where
  valid' : N'.valid = true
  Q : ∀ q, q ∈ N'.Q ↔ q ∈ N.Q
  Sigma : ∀ a, a ∈ N'.Sigma ↔ a ∈ N.Sigma
  q0 : N'.q0 = N.q0
  F : ∀ q, q ∈ N'.F ↔ q ∈ N.F
  eps : N'.eps = N.eps
  succ : ∀ q a x, x ∈ N'.succ q a ↔ x ∈ N.succ q a

theorem NfaSim.refl {N : NFA String String} (hv : N.valid = true) : NfaSim N N :=
  ⟨hv, fun _ => Iff.rfl, fun _ => Iff.rfl, rfl, fun _ => Iff.rfl, rfl, fun _ _ _ => Iff.rfl⟩

theorem NfaSim.accepts {N' N : NFA String String} (h : NfaSim N' N) (w : List String) : N'.Accepts w ↔ N.Accepts w :=
  NFA.Accepts_congr (fun q a q' => by rw [← NFA.mem_succ_iff, ← NFA.mem_succ_iff]; exact h.succ q a q') h.eps h.q0 h.F w

end C13f

namespace Parse

theorem mem_groupNfa_lookup (ts : List (String × String × String)) (p a x : String) :
    x ∈ ((groupNfa ts).lookup (p, a)).getD [] ↔ (p, a, x) ∈ ts := by
  refine (Dict.mem_lookup_foldl_add (fun t : String × String × String => (t.1, t.2.1)) (·.2.2) ts [] (p, a) x).trans ?_
  simp only [List.lookup_nil, Option.getD_none, List.not_mem_nil, false_or]
  constructor
  · rintro ⟨⟨_, _, _⟩, ht, ⟨rfl, rfl⟩, rfl⟩; exact ht
  · intro ht; exact ⟨_, ht, rfl, rfl⟩

theorem groupNfa_mem {ts : List (String × String × String)} {p a : String} {T : List String}
    (h : ((p, a), T) ∈ groupNfa ts) : (∃ x, (p, a, x) ∈ ts) ∧ ∀ x, x ∈ T → (p, a, x) ∈ ts := by
  obtain ⟨⟨⟨_, _, x⟩, ht, ⟨rfl, rfl⟩⟩, hall⟩ :=
    Dict.mem_foldl_add_nil (fun t : String × String × String => (t.1, t.2.1)) (·.2.2) h
  refine ⟨⟨x, ht⟩, fun y hy => ?_⟩
  obtain ⟨⟨_, _, _⟩, ht', ⟨rfl, rfl⟩, rfl⟩ := hall y hy
  exact ht'

/-- the rest of `parseNfa` after `parseRaw`, word for word (see `dfaOfRaw`) -/
def nfaOfRaw (A0 : Raw) (stateOk : Word → Bool) : Except Err (NFA String String) := do
  let A ← commonChecks A0 [] stateOk
  let eps ← parseSymbol A "epsilon" 'ε' "_"
  let used := dedup ((A.transitions.map fun t => str t.2.1).filter (· ≠ eps))
  let Sigma ← getSymbolSet A "input_symbols" used
  if !wordsOk Sigma then .error .runtimeError else
  NFA.checked { Q := A.states, Sigma := Sigma, delta := groupNfa (A.transitions.map fun t => (t.1, str t.2.1, t.2.2)),
                q0 := initialOf A, F := A.final, eps := eps }

theorem parseNfa_eq_ok {text : Word} {ok : Word → Bool} {N : NFA String String} :
    parseNfa text ok = .ok N ↔ ∃ A0, parseRaw .nfa ok text = .ok A0 ∧ nfaOfRaw A0 ok = .ok N :=
  Except.bind_eq_ok'

theorem nfaOfRaw_eq_ok {A0 : Raw} {ok : Word → Bool} {N : NFA String String} :
    nfaOfRaw A0 ok = .ok N ↔ ∃ A eps Sigma, commonChecks A0 [] ok = .ok A ∧ parseSymbol A "epsilon" 'ε' "_" = .ok eps ∧
      getSymbolSet A "input_symbols" (dedup ((A.transitions.map fun t => str t.2.1).filter (· ≠ eps))) = .ok Sigma ∧
      wordsOk Sigma = true ∧
      NFA.checked { Q := A.states, Sigma := Sigma,
                    delta := groupNfa (A.transitions.map fun t => (t.1, str t.2.1, t.2.2)),
                    q0 := initialOf A, F := A.final, eps := eps } = .ok N := by
  simp only [nfaOfRaw, Except.bind_eq_ok', Except.ite_error_eq_ok, Bool.not_eq_eq_eq_not, Bool.not_true, Bool.not_eq_false,
    exists_and_left]

/-- the constructor's assertion after the builder's own checks (see `dfaBuilt_valid`): only `ε ∈ Σ` can still fail it -/
theorem nfaBuilt_valid {A0 A : Raw} {ok : Word → Bool} {eps : String} {Sigma : List String}
    (h1 : commonChecks A0 [] ok = .ok A)
    (h3 : getSymbolSet A "input_symbols" (dedup ((A.transitions.map fun t => str t.2.1).filter (· ≠ eps))) = .ok Sigma)
    (he : eps ∉ Sigma) :
    NFA.valid { Q := A.states, Sigma := Sigma, delta := groupNfa (A.transitions.map fun t => (t.1, str t.2.1, t.2.2)),
                q0 := initialOf A, F := A.final, eps := eps : NFA String String } = true := by
  obtain ⟨c0, cF, cT⟩ := commonChecks_closed h1
  refine (NFA.valid_iff _).mpr ⟨c0, cF, he, fun q a T hm => ?_⟩
  obtain ⟨⟨x, hx⟩, hall⟩ := groupNfa_mem hm
  have key : ∀ y, (q, a, y) ∈ (A.transitions.map fun t => (t.1, str t.2.1, t.2.2)) → q ∈ A.states ∧ (a ∈ Sigma ∨ a = eps) ∧ y ∈ A.states := by
    intro y hy
    obtain ⟨t, ht, e⟩ := List.mem_map.mp hy
    cases e
    refine ⟨(cT t ht).1, (Decidable.em (str t.2.1 = eps)).symm.imp_left fun hne => ?_, (cT t ht).2⟩
    exact getSymbolSet_used_mem h3 _ (mem_dedup.mpr (List.mem_filter.mpr ⟨List.mem_map_of_mem ht, by simpa using hne⟩))
  exact ⟨(key x hx).1, (key x hx).2.1, fun y hy => (key y (hall y hy)).2.2⟩

/-- what every NFA that comes out of `parse_nfa` satisfies (see `ParsedDfa`) -/
structure ParsedNfa (ok : Word → Bool) (N : NFA String String) : Prop where
  valid : N.valid = true
  nodupQ : N.Q.Nodup
  names : ∀ q, q ∈ N.Q → ok q.toList = true
  syms : ∀ a, a ∈ N.Sigma → isWord a.toList = true

theorem parsedNfa_of {text : List Char} {ok : Word → Bool} {N : NFA String String}
    (h : parseNfa text ok = .ok N) : ParsedNfa ok N := by
  obtain ⟨A0, h0, hN⟩ := parseNfa_eq_ok.mp h
  obtain ⟨A, eps, Sigma, h1, _, _, h4, hc⟩ := nfaOfRaw_eq_ok.mp hN
  obtain ⟨rfl, hv⟩ := NFA.checked_ok hc
  exact ⟨hv, commonChecks_states_nodup (parseRaw_states_nodup h0) h1, (commonChecks_ok h1).2.2.1, List.all_eq_true.mp h4⟩

theorem states_of_nil (A0 : Raw) : (if A0.states.isEmpty then dedup (usedStates A0 ++ []) else A0.states) =
    if A0.states.isEmpty then usedStates A0 else A0.states := by
  rw [List.append_nil, show dedup (usedStates A0) = usedStates A0 from dedup_dedup _]

/-- names that survive the NFA text format: `\w+`, not a keyword of the format -/
def NfaNameOk (s : String) : Prop :=
  Parse.isWord s.toList = true ∧ s ∉ ["states", "final", "initial", "input_symbols", "epsilon"]


/-- the `(p, q, a)` triples `print_nfa` groups into lines -/
def nfaTrans (N : NFA String String) : List (String × String × String) :=
  N.delta.flatMap fun e => e.2.map fun q => (e.1.1, q, e.1.2)

/-- what the line parser reads back from `printNfa N` -/
def nfaRaw (N : NFA String String) : Raw :=
  { states := sortStrings (dedup N.Q), final := sortStrings (dedup N.F), initial := [N.q0],
    items := [("states", sortStrings (dedup N.Q)), ("final", sortStrings (dedup N.F)), ("initial", [N.q0]),
              ("input_symbols", sortStrings (dedup N.Sigma)), ("epsilon", [N.eps])],
    transitions := transOf (nfaTrans N) }

theorem printNfa_eq (N : NFA String String) :
    printNfa N = "".intercalate (((nfaRaw N).items.map declLine ++ transLines (nfaTrans N)).map (· ++ "\n")) := rfl

theorem mem_nfaTrans {N : NFA String String} {t : String × String × String} :
    t ∈ nfaTrans N ↔ ∃ T, ((t.1, t.2.2), T) ∈ N.delta ∧ t.2.1 ∈ T := by
  simp only [nfaTrans, List.mem_flatMap, List.mem_map]
  constructor
  · rintro ⟨⟨⟨p, a⟩, T⟩, he, q, hq, rfl⟩
    exact ⟨T, he, hq⟩
  · rintro ⟨T, he, hq⟩
    exact ⟨_, he, t.2.1, hq, rfl⟩

theorem nfaTrans_ok {N : NFA String String} (hv : N.valid = true) (hQ : ∀ q, q ∈ N.Q → Parse.NfaNameOk q)
    (hS : ∀ a, a ∈ N.Sigma → Parse.isWord a.toList = true) (he : Parse.isWord N.eps.toList = true) :
    ∀ t, t ∈ nfaTrans N → TransOkFor .nfa isWord t := by
  intro t ht
  obtain ⟨T, hm, hq⟩ := mem_nfaTrans.mp ht
  obtain ⟨hp, ha, hT⟩ := NFA.valid_closed hv hm
  have hw : isWord t.2.2.toList = true := by
    rcases ha with ha | ha
    · exact hS _ ha
    · rw [ha]; exact he
  refine .of_isWord (hQ _ hp).1 (hQ _ hp).2 (hQ _ (hT _ hq)).1 (isWord_token hw) ?_
  have := isWord_ne_nil hw
  simp only [labelOk]
  cases h : t.2.2.toList with
  | nil => exact absurd h this
  | cons => rfl

theorem parseRaw_printNfa (N : NFA String String) (hv : N.valid = true) (hQ : ∀ q, q ∈ N.Q → Parse.NfaNameOk q)
    (hS : ∀ a, a ∈ N.Sigma → Parse.isWord a.toList = true) (he : Parse.isWord N.eps.toList = true) :
    parseRaw .nfa isWord (printNfa N).toList = .ok (nfaRaw N) := by
  obtain ⟨hq0, hF, _, _⟩ := (NFA.valid_iff N).mp hv
  obtain ⟨d1, d2, d3⟩ := declOk_names (k := .nfa) (fun q hq => .of_isWord (hQ q hq).1 (hQ q hq).2) hq0 hF
  have hds : ∀ d, d ∈ (nfaRaw N).items → DeclOk .nfa isWord d := by
    simp only [nfaRaw, List.forall_mem_cons, List.not_mem_nil, false_imp_iff, implies_true, and_true]
    exact ⟨d1, d2, d3, .keyword (by decide) fun n hn => isWord_token (hS n (mem_sortStrings_dedup.mp hn)),
      .keyword (by decide) (List.forall_mem_singleton.mpr (isWord_token he))⟩
  rw [printNfa_eq]
  exact parseRaw_printed_terminated hds (by simp [nfaRaw]) (nfaTrans_ok hv hQ hS he)


theorem nfaRaw_trans_mem (N : NFA String String) (p a x : String) :
    (p, a, x) ∈ ((nfaRaw N).transitions.map fun t => (t.1, str t.2.1, t.2.2)) ↔ (p, x, a) ∈ nfaTrans N := by
  show (p, a, x) ∈ ((transOf (nfaTrans N)).map fun t => (t.1, str t.2.1, t.2.2)) ↔ _
  rw [List.mem_map]
  constructor
  · rintro ⟨t0, ht0, he⟩
    obtain ⟨t, ht, rfl⟩ := mem_transOf.mp ht0
    simp only [str_toList, Prod.mk.injEq] at he
    obtain ⟨rfl, rfl, rfl⟩ := he
    exact ht
  · intro ht
    exact ⟨(p, a.toList, x), mem_transOf.mpr ⟨_, ht, rfl⟩, by simp⟩

theorem nfaRaw_trans_closed {N : NFA String String} (hv : N.valid = true) {t : String × Word × String}
    (ht : t ∈ (nfaRaw N).transitions) : t.1 ∈ N.Q ∧ (str t.2.1 ∈ N.Sigma ∨ str t.2.1 = N.eps) ∧ t.2.2 ∈ N.Q := by
  have ht0 : t ∈ transOf (nfaTrans N) := ht
  obtain ⟨t', ht', rfl⟩ := mem_transOf.mp ht0
  obtain ⟨T, hm, hq⟩ := mem_nfaTrans.mp ht'
  obtain ⟨hp, ha, hT⟩ := NFA.valid_closed hv hm
  exact ⟨hp, by simpa using ha, hT _ hq⟩

theorem nfaRaw_succ (N : NFA String String) (hk : (N.delta.map (·.1)).Nodup) (q a x : String) :
    x ∈ ((groupNfa ((nfaRaw N).transitions.map fun t => (t.1, str t.2.1, t.2.2))).lookup (q, a)).getD [] ↔
      x ∈ N.succ q a := by
  rw [mem_groupNfa_lookup, nfaRaw_trans_mem, mem_nfaTrans]
  exact (mem_getD_nil_iff.trans (exists_congr fun T => and_congr_left' (Dict.lookup_eq_some_iff_mem hk (q, a) T))).symm

/-- the round trip: the sets come back sorted and without repetitions; a `δ` entry with an empty target set prints no line and
    comes back as a missing entry, which `succ` reads as ∅ -/
theorem parse_print_nfa_sim (N : NFA String String) (hv : N.valid = true) (hk : (N.delta.map (·.1)).Nodup)
    (hQ : ∀ q, q ∈ N.Q → Parse.NfaNameOk q) (hS : ∀ a, a ∈ N.Sigma → Parse.isWord a.toList = true)
    (he : Parse.isWord N.eps.toList = true) :
    ∃ N', Parse.parseNfa (Parse.printNfa N).toList = .ok N' ∧ C13f.NfaSim N' N := by
  obtain ⟨hq0, hF, heps, _⟩ := (NFA.valid_iff N).mp hv
  have h0 := parseRaw_printNfa N hv hQ hS he
  have h1 : commonChecks (nfaRaw N) [] isWord = .ok (nfaRaw N) :=
    commonChecks_printed [] rfl rfl hq0 (fun f hf => hF f (mem_sortStrings_dedup.mp hf))
      (fun t ht => ⟨(nfaRaw_trans_closed hv ht).1, (nfaRaw_trans_closed hv ht).2.2⟩) fun q hq => (hQ q hq).1
  have h2 : parseSymbol (nfaRaw N) "epsilon" 'ε' "_" = .ok N.eps := by rfl
  have h3 : getSymbolSet (nfaRaw N) "input_symbols"
      (dedup (((nfaRaw N).transitions.map fun t => str t.2.1).filter (· ≠ N.eps))) =
      .ok (dedup (sortStrings (dedup N.Sigma))) := by
    refine getSymbolSet_printed (S := N.Sigma) rfl fun a ha => ?_
    obtain ⟨ha, hne⟩ := List.mem_filter.mp (mem_dedup.mp ha)
    obtain ⟨t, ht, rfl⟩ := List.mem_map.mp ha
    exact (nfaRaw_trans_closed hv ht).2.1.resolve_right (by simpa using hne)
  have hvalid := nfaBuilt_valid h1 h3 (by simpa using heps)
  exact ⟨_, parseNfa_eq_ok.mpr ⟨_, h0, nfaOfRaw_eq_ok.mpr ⟨_, _, _, h1, h2, h3, wordsOk_printed hS, NFA.checked_of_valid hvalid⟩⟩,
    hvalid, fun _ => mem_sortStrings_dedup, fun _ => mem_dedup.trans mem_sortStrings_dedup, rfl, fun _ => mem_sortStrings_dedup, rfl,
    nfaRaw_succ N hk⟩

/-! ### a printed DFA read as an NFA (`check_nfa2dfa` parses its answer with `parse_nfa`) -/

theorem groupNfa_of_nodup (ts : List (String × String × String)) (hnd : (ts.map fun t => (t.1, t.2.1)).Nodup) :
    groupNfa ts = ts.map fun t => ((t.1, t.2.1), [t.2.2]) :=
  (Dict.foldl_add_of_nodup (fun t : String × String × String => (t.1, t.2.1)) (·.2.2) ts [] (by simpa using hnd)).trans
    (List.nil_append _)

/-- the ε symbol `parse_nfa` infers for a text without an `epsilon` declaration -/
def inferredEps (D : DFA String String) : String :=
  if (dfaRaw D).transitions.any (fun t => t.2.1.contains 'ε') then String.singleton 'ε' else "_"

theorem inferredEps_cases (D : DFA String String) : inferredEps D = "ε" ∨ inferredEps D = "_" := by
  unfold inferredEps
  split
  · exact Or.inl rfl
  · exact Or.inr rfl

theorem parse_printDfa_as_nfa (ok : Word → Bool) (D : DFA String String) (hv : D.valid = true)
    (hk : (D.delta.map (·.1)).Nodup) (hQ : ∀ q, q ∈ D.Q → StateNameOk .nfa ok q)
    (hS : ∀ a, a ∈ D.Sigma → Parse.isWord a.toList = true) (he : inferredEps D ∉ D.Sigma) :
    ∃ N', Parse.parseNfa (Parse.printDfa D).toList ok = .ok N' ∧ N'.valid = true ∧
      (∀ q, q ∈ N'.Q ↔ q ∈ D.Q) ∧ (∀ a, a ∈ N'.Sigma ↔ a ∈ D.Sigma) ∧ N'.q0 = D.q0 ∧ (∀ q, q ∈ N'.F ↔ q ∈ D.F) ∧
      N'.eps = inferredEps D ∧ (∀ q a, N'.succ q a = (Keys.dfaAsNfa D (inferredEps D)).succ q a) ∧
      (∀ e, e ∈ N'.delta → e.1.2 ∈ D.Sigma) := by
  have h0 := parseRaw_printDfa_for .nfa (.inr rfl) ok D hv hQ hS
  have hperm := dfaRaw_delta_perm D
  have h1 := commonChecks_dfaRaw hv fun q hq => (hQ q hq).ok
  have h2 : parseSymbol (dfaRaw D) "epsilon" 'ε' "_" = .ok (inferredEps D) := rfl
  have h3 := getSymbolSet_dfaRaw hv (used := ((dfaRaw D).transitions.map fun t => str t.2.1).filter (· ≠ inferredEps D))
    fun _ h => (List.mem_filter.mp h).1
  -- distinct keys: every group is a singleton, and the table is `δ` entry by entry
  have hg : groupNfa ((dfaRaw D).transitions.map fun t => (t.1, str t.2.1, t.2.2)) =
      ((dfaRaw D).transitions.map fun t => ((t.1, str t.2.1), t.2.2)).map fun e => (e.1, [e.2]) := by
    rw [groupNfa_of_nodup _ (by rw [List.map_map]; exact (dfaRaw_keys_perm D).nodup_iff.mpr hk), List.map_map, List.map_map]
    rfl
  have hvalid := nfaBuilt_valid h1 h3 (by simpa using he)
  refine ⟨_, parseNfa_eq_ok.mpr ⟨_, h0, nfaOfRaw_eq_ok.mpr ⟨_, _, _, h1, h2, h3, wordsOk_printed hS, NFA.checked_of_valid hvalid⟩⟩,
    hvalid, fun _ => mem_sortStrings_dedup, fun _ => mem_dedup.trans mem_sortStrings_dedup, rfl, fun _ => mem_sortStrings_dedup,
    rfl, fun q a => ?_, fun e he => ?_⟩
  · show (List.lookup (q, a) (groupNfa _)).getD [] = (List.lookup (q, a) (D.delta.map fun e => (e.1, [e.2]))).getD []
    rw [hg, lookup_eq_of_perm (hperm.map _) (by rw [List.map_map]; exact (hperm.map (·.1)).nodup_iff.mpr hk)]
  · rw [hg] at he
    obtain ⟨e0, he0, rfl⟩ := List.mem_map.mp he
    obtain ⟨t, ht, rfl⟩ := List.mem_map.mp he0
    exact (dfaRaw_closed hv ht).2.1

end Parse
end Gamba
