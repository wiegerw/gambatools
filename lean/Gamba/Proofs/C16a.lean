/-
  Gamba.Proofs.C16a — the DFA text format: `commonChecks`, `getSymbolSet` and `parseSymbol` characterised for all four builders,
  `parseDfa` as the line parser followed by `dfaOfRaw`, why the constructor check passes after the builder's own checks
  (`commonChecks_closed`, `dfaBuilt_valid`; the other kinds follow the same pattern in C16b, C16c), what every result of
  `parseDfa` satisfies (`ParsedDfa`), and the round trip `parseDfa (printDfa D)` for any state-label predicate, whose result is
  `D` up to the order of its sets (`C13f.DfaSim`: what the answer-key theorems of Proofs/C13a ask of an answer).
-/
import Gamba.Proofs.LineAct
import Gamba.Proofs.DFABasic
import Gamba.Proofs.DictFold
namespace Gamba
open Text

namespace C13f

/-- `A'` is `A` up to the order of its sets: same members of `Q`, `Σ`, `F`, same `q0`, δ a permutation (what a printed
    automaton looks like when it is read back).  Every check reads `Q`, `Σ`, `F` through membership, δ through `lookup` or
    its entries, and the language through `Accepts`, which is why an answer that is the key up to `DfaSim` passes. -/
structure DfaSim (A' A : DFA String String) : Prop where
  valid' : A'.valid = true
  Q : ∀ q, q ∈ A'.Q ↔ q ∈ A.Q
  Sigma : ∀ a, a ∈ A'.Sigma ↔ a ∈ A.Sigma
  q0 : A'.q0 = A.q0
  F : ∀ q, q ∈ A'.F ↔ q ∈ A.F
  delta : A'.delta.Perm A.delta

theorem DfaSim.refl {A : DFA String String} (hv : A.valid = true) : DfaSim A A :=
  ⟨hv, fun _ => Iff.rfl, fun _ => Iff.rfl, rfl, fun _ => Iff.rfl, .refl _⟩

theorem DfaSim.lookup {A' A : DFA String String} (h : DfaSim A' A) (hk : (A.delta.map (·.1)).Nodup) (k : String × String) :
    A'.delta.lookup k = A.delta.lookup k :=
  lookup_eq_of_perm h.delta ((h.delta.map (·.1)).nodup_iff.mpr hk) k

theorem DfaSim.keys {A' A : DFA String String} (h : DfaSim A' A) (hk : (A.delta.map (·.1)).Nodup) :
    (A'.delta.map (·.1)).Nodup := (h.delta.map (·.1)).nodup_iff.mpr hk

theorem DfaSim.accepts {A' A : DFA String String} (h : DfaSim A' A) (hk : (A.delta.map (·.1)).Nodup) (w : List String) :
    A'.Accepts w ↔ A.Accepts w :=
  DFA.Accepts_of_lookup_eq (h.lookup hk) h.q0 h.F w

end C13f

namespace Parse

theorem commonChecks_iff {A0 A : Raw} {extra : List String} {ok : Word → Bool} :
    commonChecks A0 extra ok = .ok A ↔
      (∀ q, q ∈ usedStates A0 → q ∈ (if A0.states.isEmpty then dedup (usedStates A0 ++ extra) else A0.states)) ∧
      (∀ q, q ∈ (if A0.states.isEmpty then dedup (usedStates A0 ++ extra) else A0.states) → ok q.toList = true) ∧
      A0.initial.length = 1 ∧
      { A0 with states := if A0.states.isEmpty then dedup (usedStates A0 ++ extra) else A0.states } = A := by
  simp only [commonChecks, Except.ite_error_eq_ok, Bool.not_eq_true, Bool.not_eq_false', Decidable.not_not, ssubset_iff,
    List.all_eq_true, Except.ok.injEq]

theorem commonChecks_ok {A0 A : Raw} {extra : List String} {ok : Word → Bool} (h : commonChecks A0 extra ok = .ok A) :
    A = { A0 with states := if A0.states.isEmpty then dedup (usedStates A0 ++ extra) else A0.states } ∧
    (∀ q, q ∈ usedStates A0 → q ∈ A.states) ∧ (∀ q, q ∈ A.states → ok q.toList = true) ∧ A0.initial.length = 1 := by
  obtain ⟨h1, h2, h3, rfl⟩ := commonChecks_iff.mp h
  exact ⟨rfl, h1, h2, h3⟩

theorem commonChecks_eq_ok {A0 : Raw} {ok : Word → Bool} (extra : List String) (hne : A0.states ≠ [])
    (h1 : ∀ q, q ∈ usedStates A0 → q ∈ A0.states) (h2 : ∀ q, q ∈ A0.states → ok q.toList = true)
    (h3 : A0.initial.length = 1) : commonChecks A0 extra ok = .ok A0 := by
  unfold commonChecks
  have he : A0.states.isEmpty = false := by cases hA : A0.states <;> simp_all
  have e1 : ssubset (usedStates A0) A0.states = true := ssubset_iff.mpr h1
  have e2 : (A0.states.all fun s => ok s.toList) = true := List.all_eq_true.mpr h2
  simp [he, e1, e2, h3]

theorem initial_eq_of_length {A : Raw} (h : A.initial.length = 1) : A.initial = [initialOf A] := by
  unfold initialOf
  match hA : A.initial, h with
  | [x], _ => rfl

theorem mem_usedStates {A : Raw} {q : String} :
    q ∈ usedStates A ↔ q ∈ A.initial ∨ q ∈ A.final ∨ ∃ t, t ∈ A.transitions ∧ (q = t.1 ∨ q = t.2.2) := by
  simp only [usedStates, mem_dedup, List.mem_append, List.mem_flatMap, List.mem_cons, List.not_mem_nil, or_false, or_assoc]

theorem commonChecks_closed {A0 A : Raw} {extra : List String} {ok : Word → Bool} (h : commonChecks A0 extra ok = .ok A) :
    initialOf A ∈ A.states ∧ (∀ f, f ∈ A.final → f ∈ A.states) ∧
      ∀ t, t ∈ A.transitions → t.1 ∈ A.states ∧ t.2.2 ∈ A.states := by
  obtain ⟨rfl, hu, _, hi⟩ := commonChecks_ok h
  exact ⟨hu _ (mem_usedStates.mpr (.inl (initial_eq_of_length hi ▸ List.mem_singleton_self _))),
    fun f hf => hu f (mem_usedStates.mpr (.inr (.inl hf))),
    fun t ht => ⟨hu _ (mem_usedStates.mpr (.inr (.inr ⟨t, ht, .inl rfl⟩))),
      hu _ (mem_usedStates.mpr (.inr (.inr ⟨t, ht, .inr rfl⟩)))⟩⟩

theorem commonChecks_states_nodup {A0 A : Raw} {extra : List String} {ok : Word → Bool}
    (h0 : A0.states.Nodup) (h : commonChecks A0 extra ok = .ok A) : A.states.Nodup := by
  obtain ⟨rfl, _⟩ := commonChecks_ok h
  show (if A0.states.isEmpty then dedup (usedStates A0 ++ extra) else A0.states).Nodup
  split
  · exact nodup_dedup _
  · exact h0

theorem commonChecks_printed {A : Raw} {ok : Word → Bool} {Q : List String} {q0 : String} (extra : List String)
    (hs : A.states = sortStrings (dedup Q)) (hi : A.initial = [q0]) (hq0 : q0 ∈ Q) (hF : ∀ f, f ∈ A.final → f ∈ Q)
    (ht : ∀ t, t ∈ A.transitions → t.1 ∈ Q ∧ t.2.2 ∈ Q) (hw : ∀ q, q ∈ Q → ok q.toList = true) :
    commonChecks A extra ok = .ok A := by
  refine commonChecks_eq_ok extra ?_ ?_ ?_ (by rw [hi]; rfl) <;> rw [hs]
  · exact List.ne_nil_of_mem (mem_sortStrings_dedup.mpr hq0)
  · intro q hq
    rw [mem_usedStates, hi, List.mem_singleton] at hq
    rw [mem_sortStrings_dedup]
    rcases hq with rfl | hq | ⟨t, ht', rfl | rfl⟩
    · exact hq0
    · exact hF q hq
    · exact (ht t ht').1
    · exact (ht t ht').2
  · exact fun q hq => hw q (mem_sortStrings_dedup.mp hq)


theorem wordsOk_printed {S : List String} (h : ∀ a, a ∈ S → isWord a.toList = true) :
    wordsOk (dedup (sortStrings (dedup S))) = true := by
  simp only [wordsOk, List.all_eq_true, mem_dedup, mem_sortStrings]
  exact h

theorem getSymbolSet_some {A : Raw} {key : String} {used S d : List String} (hd : A.items.lookup key = some d) :
    getSymbolSet A key used = .ok S ↔ (∀ a, a ∈ used → a ∈ d) ∧ S = dedup d := by
  rw [← ssubset_iff, eq_comm (a := S)]
  cases used <;> simp [getSymbolSet, hd, Except.ite_error_eq_ok, ssubset]

theorem getSymbolSet_none {A : Raw} {key : String} {used S : List String} (hd : A.items.lookup key = none) :
    getSymbolSet A key used = .ok S ↔ S = used := by
  simp only [getSymbolSet, hd, Except.ok.injEq, eq_comm]

theorem getSymbolSet_mem {A : Raw} {key : String} {used S : List String} (h : getSymbolSet A key used = .ok S) (a : String) :
    a ∈ S ↔ (match A.items.lookup key with
             | some declared => a ∈ declared
             | none => a ∈ used) := by
  cases hl : A.items.lookup key with
  | none => rw [(getSymbolSet_none hl).mp h]
  | some declared => rw [((getSymbolSet_some hl).mp h).2, mem_dedup]

theorem getSymbolSet_used_sub {A : Raw} {key : String} {used S declared : List String}
    (h : getSymbolSet A key used = .ok S) (hd : A.items.lookup key = some declared) : ∀ a, a ∈ used → a ∈ declared :=
  ((getSymbolSet_some hd).mp h).1

theorem getSymbolSet_used_mem {A : Raw} {key : String} {used S : List String} (h : getSymbolSet A key used = .ok S) :
    ∀ a, a ∈ used → a ∈ S := by
  intro a ha
  rw [getSymbolSet_mem h a]
  cases hl : A.items.lookup key with
  | none => exact ha
  | some d => exact getSymbolSet_used_sub h hl a ha

theorem getSymbolSet_nodup {A : Raw} {key : String} {used S : List String} (h : getSymbolSet A key (dedup used) = .ok S) :
    S.Nodup := by
  cases hd : A.items.lookup key with
  | none => rw [(getSymbolSet_none hd).mp h]; exact nodup_dedup _
  | some d => rw [((getSymbolSet_some hd).mp h).2]; exact nodup_dedup _

theorem getSymbolSet_printed {A : Raw} {key : String} {used S : List String}
    (hd : A.items.lookup key = some (sortStrings (dedup S))) (h : ∀ a, a ∈ used → a ∈ S) :
    getSymbolSet A key used = .ok (dedup (sortStrings (dedup S))) :=
  (getSymbolSet_some hd).mpr ⟨fun a ha => mem_sortStrings_dedup.mpr (h a ha), rfl⟩

theorem parseSymbol_ok {A : Raw} {key : String} {c : Char} {dflt v : String} (h : parseSymbol A key c dflt = .ok v) :
    (match A.items.lookup key with
     | some [w] => v = w
     | some _ => False
     | none => v = (if A.transitions.any (fun t => t.2.1.contains c) then String.singleton c else dflt)) := by
  unfold parseSymbol at h
  cases hl : A.items.lookup key with
  | none => rw [hl] at h; cases h; rfl
  | some l =>
    rw [hl] at h
    match l, h with
    | [], h => cases h
    | [w], h => cases h; rfl
    | _ :: _ :: _, h => cases h

/-- the rest of `parseDfa` after `parseRaw`, word for word (so `parseDfa text ok` is `parseRaw .dfa ok text >>= (dfaOfRaw · ok)`
    by `rfl`, which is all `parseDfa_eq_ok` uses) -/
def dfaOfRaw (A0 : Raw) (stateOk : Word → Bool) : Except Err (DFA String String) := do
  let A ← commonChecks A0 [] stateOk
  let keys := A.transitions.map fun t => (t.1, str t.2.1)
  if parseDfa.hasDupPairs keys then .error .runtimeError else
  let used := dedup (A.transitions.map fun t => str t.2.1)
  let Sigma ← getSymbolSet A "input_symbols" used
  if !wordsOk Sigma then .error .runtimeError else
  if !(A.states.all fun p => Sigma.all fun a => decide ((p, a) ∈ keys)) then .error .runtimeError else
  DFA.checked { Q := A.states, Sigma := Sigma, delta := A.transitions.map fun t => ((t.1, str t.2.1), t.2.2),
                q0 := initialOf A, F := A.final }

theorem parseDfa_eq_ok {text : Word} {ok : Word → Bool} {D : DFA String String} :
    parseDfa text ok = .ok D ↔ ∃ A0, parseRaw .dfa ok text = .ok A0 ∧ dfaOfRaw A0 ok = .ok D :=
  Except.bind_eq_ok'

theorem dfaOfRaw_eq_ok {A0 : Raw} {ok : Word → Bool} {D : DFA String String} :
    dfaOfRaw A0 ok = .ok D ↔ ∃ A Sigma, commonChecks A0 [] ok = .ok A ∧
      parseDfa.hasDupPairs (A.transitions.map fun t => (t.1, str t.2.1)) = false ∧
      getSymbolSet A "input_symbols" (dedup (A.transitions.map fun t => str t.2.1)) = .ok Sigma ∧
      wordsOk Sigma = true ∧
      (A.states.all fun p => Sigma.all fun a => decide ((p, a) ∈ A.transitions.map fun t => (t.1, str t.2.1))) = true ∧
      DFA.checked { Q := A.states, Sigma := Sigma, delta := A.transitions.map fun t => ((t.1, str t.2.1), t.2.2),
                    q0 := initialOf A, F := A.final } = .ok D := by
  simp only [dfaOfRaw, Except.bind_eq_ok', Except.ite_error_eq_ok, Bool.not_eq_true, Bool.not_eq_eq_eq_not, Bool.not_true,
    Bool.not_eq_false, exists_and_left]

/-- the constructor's assertion cannot fail after the builder's own checks: `commonChecks` puts the initial state, the final
    states and both ends of every entry among the states, `getSymbolSet` every used symbol into Σ, and totality is tested -/
theorem dfaBuilt_valid {A0 A : Raw} {ok : Word → Bool} {Sigma : List String} (h1 : commonChecks A0 [] ok = .ok A)
    (h3 : getSymbolSet A "input_symbols" (dedup (A.transitions.map fun t => str t.2.1)) = .ok Sigma)
    (h5 : (A.states.all fun p => Sigma.all fun a => decide ((p, a) ∈ A.transitions.map fun t => (t.1, str t.2.1))) = true) :
    DFA.valid { Q := A.states, Sigma := Sigma, delta := A.transitions.map fun t => ((t.1, str t.2.1), t.2.2),
                q0 := initialOf A, F := A.final : DFA String String } = true := by
  obtain ⟨c0, cF, cT⟩ := commonChecks_closed h1
  refine (DFA.valid_iff _).mpr ⟨c0, cF, fun q a r he => ?_, fun q a hq ha => ?_⟩
  · obtain ⟨t, ht, e⟩ := List.mem_map.mp he
    cases e
    exact ⟨(cT t ht).1, getSymbolSet_used_mem h3 _ (mem_dedup.mpr (List.mem_map_of_mem ht)), (cT t ht).2⟩
  · simp only [List.all_eq_true, decide_eq_true_eq] at h5
    obtain ⟨t, ht, e⟩ := List.mem_map.mp (h5 q hq a ha)
    exact Option.isSome_iff_exists.mp (lookup_isSome_iff_exists.mpr ⟨t.2.2, List.mem_map.mpr ⟨t, ht, by rw [← e]⟩⟩)

theorem hasDupPairs_eq_false_iff {l : List (String × String)} : parseDfa.hasDupPairs l = false ↔ l.Nodup := by
  simp [parseDfa.hasDupPairs, dedup_length_eq_iff]

/-- what every DFA that comes out of `parse_dfa` satisfies, for every state-label predicate: the class invariant; no repeated
    state, input symbol or transition key (what the object-level theorems assume of Python sets and dicts); every state
    passes the predicate, every symbol is a word -/
structure ParsedDfa (ok : Word → Bool) (D : DFA String String) : Prop where
  valid : D.valid = true
  keys : (D.delta.map (·.1)).Nodup
  nodupQ : D.Q.Nodup
  nodupS : D.Sigma.Nodup
  names : ∀ q, q ∈ D.Q → ok q.toList = true
  syms : ∀ a, a ∈ D.Sigma → isWord a.toList = true

theorem parsedDfa_of {text : List Char} {ok : Word → Bool} {D : DFA String String}
    (h : parseDfa text ok = .ok D) : ParsedDfa ok D := by
  obtain ⟨A0, h0, hD⟩ := parseDfa_eq_ok.mp h
  obtain ⟨A, Sigma, h1, h2, h3, h4, _, hc⟩ := dfaOfRaw_eq_ok.mp hD
  obtain ⟨rfl, hv⟩ := DFA.checked_ok hc
  refine ⟨hv, ?_, commonChecks_states_nodup (parseRaw_states_nodup h0) h1, getSymbolSet_nodup h3, (commonChecks_ok h1).2.2.1,
    List.all_eq_true.mp h4⟩
  show ((A.transitions.map fun t => ((t.1, str t.2.1), t.2.2)).map (·.1)).Nodup
  rw [List.map_map]
  exact hasDupPairs_eq_false_iff.mp h2

/-- names that survive the DFA text format: `\w+`, not a keyword of the format -/
def DfaNameOk (s : String) : Prop :=
  Parse.isWord s.toList = true ∧ s ∉ ["states", "final", "initial", "input_symbols"]


/-- the `(p, q, a)` triples `print_dfa` groups into lines -/
def dfaTrans (D : DFA String String) : List (String × String × String) := D.delta.map fun e => (e.1.1, e.2, e.1.2)

/-- what the line parser reads back from `printDfa D` -/
def dfaRaw (D : DFA String String) : Raw :=
  { states := sortStrings (dedup D.Q), final := sortStrings (dedup D.F), initial := [D.q0],
    items := [("states", sortStrings (dedup D.Q)), ("final", sortStrings (dedup D.F)), ("initial", [D.q0]),
              ("input_symbols", sortStrings (dedup D.Sigma))],
    transitions := transOf (dfaTrans D) }

theorem printDfa_toList (D : DFA String String) :
    (printDfa D).toList = strip ("\n".intercalate ((dfaRaw D).items.map declLine ++ transLines (dfaTrans D))).toList :=
  toList_str _

/-- the three declarations of state names that every printer writes -/
theorem declOk_names {k : Kind} {ok : Word → Bool} {Q F : List String} {q0 : String}
    (hQ : ∀ q, q ∈ Q → StateNameOk k ok q) (hq0 : q0 ∈ Q) (hF : ∀ f, f ∈ F → f ∈ Q) :
    DeclOk k ok ("states", sortStrings (dedup Q)) ∧ DeclOk k ok ("final", sortStrings (dedup F)) ∧
      DeclOk k ok ("initial", [q0]) := by
  have nQ : ∀ n, n ∈ sortStrings (dedup Q) → StateNameOk k ok n := fun n hn => hQ n (mem_sortStrings_dedup.mp hn)
  have nF : ∀ n, n ∈ sortStrings (dedup F) → StateNameOk k ok n := fun n hn => hQ n (hF n (mem_sortStrings_dedup.mp hn))
  exact ⟨.names (.inl rfl) (fun n hn => (nQ n hn).tok) (fun n hn => (nQ n hn).ok) (nodup_sortStrings_dedup _)
      fun _ => List.ne_nil_of_mem (mem_sortStrings_dedup.mpr hq0),
    .names (.inr (.inl rfl)) (fun n hn => (nF n hn).tok) (fun n hn => (nF n hn).ok) (nodup_sortStrings_dedup _)
      fun e => absurd e (by decide),
    .names (.inr (.inr rfl)) (List.forall_mem_singleton.mpr (hQ _ hq0).tok) (List.forall_mem_singleton.mpr (hQ _ hq0).ok)
      (by simp) fun e => absurd e (by decide)⟩

/-- the printed transitions of a DFA, read as a DFA or as an NFA with the state-label predicate `ok` -/
theorem dfaTrans_okFor {k : Kind} (hk : k = .dfa ∨ k = .nfa) {ok : Word → Bool} {D : DFA String String} (hv : D.valid = true)
    (hQ : ∀ q, q ∈ D.Q → StateNameOk k ok q) (hS : ∀ a, a ∈ D.Sigma → Parse.isWord a.toList = true) :
    ∀ t, t ∈ dfaTrans D → TransOkFor k ok t := by
  intro t ht
  obtain ⟨⟨⟨p, a⟩, q⟩, he, rfl⟩ := List.mem_map.mp ht
  obtain ⟨hp, ha, hq⟩ := DFA.valid_closed hv he
  refine ⟨hQ p hp, (hQ q hq).ok, (hQ q hq).tok, isWord_token (hS a ha), ?_⟩
  have := isWord_ne_nil (hS a ha)
  rcases hk with rfl | rfl <;> simp only [labelOk] <;> cases h : a.toList <;> first | exact absurd h this | rfl

/-- the line parser of kind `k` (DFA, or NFA for `parse_printDfa_as_nfa`, Proofs/C16b) reads `printDfa D` back as `dfaRaw D`,
    for any state-label predicate -/
theorem parseRaw_printDfa_for (k : Kind) (hk : k = .dfa ∨ k = .nfa) (ok : Word → Bool) (D : DFA String String)
    (hv : D.valid = true) (hQ : ∀ q, q ∈ D.Q → StateNameOk k ok q)
    (hS : ∀ a, a ∈ D.Sigma → Parse.isWord a.toList = true) :
    parseRaw k ok (printDfa D).toList = .ok (dfaRaw D) := by
  obtain ⟨hq0, hF, _, _⟩ := (DFA.valid_iff D).mp hv
  obtain ⟨d1, d2, d3⟩ := declOk_names hQ hq0 hF
  have hds : ∀ d, d ∈ (dfaRaw D).items → DeclOk k ok d := by
    simp only [dfaRaw, List.forall_mem_cons, List.not_mem_nil, false_imp_iff, implies_true, and_true]
    exact ⟨d1, d2, d3,
      .keyword (by rcases hk with rfl | rfl <;> decide) fun n hn => isWord_token (hS n (mem_sortStrings_dedup.mp hn))⟩
  rw [printDfa_toList, parseRaw_strip]
  -- the lemma yields `rawOf {} (dfaRaw D).items …`; on the literal list `items` the three look-ups of `rawOf` evaluate, and the
  -- record is `dfaRaw D` field by field, which `exact` checks by unfolding
  exact parseRaw_printed_joined hds (by simp [dfaRaw]) (dfaTrans_okFor hk hv hQ hS) (by simp [dfaRaw])

theorem parseRaw_printDfa (D : DFA String String) (hv : D.valid = true) (hQ : ∀ q, q ∈ D.Q → Parse.DfaNameOk q)
    (hS : ∀ a, a ∈ D.Sigma → Parse.isWord a.toList = true) :
    parseRaw .dfa isWord (printDfa D).toList = .ok (dfaRaw D) :=
  parseRaw_printDfa_for .dfa (.inl rfl) isWord D hv (fun q hq => .of_isWord (hQ q hq).1 (hQ q hq).2) hS

theorem dfaRaw_delta_perm (D : DFA String String) :
    ((dfaRaw D).transitions.map fun t => ((t.1, str t.2.1), t.2.2)).Perm D.delta :=
  transOf_decode_perm (es := D.delta) (enc := fun e => (e.1.1, e.2, e.1.2)) fun e _ => by rw [str_toList]

theorem dfaRaw_keys_perm (D : DFA String String) :
    ((dfaRaw D).transitions.map fun t => (t.1, str t.2.1)).Perm (D.delta.map (·.1)) := by
  have := (dfaRaw_delta_perm D).map (·.1)
  rw [List.map_map] at this
  exact this

theorem dfaRaw_closed {D : DFA String String} (hv : D.valid = true) {t : String × Word × String}
    (ht : t ∈ (dfaRaw D).transitions) : t.1 ∈ D.Q ∧ str t.2.1 ∈ D.Sigma ∧ t.2.2 ∈ D.Q :=
  DFA.valid_closed hv ((dfaRaw_delta_perm D).mem_iff.mp (List.mem_map.mpr ⟨t, ht, rfl⟩))

theorem commonChecks_dfaRaw {ok : Word → Bool} {D : DFA String String} (hv : D.valid = true)
    (hQ : ∀ q, q ∈ D.Q → ok q.toList = true) : commonChecks (dfaRaw D) [] ok = .ok (dfaRaw D) :=
  commonChecks_printed [] rfl rfl (DFA.valid_q0 hv) (fun _ hf => DFA.valid_F hv (mem_sortStrings_dedup.mp hf))
    (fun _ ht => ⟨(dfaRaw_closed hv ht).1, (dfaRaw_closed hv ht).2.2⟩) hQ

/-- whatever part of the labels counts as used (`parse_nfa` leaves the ε-label out) -/
theorem getSymbolSet_dfaRaw {D : DFA String String} (hv : D.valid = true) {used : List String}
    (hu : ∀ a, a ∈ used → a ∈ (dfaRaw D).transitions.map fun t => str t.2.1) :
    getSymbolSet (dfaRaw D) "input_symbols" (dedup used) = .ok (dedup (sortStrings (dedup D.Sigma))) :=
  getSymbolSet_printed (S := D.Sigma) rfl fun a ha => by
    obtain ⟨t, ht, rfl⟩ := List.mem_map.mp (hu a (mem_dedup.mp ha))
    exact (dfaRaw_closed hv ht).2.1

/-- the round trip for any state-label predicate: the sets come back sorted and without repetitions, the entries of `δ` in
    printing order -/
theorem parse_print_dfa_for (ok : Word → Bool) (D : DFA String String) (hv : D.valid = true) (hk : (D.delta.map (·.1)).Nodup)
    (hQ : ∀ q, q ∈ D.Q → StateNameOk .dfa ok q) (hS : ∀ a, a ∈ D.Sigma → Parse.isWord a.toList = true) :
    ∃ D', Parse.parseDfa (Parse.printDfa D).toList ok = .ok D' ∧ C13f.DfaSim D' D := by
  have h0 := parseRaw_printDfa_for .dfa (.inl rfl) ok D hv hQ hS
  have hkeys := dfaRaw_keys_perm D
  have h1 := commonChecks_dfaRaw hv fun q hq => (hQ q hq).ok
  have h2 : parseDfa.hasDupPairs ((dfaRaw D).transitions.map fun t => (t.1, str t.2.1)) = false :=
    hasDupPairs_eq_false_iff.mpr (hkeys.nodup_iff.mpr hk)
  have h3 := getSymbolSet_dfaRaw hv (used := (dfaRaw D).transitions.map fun t => str t.2.1) fun _ h => h
  have h5 : ((dfaRaw D).states.all fun p => (dedup (sortStrings (dedup D.Sigma))).all fun a =>
      decide ((p, a) ∈ (dfaRaw D).transitions.map fun t => (t.1, str t.2.1))) = true := by
    simp only [List.all_eq_true, dfaRaw, mem_sortStrings, mem_dedup]
    intro p hp a ha
    obtain ⟨r, hr⟩ := ((DFA.valid_iff D).mp hv).2.2.2 p a hp ha
    exact decide_eq_true (hkeys.mem_iff.mpr (List.mem_map.mpr ⟨((p, a), r), Dict.mem_of_lookup hr, rfl⟩))
  have hvalid := dfaBuilt_valid h1 h3 h5
  exact ⟨_, parseDfa_eq_ok.mpr ⟨_, h0, dfaOfRaw_eq_ok.mpr ⟨_, _, h1, h2, h3, wordsOk_printed hS, h5, DFA.checked_of_valid hvalid⟩⟩,
    hvalid, fun _ => mem_sortStrings_dedup, fun _ => mem_dedup.trans mem_sortStrings_dedup, rfl, fun _ => mem_sortStrings_dedup,
    dfaRaw_delta_perm D⟩

/-- … for the default predicate `\w+`, under the name condition of the DFA format -/
theorem parse_print_dfa_sim (D : DFA String String) (hv : D.valid = true) (hk : (D.delta.map (·.1)).Nodup)
    (hQ : ∀ q, q ∈ D.Q → Parse.DfaNameOk q) (hS : ∀ a, a ∈ D.Sigma → Parse.isWord a.toList = true) :
    ∃ D', Parse.parseDfa (Parse.printDfa D).toList = .ok D' ∧ C13f.DfaSim D' D :=
  parse_print_dfa_for isWord D hv hk (fun q hq => .of_isWord (hQ q hq).1 (hQ q hq).2) hS

end Parse
end Gamba
