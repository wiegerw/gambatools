/-
  Gamba.Proofs.C04a — the table-filling minimisation (`dfa_minimize`): every sweep marks inequivalent pairs only,
  a closed marking that contains the initial marks marks all of them, the loop reaches one within its fuel, and
  `classesFrom` assembles the Nerode partition from it.
-/
import Gamba.Proofs.MinBasic
import Gamba.Proofs.Sweep
namespace Gamba
set_option linter.unusedSectionVars false
variable {σ τ : Type} [DecidableEq σ] [DecidableEq τ]

theorem marked_iff (m : List (σ × σ)) (p q : σ) : marked m p q = true ↔ (p, q) ∈ m ∨ (q, p) ∈ m := by
  simp [marked]

theorem marked_symm (m : List (σ × σ)) (p q : σ) : marked m p q = marked m q p := by
  simp only [marked, Bool.or_comm]

theorem marked_mono {m m' : List (σ × σ)} (h : ∀ x, x ∈ m → x ∈ m') {p q : σ}
    (hm : marked m p q = true) : marked m' p q = true := by
  rw [marked_iff] at hm ⊢
  rcases hm with hm | hm
  · exact Or.inl (h _ hm)
  · exact Or.inr (h _ hm)

theorem marked_false_of {m m' : List (σ × σ)} (h : ∀ x, x ∈ m → x ∈ m') {p q : σ}
    (hm : marked m' p q = false) : marked m p q = false :=
  Bool.eq_false_iff.mpr fun h' => Bool.false_ne_true (hm.symm.trans (marked_mono h h'))

theorem marked_append_self (m : List (σ × σ)) (p q : σ) : marked (m ++ [(p, q)]) p q = true := by
  rw [marked_iff]; left; simp

theorem mem_pairsLt_mem {l : List σ} {p q : σ} (h : (p, q) ∈ pairsLt l) : p ∈ l ∧ q ∈ l := by
  induction l with
  | nil => simp [pairsLt] at h
  | cons x xs ih =>
    simp only [pairsLt, List.mem_append, List.mem_map, Prod.mk.injEq] at h
    rcases h with ⟨y, hy, rfl, rfl⟩ | h
    · exact ⟨List.mem_cons_self, List.mem_cons_of_mem _ hy⟩
    · exact ⟨List.mem_cons_of_mem _ (ih h).1, List.mem_cons_of_mem _ (ih h).2⟩

theorem mem_pairsLt_of_ne {l : List σ} {p q : σ} (hp : p ∈ l) (hq : q ∈ l) (hne : p ≠ q) :
    (p, q) ∈ pairsLt l ∨ (q, p) ∈ pairsLt l := by
  induction l with
  | nil => cases hp
  | cons x xs ih =>
    simp only [pairsLt, List.mem_append, List.mem_map, Prod.mk.injEq]
    rcases List.mem_cons.mp hp with rfl | hp'
    · rcases List.mem_cons.mp hq with rfl | hq'
      · exact absurd rfl hne
      · exact Or.inl (Or.inl ⟨q, hq', rfl, rfl⟩)
    · rcases List.mem_cons.mp hq with rfl | hq'
      · exact Or.inr (Or.inl ⟨p, hp', rfl, rfl⟩)
      · rcases ih hp' hq' with h | h
        · exact Or.inl (Or.inr h)
        · exact Or.inr (Or.inr h)

theorem length_pairsLt_le (l : List σ) : (pairsLt l).length ≤ l.length * l.length := by
  induction l with
  | nil => simp [pairsLt]
  | cons x xs ih =>
    simp only [pairsLt, List.length_append, List.length_map, List.length_cons]
    have : (xs.length + 1) * (xs.length + 1) = xs.length * xs.length + 2 * xs.length + 1 := by
      rw [Nat.add_mul, Nat.mul_add]; omega
    omega

/-- the marking condition for a pair w.r.t. the marks `m` -/
def DFA.tCond (D : DFA σ τ) (m : List (σ × σ)) (pq : σ × σ) : Prop :=
  marked m pq.1 pq.2 = false ∧ ∃ a, a ∈ D.Sigma ∧ marked m (D.next pq.1 a) (D.next pq.2 a) = true

/-- … as `tablePass` tests it -/
theorem DFA.tTest_iff (D : DFA σ τ) (m : List (σ × σ)) (pq : σ × σ) :
    ((!marked m pq.1 pq.2) = true ∧ D.Sigma.any (fun a => marked m (D.next pq.1 a) (D.next pq.2 a)) = true) ↔
      D.tCond m pq := by
  rw [DFA.tCond, List.any_eq_true, Bool.not_eq_true']

def DFA.TSound (D : DFA σ τ) (m : List (σ × σ)) : Prop := ∀ pq, pq ∈ m → ¬ D.Equiv pq.1 pq.2

theorem DFA.TSound.marked {D : DFA σ τ} {m : List (σ × σ)} (h : D.TSound m) {p q : σ}
    (hm : marked m p q = true) : ¬ D.Equiv p q := by
  rcases (marked_iff m p q).mp hm with hm | hm
  · exact h _ hm
  · exact fun he => h _ hm he.symm

/-! ### termination measure: the number of unmarked pairs of `P` -/

def tMeasure (P m : List (σ × σ)) : Nat := P.countP (fun pq => !marked m pq.1 pq.2)

theorem tMeasure_mono (P : List (σ × σ)) {m m' : List (σ × σ)} (h : ∀ x, x ∈ m → x ∈ m') :
    tMeasure P m' ≤ tMeasure P m := by
  unfold tMeasure
  apply List.countP_mono_left
  intro x _ hx
  simp only [Bool.not_eq_true'] at hx ⊢
  exact marked_false_of h hx

theorem tMeasure_lt (P : List (σ × σ)) (m : List (σ × σ)) {pq : σ × σ} (hP : pq ∈ P)
    (hm : marked m pq.1 pq.2 = false) : tMeasure P (m ++ [pq]) < tMeasure P m := by
  obtain ⟨p, q⟩ := pq
  unfold tMeasure
  apply countP_lt_of (x := (p, q)) _ hP
  · simp [hm]
  · have := marked_append_self m p q
    simp [this]
  · intro x _ hx
    simp only [Bool.not_eq_true'] at hx ⊢
    exact marked_false_of (fun y hy => List.mem_append_left _ hy) hx

theorem tMeasure_le_length (P m : List (σ × σ)) : tMeasure P m ≤ P.length := List.countP_le_length

def DFA.TClosed (D : DFA σ τ) (m : List (σ × σ)) : Prop := ∀ pq, pq ∈ pairsLt D.Q → ¬ D.tCond m pq

/-- `tablePass` is a `sweep` over the pairs of `Q`. It marks a pair whose successors under some `a` are marked, hence
    inequivalent; what it marks is a pair of the sweep; and every marking lowers the number of unmarked pairs. -/
theorem DFA.tableLoop_spec (D : DFA σ τ) (fuel : Nat) (m : List (σ × σ))
    (hf : tMeasure (pairsLt D.Q) m < fuel) (hs : D.TSound m) :
    ∃ m', D.tableLoop fuel m = .ok m' ∧ D.TSound m' ∧ (∀ x, x ∈ m → x ∈ m') ∧ D.TClosed m' ∧
      ∀ x, x ∈ m' → x ∈ m ∨ x ∈ pairsLt D.Q := by
  have hstep : ∀ l pq, (D.TSound l ∧ ∀ x, x ∈ l → x ∈ m ∨ x ∈ pairsLt D.Q) → pq ∈ pairsLt D.Q →
      ((!marked l pq.1 pq.2) = true ∧ D.Sigma.any (fun a => marked l (D.next pq.1 a) (D.next pq.2 a)) = true) →
      (D.TSound (l ++ [id pq]) ∧ ∀ x, x ∈ l ++ [id pq] → x ∈ m ∨ x ∈ pairsLt D.Q) ∧
        tMeasure (pairsLt D.Q) (l ++ [id pq]) < tMeasure (pairsLt D.Q) l := by
    intro l pq hl hpq hc
    obtain ⟨h1, a, ha, h2⟩ := (D.tTest_iff l pq).mp hc
    exact ⟨⟨List.forall_mem_append.mpr
        ⟨hl.1, List.forall_mem_singleton.mpr (DFA.not_equiv_of_next ha (hl.1.marked h2))⟩,
      List.forall_mem_append.mpr ⟨hl.2, List.forall_mem_singleton.mpr (Or.inr hpq)⟩⟩, tMeasure_lt _ l hpq h1⟩
  obtain ⟨m', h1, h2, h3, h4⟩ := sweepLoop_spec hstep (loop := D.tableLoop) (ret := .ok) (fun _ _ => rfl) fuel m
    ⟨hs, fun _ => Or.inl⟩ hf
  exact ⟨m', h1, h2.1, h3, fun pq hpq hc => h4 pq hpq ((D.tTest_iff m' pq).mpr hc), h2.2⟩

/-- the initial marks: pairs that differ on `F` -/
def DFA.tInit (D : DFA σ τ) : List (σ × σ) :=
  (pairsLt D.Q).filter fun pq => decide (pq.1 ∈ D.F) != decide (pq.2 ∈ D.F)

theorem DFA.mem_tInit (D : DFA σ τ) (pq : σ × σ) :
    pq ∈ D.tInit ↔ pq ∈ pairsLt D.Q ∧ ¬ (pq.1 ∈ D.F ↔ pq.2 ∈ D.F) := by
  unfold DFA.tInit
  rw [List.mem_filter]
  by_cases h1 : pq.1 ∈ D.F <;> by_cases h2 : pq.2 ∈ D.F <;> simp [h1, h2]

theorem DFA.tInit_sound (D : DFA σ τ) : D.TSound D.tInit := by
  intro pq hpq
  exact DFA.not_equiv_of_fin ((D.mem_tInit pq).mp hpq).2

theorem DFA.tComplete (D : DFA σ τ) (hv : D.valid = true) (m : List (σ × σ))
    (hi : ∀ x, x ∈ D.tInit → x ∈ m) (hc : D.TClosed m)
    (w : List τ) (hw : ∀ a, a ∈ w → a ∈ D.Sigma) (p q : σ) (hp : p ∈ D.Q) (hq : q ∈ D.Q)
    (hsep : ¬ (D.runT p w ∈ D.F ↔ D.runT q w ∈ D.F)) : marked m p q = true := by
  induction w generalizing p q with
  | nil =>
    simp only [DFA.runT_nil] at hsep
    have hne : p ≠ q := by rintro rfl; exact hsep Iff.rfl
    rw [marked_iff]
    rcases mem_pairsLt_of_ne hp hq hne with h | h
    · exact Or.inl (hi _ ((D.mem_tInit (p, q)).mpr ⟨h, hsep⟩))
    · exact Or.inr (hi _ ((D.mem_tInit (q, p)).mpr ⟨h, fun hh => hsep hh.symm⟩))
  | cons a w ih =>
    have ha := hw a List.mem_cons_self
    have hne : p ≠ q := by rintro rfl; exact hsep Iff.rfl
    have hnext : marked m (D.next p a) (D.next q a) = true :=
      ih (fun b hb => hw b (List.mem_cons_of_mem _ hb)) _ _ (DFA.valid_next_mem hv hp ha)
        (DFA.valid_next_mem hv hq ha) hsep
    cases hm : marked m p q with
    | true => rfl
    | false =>
      exfalso
      rcases mem_pairsLt_of_ne hp hq hne with h | h
      · exact hc _ h ⟨hm, a, ha, hnext⟩
      · refine hc _ h ⟨?_, a, ha, ?_⟩
        · rw [marked_symm]; exact hm
        · rw [marked_symm]; exact hnext

theorem DFA.table_exact' (D : DFA σ τ) (hv : D.valid = true) :
    ∃ m, D.table = .ok m ∧ (∀ x, x ∈ m → x ∈ pairsLt D.Q) ∧
      ∀ p q, p ∈ D.Q → q ∈ D.Q → (marked m p q = true ↔ ¬ D.Equiv p q) := by
  have hf : tMeasure (pairsLt D.Q) D.tInit < D.Q.length * D.Q.length + 1 := by
    have h1 := tMeasure_le_length (pairsLt D.Q) D.tInit
    have h2 := length_pairsLt_le D.Q
    omega
  obtain ⟨m, h1, h2, h3, h4, h5⟩ := D.tableLoop_spec _ D.tInit hf D.tInit_sound
  refine ⟨m, h1, fun x hx => (h5 x hx).elim (fun h => ((D.mem_tInit x).mp h).1) id,
    fun p q hp hq => ⟨h2.marked, fun hne => ?_⟩⟩
  obtain ⟨w, hw, hsep⟩ := (DFA.not_equiv_iff D p q).mp hne
  exact D.tComplete hv m h3 h4 w hw p q hp hq hsep

/-- `classesFrom` lists the classes of `¬ marked` among the states of `xs` that are not placed yet, provided `¬ marked` is
    Nerode equivalence on `xs` and `placed` is closed under it -/
theorem classesFrom_classes (D : DFA σ τ) (m : List (σ × σ)) (xs placed : List σ)
    (hE : ∀ p q, p ∈ xs → q ∈ xs → ((!marked m p q) = true ↔ D.Equiv p q))
    (hcl : ∀ y z, y ∈ xs → z ∈ xs → y ∈ placed → D.Equiv y z → z ∈ placed) :
    Classes (fun p q => !marked m p q) (classesFrom m placed xs) ∧
      ∀ q, (∃ B, B ∈ classesFrom m placed xs ∧ q ∈ B) ↔ q ∈ xs ∧ q ∉ placed := by
  induction xs generalizing placed with
  | nil => exact ⟨.nil _, fun q => ⟨fun ⟨_, h, _⟩ => (nomatch h), fun h => (nomatch h.1)⟩⟩
  | cons x xs ih =>
    have hE' : ∀ p q, p ∈ xs → q ∈ xs → ((!marked m p q) = true ↔ D.Equiv p q) :=
      fun p q hp hq => hE p q (List.mem_cons_of_mem _ hp) (List.mem_cons_of_mem _ hq)
    have hxm : x ∈ x :: xs := List.mem_cons_self
    by_cases hx : x ∈ placed
    · rw [classesFrom, if_pos hx]
      obtain ⟨hS, hM⟩ := ih placed hE' fun y z hy hz => hcl y z (List.mem_cons_of_mem _ hy) (List.mem_cons_of_mem _ hz)
      exact ⟨hS, fun q => (hM q).trans
        (and_congr_left fun hq => ⟨List.mem_cons_of_mem _, List.mem_of_ne_of_mem fun e => hq (e ▸ hx)⟩)⟩
    · -- `x` opens the class `cls` of the later states not marked against it
      rw [classesFrom, if_neg hx]
      generalize hcdef : x :: xs.filter (fun y => !marked m x y) = cls
      have hmem : ∀ y, y ∈ x :: xs → (y ∈ cls ↔ D.Equiv x y) := by
        intro y hy
        rw [← hcdef, List.mem_cons, List.mem_filter, hE x y hxm hy]
        refine ⟨fun h => h.elim (fun h => h ▸ DFA.Equiv.refl D x) And.right, fun he => ?_⟩
        exact (List.mem_cons.mp hy).imp_right fun hy => ⟨hy, he⟩
      have hcsub : ∀ y, y ∈ cls → y ∈ x :: xs := by
        intro y hy
        rw [← hcdef] at hy
        exact (List.mem_cons.mp hy).elim (fun h => h ▸ hxm) fun h => List.mem_cons_of_mem _ (List.mem_filter.mp h).1
      have hxc : x ∈ cls := hcdef ▸ List.mem_cons_self
      obtain ⟨hS, hM⟩ := ih (placed ++ cls) hE' fun y z hy hz hyp he => by
        have hy' := List.mem_cons_of_mem x hy
        have hz' := List.mem_cons_of_mem x hz
        rcases List.mem_append.mp hyp with hyp | hyp
        · exact List.mem_append_left _ (hcl y z hy' hz' hyp he)
        · exact List.mem_append_right _ ((hmem z hz').mpr (((hmem y hy').mp hyp).trans he))
      refine ⟨classes_cons.mpr ⟨hcdef ▸ List.cons_ne_nil _ _, fun y hy z hz => ?_, fun W hW y hy z hz => ?_, hS⟩, fun q => ?_⟩
      · exact (hE y z (hcsub y hy) (hcsub z hz)).mpr
          (((hmem y (hcsub y hy)).mp hy).symm.trans ((hmem z (hcsub z hz)).mp hz))
      · -- a member `z` of a later class is not in `cls`, so it is not equivalent to `x`, nor to `y`
        obtain ⟨hzx, hzc⟩ := (hM z).mp ⟨W, hW, hz⟩
        have hz' := List.mem_cons_of_mem x hzx
        exact Bool.eq_false_iff.mpr fun h => hzc (List.mem_append_right _
          ((hmem z hz').mpr (((hmem y (hcsub y hy)).mp hy).trans ((hE y z (hcsub y hy) hz').mp h))))
      · simp only [List.mem_cons, exists_eq_or_imp, hM]
        constructor
        · rintro (hq | ⟨hq, hn⟩)
          · have hqx := hcsub q hq
            exact ⟨List.mem_cons.mp hqx, fun hqp => hx (hcl q x hqx hxm hqp ((hmem q hqx).mp hq).symm)⟩
          · exact ⟨Or.inr hq, fun h => hn (List.mem_append_left _ h)⟩
        · rintro ⟨hq, hn⟩
          by_cases hqc : q ∈ cls
          · exact Or.inl hqc
          · exact Or.inr ⟨hq.resolve_left fun e => hqc (e ▸ hxc), fun h => (List.mem_append.mp h).elim hn hqc⟩

theorem DFA.classesFrom_nerode (D : DFA σ τ) (m : List (σ × σ))
    (hE : ∀ p q, p ∈ D.Q → q ∈ D.Q → (marked m p q = true ↔ ¬ D.Equiv p q)) :
    D.IsNerode (classesFrom m [] D.Q) := by
  have hE' : ∀ p q, p ∈ D.Q → q ∈ D.Q → ((!marked m p q) = true ↔ D.Equiv p q) := fun p q hp hq => by
    rw [Bool.not_eq_true', ← Bool.not_eq_true, hE p q hp hq, Classical.not_not]
  obtain ⟨hS, hM⟩ := classesFrom_classes D m D.Q [] hE' (fun _ _ _ _ h => nomatch h)
  have hsub : ∀ B, B ∈ classesFrom m [] D.Q → ∀ q, q ∈ B → q ∈ D.Q := fun B hB q hq => ((hM q).mp ⟨B, hB, hq⟩).1
  have heq : ∀ B C, B ∈ classesFrom m [] D.Q → C ∈ classesFrom m [] D.Q → ∀ p q, p ∈ B → q ∈ C → D.Equiv p q → B = C :=
    fun B C hB hC p q hp hq he => hS.eq_of_rel (fun x y => by rw [marked_symm]; exact id) hB hC hp hq
      ((hE' p q (hsub B hB p hp) (hsub C hC q hq)).mpr he)
  exact ⟨⟨hS.ne, hsub, fun q hq => (hM q).mpr ⟨hq, List.not_mem_nil⟩,
      fun B C hB hC q hqB hqC => heq B C hB hC q q hqB hqC (DFA.Equiv.refl D q)⟩,
    fun B C hB hC p q hp hq => ⟨fun e => (hE' p q (hsub B hB p hp) (hsub C hC q hq)).mp
      (hS.same B hB p hp q (e ▸ hq)), heq B C hB hC p q hp hq⟩⟩

theorem DFA.minimizeTable_ok (D : DFA σ τ) (hv : D.valid = true) :
    ∃ blocks, D.minimizeTable = .ok (D.ofBlocks blocks) ∧ D.IsNerode blocks := by
  obtain ⟨m, hm, _, hE⟩ := D.table_exact' hv
  have hN := D.classesFrom_nerode m hE
  refine ⟨_, ?_, hN⟩
  rw [DFA.minimizeTable, hm]
  exact D.checked_ofBlocks hv hN

end Gamba
