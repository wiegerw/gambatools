/-
  Gamba.Proofs.CFGBasic — the base layer of the grammar proofs: `valid`, `nextAid` and the production tables as
  propositions; `CFG.Gen` (big-step generation): inversion, concatenation, simulation of one grammar's rules by another's
  derivations (`gen_bind`, `gen_of_rules`), sets of variables closed under the rules with nullable right-hand sides
  (`NullClosed`), and the inversion lemmas for grammars in Chomsky normal form.
-/
import Gamba.Model.CFG
import Gamba.Spec.CFG
namespace Gamba
namespace CFG

theorem le_foldl_max (l : List Nat) (a : Nat) : a ≤ l.foldl max a ∧ ∀ x, x ∈ l → x ≤ l.foldl max a := by
  induction l generalizing a with
  | nil => simp
  | cons y l ih =>
    simp only [List.foldl_cons, List.mem_cons]
    have h := ih (max a y)
    refine ⟨by omega, ?_⟩
    rintro x (rfl | hx)
    · omega
    · exact h.2 x hx

variable {G : CFG}

def SymOK (G : CFG) : Sym → Prop
  | .v A => A ∈ G.V
  | .t a => a ∈ G.Sigma

theorem SymOK.mono {G' : CFG} (hV : ∀ A, A ∈ G.V → A ∈ G'.V) (hS : G'.Sigma = G.Sigma) {x : Sym}
    (h : G.SymOK x) : G'.SymOK x := by
  cases x with
  | v A => exact hV A h
  | t a => show a ∈ G'.Sigma; rw [hS]; exact h

theorem valid_iff (G : CFG) :
    G.valid = true ↔ ∀ r, r ∈ G.R → r.lhs ∈ G.V ∧ ∀ x, x ∈ r.rhs → G.SymOK x := by
  simp only [valid, List.all_eq_true, Bool.and_eq_true, decide_eq_true_eq]
  refine forall_congr' fun r => imp_congr_right fun _ => and_congr_right fun _ =>
    forall_congr' fun x => imp_congr_right fun _ => ?_
  cases x <;> simp [SymOK]

theorem valid_iff_hasRule (G : CFG) :
    G.valid = true ↔ ∀ A rhs, G.HasRule A rhs → A ∈ G.V ∧ ∀ x, x ∈ rhs → G.SymOK x := by
  rw [valid_iff]
  constructor
  · rintro h A rhs ⟨r, hr, rfl, rfl⟩; exact h r hr
  · intro h r hr; exact h r.lhs r.rhs ⟨r, hr, rfl, rfl⟩

theorem aid_lt_nextAid {r : CRule} (hr : r ∈ G.R) : r.aid < G.nextAid := by
  unfold nextAid
  have := (le_foldl_max (G.R.map (·.aid)) 0).2 r.aid (List.mem_map.mpr ⟨r, hr, rfl⟩)
  omega

theorem any_eps_rule_iff :
    (G.R.any fun r => decide (r.lhs = G.S) && r.rhs.isEmpty) = true ↔ G.HasRule G.S [] := by
  simp only [List.any_eq_true, Bool.and_eq_true, decide_eq_true_eq, List.isEmpty_iff, HasRule]

theorem mem_prods_iff {A : String} {rhs : List Sym} : rhs ∈ G.prods A ↔ G.HasRule A rhs := by
  simp only [prods, HasRule, List.mem_map, List.mem_filter, decide_eq_true_eq]
  constructor
  · rintro ⟨r, ⟨hr, hl⟩, he⟩; exact ⟨r, hr, hl, he⟩
  · rintro ⟨r, hr, hl, he⟩; exact ⟨r, ⟨hr, hl⟩, he⟩

/-! ### the phase postconditions are decidable (for `decide` on concrete grammars) -/

namespace C08c

def aliasOKb (G : CFG) : Bool :=
  G.R.all fun r => G.R.all fun s => decide (r.aid = s.aid → r.rhs = s.rhs)

theorem aliasOK_of_b {G : CFG} (h : aliasOKb G = true) : AliasOK G := by
  intro r s hr hs
  simp only [aliasOKb, List.all_eq_true, decide_eq_true_eq] at h
  exact h r hr s hs

instance (G : CFG) : Decidable (RhsLe2 G) := by unfold RhsLe2; exact inferInstance
instance (G : CFG) : Decidable (NoUnit G) := by unfold NoUnit; exact inferInstance
instance (G : CFG) : Decidable (NoEpsExceptStart G) := by unfold NoEpsExceptStart; exact inferInstance
instance (G : CFG) : Decidable (StartNotOnRhs G) := by unfold StartNotOnRhs; exact inferInstance
instance (G : CFG) : Decidable (AllCnfShaped G) := by unfold AllCnfShaped; exact inferInstance

end C08c

theorem gen_nil_iff {w : List String} : G.Gen [] w ↔ w = [] := by
  constructor
  · intro h; cases h; rfl
  · rintro rfl; exact .nil

theorem gen_t_cons_iff {a : String} {ss : List Sym} {w : List String} :
    G.Gen (.t a :: ss) w ↔ ∃ w', w = a :: w' ∧ G.Gen ss w' := by
  constructor
  · intro h
    cases h with
    | t h' => exact ⟨_, rfl, h'⟩
  · rintro ⟨w', rfl, h⟩; exact .t h

theorem gen_v_cons_iff {A : String} {ss : List Sym} {w : List String} :
    G.Gen (.v A :: ss) w ↔
      ∃ rhs u v, G.HasRule A rhs ∧ G.Gen rhs u ∧ G.Gen ss v ∧ w = u ++ v := by
  constructor
  · intro h
    cases h with
    | v hr h1 h2 => exact ⟨_, _, _, hr, h1, h2, rfl⟩
  · rintro ⟨rhs, u, v, hr, h1, h2, rfl⟩; exact .v hr h1 h2

theorem gen_t_iff {a : String} {w : List String} : G.Gen [.t a] w ↔ w = [a] := by
  rw [gen_t_cons_iff]
  constructor
  · rintro ⟨w', rfl, h⟩; rw [gen_nil_iff.mp h]
  · rintro rfl; exact ⟨[], rfl, .nil⟩

theorem gen_v_iff {A : String} {w : List String} :
    G.Gen [.v A] w ↔ ∃ rhs, G.HasRule A rhs ∧ G.Gen rhs w := by
  rw [gen_v_cons_iff]
  constructor
  · rintro ⟨rhs, u, v, hr, h1, h2, rfl⟩
    rw [gen_nil_iff.mp h2, List.append_nil]
    exact ⟨rhs, hr, h1⟩
  · rintro ⟨rhs, hr, h⟩
    exact ⟨rhs, w, [], hr, h, .nil, (List.append_nil w).symm⟩

theorem gen_append {f1 f2 : List Sym} {w1 w2 : List String}
    (h1 : G.Gen f1 w1) (h2 : G.Gen f2 w2) : G.Gen (f1 ++ f2) (w1 ++ w2) := by
  induction h1 with
  | nil => simpa using h2
  | t _ ih => exact .t ih
  | v hr hrhs _ _ ih =>
    rw [List.cons_append, List.append_assoc]
    exact .v hr hrhs ih

theorem gen_split {f1 f2 : List Sym} {w : List String} (h : G.Gen (f1 ++ f2) w) :
    ∃ w1 w2, w = w1 ++ w2 ∧ G.Gen f1 w1 ∧ G.Gen f2 w2 := by
  induction f1 generalizing w with
  | nil => exact ⟨[], w, rfl, .nil, by simpa using h⟩
  | cons x f1 ih =>
    rw [List.cons_append] at h
    cases x with
    | t a =>
      obtain ⟨w', rfl, h'⟩ := gen_t_cons_iff.mp h
      obtain ⟨w1, w2, rfl, g1, g2⟩ := ih h'
      exact ⟨a :: w1, w2, rfl, .t g1, g2⟩
    | v A =>
      obtain ⟨rhs, u, v, hr, hu, hv, rfl⟩ := gen_v_cons_iff.mp h
      obtain ⟨w1, w2, rfl, g1, g2⟩ := ih hv
      exact ⟨u ++ w1, w2, (List.append_assoc _ _ _).symm, .v hr hu g1, g2⟩

theorem gen_of_step {a b : List Sym} {w : List String} (hs : G.Step a b) (hb : G.Gen b w) : G.Gen a w := by
  obtain ⟨hr⟩ := hs
  rw [List.append_assoc] at hb
  obtain ⟨w1, w2, rfl, g1, g2⟩ := gen_split hb
  obtain ⟨w3, w4, rfl, g3, g4⟩ := gen_split g2
  exact gen_append g1 (.v hr g3 g4)

theorem gen_append_iff {f1 f2 : List Sym} {w : List String} :
    G.Gen (f1 ++ f2) w ↔ ∃ w1 w2, w = w1 ++ w2 ∧ G.Gen f1 w1 ∧ G.Gen f2 w2 := by
  constructor
  · exact gen_split
  · rintro ⟨w1, w2, rfl, h1, h2⟩; exact gen_append h1 h2

theorem gen_vv_iff {B C : String} {w : List String} :
    G.Gen [.v B, .v C] w ↔ ∃ u v, w = u ++ v ∧ G.Gen [.v B] u ∧ G.Gen [.v C] v :=
  gen_append_iff (f1 := [.v B]) (f2 := [.v C])

/-- one simulation theorem: `σ` reads each symbol of `G'` as a form of `G`; if `G` derives every rule of `G'` read
    that way, it generates whatever `G'` generates, read that way -/
theorem gen_bind {G G' : CFG} (σ : Sym → List Sym) (hσ : ∀ a, σ (.t a) = [.t a])
    (h : ∀ A rhs, G'.HasRule A rhs → ∀ w, G.Gen (rhs.flatMap σ) w → G.Gen (σ (.v A)) w)
    {f : List Sym} {w : List String} (hg : G'.Gen f w) : G.Gen (f.flatMap σ) w := by
  induction hg with
  | nil => exact .nil
  | t _ ih => rw [List.flatMap_cons, hσ]; exact .t ih
  | v hr _ _ ih1 ih2 => rw [List.flatMap_cons]; exact gen_append (h _ _ hr _ ih1) ih2

theorem gen_of_rules {G' : CFG} (h : ∀ A rhs, G.HasRule A rhs → ∀ w, G'.Gen rhs w → G'.Gen [.v A] w)
    {f : List Sym} {w : List String} (hg : G.Gen f w) : G'.Gen f w := by
  rw [← List.flatMap_singleton' f]
  exact gen_bind (fun x => [x]) (fun _ => rfl) (fun A rhs hr w hw => h A rhs hr w (List.flatMap_singleton' rhs ▸ hw)) hg

theorem gen_mono {G' : CFG} {f : List Sym} {w : List String}
    (hsub : ∀ A rhs, G.HasRule A rhs → G'.HasRule A rhs) (h : G.Gen f w) : G'.Gen f w :=
  gen_of_rules (fun A rhs hr _ hg => gen_v_iff.mpr ⟨rhs, hsub A rhs hr, hg⟩) h

theorem gen_congr {G' : CFG} {f : List Sym} {w : List String}
    (hsub : ∀ A rhs, G.HasRule A rhs ↔ G'.HasRule A rhs) : G.Gen f w ↔ G'.Gen f w :=
  ⟨gen_mono (fun A rhs => (hsub A rhs).mp), gen_mono (fun A rhs => (hsub A rhs).mpr)⟩

theorem lang_congr {G' : CFG} (hS : G.S = G'.S) (hsub : ∀ A rhs, G.HasRule A rhs ↔ G'.HasRule A rhs) (w : List String) :
    G.Lang w ↔ G'.Lang w := by
  unfold Lang
  rw [hS]
  exact gen_congr hsub

theorem gen_terminals {f : List Sym} {w : List String}
    (hf : ∀ x, x ∈ f → x.isVar = false) : G.Gen f w ↔ w = f.map Sym.name := by
  induction f generalizing w with
  | nil => simpa using gen_nil_iff
  | cons x f ih =>
    have hx := hf x (List.mem_cons_self ..)
    have ih' := fun {w} => ih (w := w) (fun y hy => hf y (List.mem_cons_of_mem _ hy))
    cases x with
    | v A => simp [Sym.isVar] at hx
    | t a =>
      rw [gen_t_cons_iff]
      simp only [List.map_cons, Sym.name]
      constructor
      · rintro ⟨w', rfl, h⟩; rw [ih'.mp h]
      · rintro rfl; exact ⟨_, rfl, ih'.mpr rfl⟩

theorem gen_map_t (u : List String) : G.Gen (u.map Sym.t) u := by
  induction u with
  | nil => exact .nil
  | cons a u ih => exact .t ih

theorem altIsChomsky_iff {rhs : List Sym} :
    altIsChomsky rhs = true ↔ rhs = [] ∨ (∃ a, rhs = [.t a]) ∨ ∃ B C, rhs = [.v B, .v C] := by
  constructor
  · intro h
    match rhs, h with
    | [], _ => exact .inl rfl
    | [.t a], _ => exact .inr (.inl ⟨a, rfl⟩)
    | [.v B, .v C], _ => exact .inr (.inr ⟨B, C, rfl⟩)
  · rintro (rfl | ⟨a, rfl⟩ | ⟨B, C, rfl⟩) <;> rfl

/-- the recogniser `isChomsky` is the conjunction of the three postconditions of the conversion -/
theorem isChomsky_iff (G : CFG) :
    G.isChomsky = true ↔ AllCnfShaped G ∧ StartNotOnRhs G ∧ NoEpsExceptStart G := by
  simp only [isChomsky, Bool.and_eq_true, List.all_eq_true, decide_eq_true_eq, Bool.or_eq_true,
    Bool.not_eq_true', List.isEmpty_eq_false_iff]
  constructor
  · rintro ⟨h1, h2⟩
    exact ⟨fun r hr => (h1 r hr).1, fun r hr => (h1 r hr).2, fun r hr he => (h2 r hr).resolve_left fun h => h he⟩
  · rintro ⟨h1, h2, h3⟩
    exact ⟨fun r hr => ⟨h1 r hr, h2 r hr⟩, fun r hr => (Decidable.em (r.rhs = [])).symm.imp_right (h3 r hr)⟩

theorem cnf_rule (hc : G.isChomsky = true) {A : String} {rhs : List Sym} (hr : G.HasRule A rhs) :
    (rhs = [] ∧ A = G.S) ∨ (∃ a, rhs = [.t a]) ∨
      (∃ B C, rhs = [.v B, .v C] ∧ B ≠ G.S ∧ C ≠ G.S) := by
  obtain ⟨r, hrR, rfl, rfl⟩ := hr
  obtain ⟨h1, h2, h3⟩ := (isChomsky_iff G).mp hc
  have hS := h2 r hrR
  rcases altIsChomsky_iff.mp (h1 r hrR) with e | ⟨a, e⟩ | ⟨B, C, e⟩
  · exact Or.inl ⟨e, h3 r hrR e⟩
  · exact Or.inr (Or.inl ⟨a, e⟩)
  · rw [e] at hS
    exact Or.inr (Or.inr ⟨B, C, e, fun h => hS (by simp [h]), fun h => hS (by simp [h])⟩)

theorem cnf_hasRule_nil (hc : G.isChomsky = true) {A : String} (hr : G.HasRule A []) : A = G.S := by
  rcases cnf_rule hc hr with ⟨_, h⟩ | ⟨a, h⟩ | ⟨B, C, h, _⟩
  · exact h
  · cases h
  · cases h

/-- every symbol of the form is a variable of `N` (the test of `nullablePass`) -/
def allIn (N : List String) (rhs : List Sym) : Bool :=
  rhs.all (fun x => match x with | .v A => decide (A ∈ N) | .t _ => false)

theorem allIn_iff {N : List String} {rhs : List Sym} :
    allIn N rhs = true ↔ ∀ x, x ∈ rhs → ∃ A, x = .v A ∧ A ∈ N := by
  simp only [allIn, List.all_eq_true]
  constructor
  · intro h x hx
    have := h x hx
    cases x with
    | v A => exact ⟨A, rfl, by simpa using this⟩
    | t a => simp at this
  · intro h x hx
    obtain ⟨A, rfl, hA⟩ := h x hx
    simpa using hA

def NullClosed (R : List CRule) (N : List String) : Prop :=
  ∀ r, r ∈ R → allIn N r.rhs = true → r.lhs ∈ N

theorem nullClosed_complete {N : List String} (hN : NullClosed G.R N) {f : List Sym}
    {w : List String} (h : G.Gen f w) (hw : w = []) : allIn N f = true := by
  induction h with
  | nil => rfl
  | t _ _ => cases hw
  | @v A rhs ss u w hr _ _ ih1 ih2 =>
    obtain ⟨hu, hw'⟩ := List.append_eq_nil_iff.mp hw
    have h1 := ih1 hu
    have h2 := allIn_iff.mp (ih2 hw')
    obtain ⟨r, hrR, rfl, rfl⟩ := hr
    have hA := hN r hrR h1
    rw [allIn_iff]
    intro x hx
    rcases List.mem_cons.mp hx with rfl | hx
    · exact ⟨_, rfl, hA⟩
    · exact h2 x hx

/-- in a CNF grammar only the start variable generates `[]`: `{S}` is closed, since `S` stands on no right-hand side -/
theorem cnf_gen_v_nil (hc : G.isChomsky = true) {A : String} (h : G.Gen [.v A] []) : A = G.S := by
  obtain ⟨_, h2, h3⟩ := (isChomsky_iff G).mp hc
  have hcl : NullClosed G.R [G.S] := fun r hr ha => by
    have : r.rhs = [] := List.eq_nil_iff_forall_not_mem.mpr fun x hx => by
      obtain ⟨B, rfl, hB⟩ := allIn_iff.mp ha x hx
      exact h2 r hr (List.mem_singleton.mp hB ▸ hx)
    exact List.mem_singleton.mpr (h3 r hr this)
  obtain ⟨B, hB, hm⟩ := allIn_iff.mp (nullClosed_complete hcl h rfl) (.v A) (List.mem_singleton.mpr rfl)
  cases hB
  exact List.mem_singleton.mp hm

theorem cnf_gen_v_iff (hc : G.isChomsky = true) {A : String} {w : List String} :
    G.Gen [.v A] w ↔
      (w = [] ∧ G.HasRule A []) ∨ (∃ a, w = [a] ∧ G.HasRule A [.t a]) ∨
      (∃ B C u v, G.HasRule A [.v B, .v C] ∧ G.Gen [.v B] u ∧ G.Gen [.v C] v ∧
        w = u ++ v ∧ u ≠ [] ∧ v ≠ []) := by
  constructor
  · intro h
    obtain ⟨rhs, hr, hg⟩ := gen_v_iff.mp h
    rcases cnf_rule hc hr with ⟨h1, _⟩ | ⟨a, h1⟩ | ⟨B, C, h1, hB, hC⟩
    · subst h1
      exact Or.inl ⟨gen_nil_iff.mp hg, hr⟩
    · subst h1
      exact Or.inr (Or.inl ⟨a, gen_t_iff.mp hg, hr⟩)
    · subst h1
      obtain ⟨u, v, rfl, hu, hv⟩ := gen_vv_iff.mp hg
      refine Or.inr (Or.inr ⟨B, C, u, v, hr, hu, hv, rfl, ?_, ?_⟩)
      · rintro rfl; exact hB (cnf_gen_v_nil hc hu)
      · rintro rfl; exact hC (cnf_gen_v_nil hc hv)
  · rintro (⟨rfl, hr⟩ | ⟨a, rfl, hr⟩ | ⟨B, C, u, v, hr, hu, hv, rfl, _, _⟩)
    · exact gen_v_iff.mpr ⟨[], hr, .nil⟩
    · exact gen_v_iff.mpr ⟨[.t a], hr, gen_t_iff.mpr rfl⟩
    · exact gen_v_iff.mpr ⟨_, hr, gen_vv_iff.mpr ⟨u, v, rfl, hu, hv⟩⟩

theorem cnf_gen_v_nil_iff (hc : G.isChomsky = true) {A : String} :
    G.Gen [.v A] [] ↔ G.HasRule A [] := by
  rw [cnf_gen_v_iff hc]
  constructor
  · rintro (⟨_, hr⟩ | ⟨a, h, _⟩ | ⟨B, C, u, v, _, _, _, h, hu, _⟩)
    · exact hr
    · cases h
    · exact absurd (List.append_eq_nil_iff.mp h.symm).1 hu
  · intro hr; exact Or.inl ⟨rfl, hr⟩

theorem cnf_gen_v_single_iff (hc : G.isChomsky = true) {A a : String} :
    G.Gen [.v A] [a] ↔ G.HasRule A [.t a] := by
  rw [cnf_gen_v_iff hc]
  constructor
  · rintro (⟨h, _⟩ | ⟨b, h, hr⟩ | ⟨B, C, u, v, _, _, _, h, hu, hv⟩)
    · cases h
    · cases h; exact hr
    · exfalso
      have hl := congrArg List.length h
      simp only [List.length_cons, List.length_nil, List.length_append] at hl
      have := List.length_pos_iff.mpr hu
      have := List.length_pos_iff.mpr hv
      omega
  · intro hr; exact Or.inr (Or.inl ⟨a, rfl, hr⟩)

theorem cnf_gen_v_ge2_iff (hc : G.isChomsky = true) {A : String} {w : List String}
    (hw : 2 ≤ w.length) :
    G.Gen [.v A] w ↔
      ∃ B C u v, G.HasRule A [.v B, .v C] ∧ G.Gen [.v B] u ∧ G.Gen [.v C] v ∧
        w = u ++ v ∧ u ≠ [] ∧ v ≠ [] := by
  rw [cnf_gen_v_iff hc]
  constructor
  · rintro (⟨rfl, _⟩ | ⟨a, rfl, _⟩ | h)
    · simp at hw
    · simp at hw
    · exact h
  · intro h; exact Or.inr (Or.inr h)

end CFG
end Gamba
