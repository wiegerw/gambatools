/-
  Gamba.Proofs.C06a — `regexp_to_nfa` (Thompson composition with generated names q0, q1, … and the
  generator's shared alphabet accumulator) yields a valid NFA for the denoted language: the invariant `GenInv` of
  `regexpGenerate`, established case by case (leaves, star, and the part common to sum and concatenation).
-/
import Gamba.Proofs.C05
import Gamba.Proofs.C18
namespace Gamba

/-- symbols of the expression are not the ε symbol (the empty string) -/
def Regexp.NoEps : Regexp String → Prop
  | .zero | .one => True
  | .sym a => a ≠ ""
  | .star r => Regexp.NoEps r
  | .sum r s | .cat r s => Regexp.NoEps r ∧ Regexp.NoEps s

instance Regexp.NoEps.decidable : (r : Regexp String) → Decidable r.NoEps
  | .zero => isTrue trivial
  | .one => isTrue trivial
  | .sym a => inferInstanceAs (Decidable (a ≠ ""))
  | .star r => Regexp.NoEps.decidable r
  | .sum r s => @instDecidableAnd _ _ (Regexp.NoEps.decidable r) (Regexp.NoEps.decidable s)
  | .cat r s => @instDecidableAnd _ _ (Regexp.NoEps.decidable r) (Regexp.NoEps.decidable s)

namespace C06a

theorem noEps_symbols {r : Regexp String} (h : r.NoEps) : "" ∉ r.symbols := by
  induction r with
  | zero => simp [Regexp.symbols]
  | one => simp [Regexp.symbols]
  | sym a => simp only [Regexp.symbols, List.mem_singleton]; exact fun e => h e.symm
  | star r ih => exact ih h
  | sum r s ih1 ih2 =>
    simp only [Regexp.symbols, mem_sunion, not_or]; exact ⟨ih1 h.1, ih2 h.2⟩
  | cat r s ih1 ih2 =>
    simp only [Regexp.symbols, mem_sunion, not_or]; exact ⟨ih1 h.1, ih2 h.2⟩

theorem qname_inj {i j : Nat} (h : "q" ++ toString i = "q" ++ toString j) : i = j :=
  nat_toString_injective ((String.append_right_inj "q").mp h)

/-- the states in `Q` are among `q<lo>`, …, `q<hi-1>`: the generator draws its names from a counter -/
def Named (Q : List String) (lo hi : Nat) : Prop := ∀ q, q ∈ Q → ∃ i, q = "q" ++ toString i ∧ lo ≤ i ∧ i < hi

section Named
variable {Q Q1 Q2 : List String} {lo mid hi c : Nat}

theorem Named.nil : Named [] lo hi := fun _ h => nomatch h

theorem Named.mono {lo' hi' : Nat} (h : Named Q lo hi) (h1 : lo' ≤ lo) (h2 : hi ≤ hi') : Named Q lo' hi' :=
  fun q hq => let ⟨i, e, a, b⟩ := h q hq; ⟨i, e, Nat.le_trans h1 a, Nat.lt_of_lt_of_le b h2⟩

theorem Named.cons (h : Named Q lo hi) (h1 : lo ≤ c) (h2 : c < hi) : Named (("q" ++ toString c) :: Q) lo hi :=
  fun q hq => (List.mem_cons.mp hq).elim (fun e => ⟨c, e, h1, h2⟩) (h q)

theorem Named.sinsert (h : Named Q lo hi) (h1 : lo ≤ c) (h2 : c < hi) :
    Named (sinsert Q ("q" ++ toString c)) lo hi :=
  fun q hq => (mem_sinsert.mp hq).elim (h q) fun e => ⟨c, e, h1, h2⟩

theorem Named.sunion (h1 : Named Q1 lo hi) (h2 : Named Q2 lo hi) : Named (sunion Q1 Q2) lo hi :=
  fun q hq => (mem_sunion.mp hq).elim (h1 q) (h2 q)

theorem Named.fresh (h : Named Q lo hi) (hc : hi ≤ c) : "q" ++ toString c ∉ Q := by
  intro hm
  obtain ⟨i, e, _, hlt⟩ := h _ hm
  have := qname_inj e
  omega

theorem Named.genFresh_eq (h : Named Q lo hi) : genFresh Q hi = ("q" ++ toString hi, hi + 1) := by
  unfold genFresh genFreshAux
  rw [if_neg (h.fresh (Nat.le_refl _))]

theorem Named.disjoint (h1 : Named Q1 lo mid) (h2 : Named Q2 mid hi) : ∀ q, q ∈ Q1 → q ∉ Q2 := by
  intro q a b
  obtain ⟨i, e1, _, hlt⟩ := h1 q a
  obtain ⟨j, e2, hle, _⟩ := h2 q b
  have := qname_inj (e1.symm.trans e2)
  omega

end Named

theorem gen_star {r : Regexp String} {st st1 : GenState} {g : GenNFA} {R : NFA String String}
    (h : regexpGenerate r st = .ok (g, st1))
    (hR : ({ g.N with Sigma := g.eff st1 } : NFA String String).repetition
            (genFresh g.N.Q st1.counter).1 = .ok R) :
    regexpGenerate (.star r) st =
      .ok ({ N := R, shared := g.shared }, { st1 with counter := (genFresh g.N.Q st1.counter).2 }) := by
  simp only [regexpGenerate, h, bind, Except.bind, hR, pure, Except.pure]

theorem gen_sum {r s : Regexp String} {st st1 st2 : GenState} {g1 g2 : GenNFA} {R : NFA String String}
    (h1 : regexpGenerate r st = .ok (g1, st1)) (h2 : regexpGenerate s st1 = .ok (g2, st2))
    (hd : sdisjoint g1.N.Q g2.N.Q = true)
    (hR : ({ g1.N with Sigma := g1.eff st2 } : NFA String String).union { g2.N with Sigma := g2.eff st2 }
            (genFresh (sunion g1.N.Q g2.N.Q) st2.counter).1 = .ok R) :
    regexpGenerate (.sum r s) st =
      .ok ({ N := R, shared := false },
           { st2 with counter := (genFresh (sunion g1.N.Q g2.N.Q) st2.counter).2 }) := by
  simp only [regexpGenerate, h1, h2, bind, Except.bind, hd, hR, pure, Except.pure]
  rfl

theorem gen_cat {r s : Regexp String} {st st1 st2 : GenState} {g1 g2 : GenNFA} {R : NFA String String}
    (h1 : regexpGenerate r st = .ok (g1, st1)) (h2 : regexpGenerate s st1 = .ok (g2, st2))
    (hR : ({ g1.N with Sigma := g1.eff st2 } : NFA String String).concat { g2.N with Sigma := g2.eff st2 }
            = .ok R) :
    regexpGenerate (.cat r s) st = .ok ({ N := R, shared := false }, st2) := by
  simp only [regexpGenerate, h1, h2, bind, Except.bind, hR, pure, Except.pure]

/-- the operand with its effective alphabet w.r.t. a (later) generator state -/
def effN (g : GenNFA) (st : GenState) : NFA String String := { g.N with Sigma := g.eff st }

/-- what `regexpGenerate r st = .ok (g, st')` guarantees.  The names of `g` are the `q<i>` with `i` drawn between the two
    counters.  A leaf shares the generator's alphabet object, which keeps growing; so validity is stated for every
    LATER accumulator `st''`, with the alphabet `g` has at that time (`effN g st''`). -/
structure GenInv (r : Regexp String) (st : GenState) (g : GenNFA) (st' : GenState) : Prop where
  le : st.counter ≤ st'.counter
  names : Named g.N.Q st.counter st'.counter
  sigma : ∀ a, a ∈ st'.Sigma ↔ a ∈ st.Sigma ∨ a ∈ r.symbols
  eps : g.N.eps = ""
  keys : (g.N.delta.map (·.1)).Nodup
  valid : ∀ st'' : GenState, (∀ a, a ∈ st'.Sigma → a ∈ st''.Sigma) → "" ∉ st''.Sigma →
    (effN g st'').valid = true ∧ (∀ a, a ∈ r.symbols → a ∈ g.eff st'') ∧
      (∀ a, a ∈ g.eff st'' → a ∈ st''.Sigma)
  lang : ∀ w, g.N.Accepts w ↔ r.Lang w

theorem GenInv.noEps {r : Regexp String} {st st' : GenState} {g : GenNFA} (inv : GenInv r st g st')
    (hr : r.NoEps) (he : "" ∉ st.Sigma) : "" ∉ st'.Sigma :=
  fun h => ((inv.sigma "").mp h).elim he (noEps_symbols hr)

theorem effN_accepts (g : GenNFA) (st : GenState) (w : List String) :
    (effN g st).Accepts w ↔ g.N.Accepts w :=
  NFA.Accepts_congr (N := effN g st) (N' := g.N) (fun _ _ _ => Iff.rfl) rfl rfl (fun _ => Iff.rfl) w

theorem inv_zero (st : GenState) :
    ∃ g st', regexpGenerate .zero st = .ok (g, st') ∧ GenInv .zero st g st' := by
  refine ⟨_, _, rfl, ?_⟩
  refine ⟨?_, ?_, ?_, rfl, by simp, ?_, ?_⟩
  · simp
  · exact Named.nil.cons (Nat.le_refl _) (Nat.lt_succ_self _)
  · intro a; simp [Regexp.symbols]
  · intro st'' _ he
    refine ⟨?_, by simp [Regexp.symbols], fun a ha => ha⟩
    rw [NFA.valid_iff]
    refine ⟨by simp [effN], by simp [effN], he, by simp [effN]⟩
  · intro w
    simp only [Regexp.lang_zero, iff_false]
    rintro ⟨f, hf, _⟩
    cases hf

theorem inv_one (st : GenState) :
    ∃ g st', regexpGenerate .one st = .ok (g, st') ∧ GenInv .one st g st' := by
  refine ⟨_, _, rfl, ?_⟩
  refine ⟨?_, ?_, ?_, rfl, by simp, ?_, ?_⟩
  · simp
  · exact Named.nil.cons (Nat.le_refl _) (Nat.lt_succ_self _)
  · intro a; simp [Regexp.symbols]
  · intro st'' _ he
    refine ⟨?_, by simp [Regexp.symbols], fun a ha => ha⟩
    rw [NFA.valid_iff]
    refine ⟨by simp [effN], by simp [effN], he, by simp [effN]⟩
  · intro w
    rw [Regexp.lang_one]
    constructor
    · rintro ⟨f, _, hr⟩
      exact (NFA.Run.of_no_succ (fun a q' hs => by obtain ⟨T, hl, _⟩ := hs; cases hl) hr).1
    · rintro rfl
      exact ⟨_, List.mem_singleton.mpr rfl, NFA.Run.nil _⟩

theorem sym_succ {N : NFA String String} {p q a : String} (hN : N.delta = [((p, a), [q])])
    {x b y : String} : N.Succ x b y ↔ x = p ∧ b = a ∧ y = q := by
  -- the one entry is one write to the empty dictionary
  have h : Holds N.delta fun x b y => False ∨ x = p ∧ b = a ∧ y ∈ [q] :=
    hN ▸ Holds.set (d := []) (R := fun _ _ _ => False) (fun _ _ _ => iff_of_false List.not_mem_nil id) fun _ h => h.elim
  rw [h.succ, false_or, List.mem_singleton]

theorem sym_accepts {N : NFA String String} {p q a : String} (hN : N.delta = [((p, a), [q])])
    (hq0 : N.q0 = p) (hF : N.F = [q]) (hpq : p ≠ q) (ha : a ≠ N.eps) (w : List String) :
    N.Accepts w ↔ w = [a] := by
  constructor
  · rintro ⟨f, hf, hr⟩
    rw [hF, List.mem_singleton] at hf
    subst hf
    rw [hq0] at hr
    cases hr with
    | nil => exact absurd rfl hpq
    | eps hs _ => exact absurd ((sym_succ hN).mp hs).2.1.symm ha
    | sym hb hs hr' =>
      obtain ⟨_, rfl, rfl⟩ := (sym_succ hN).mp hs
      have := NFA.Run.of_no_succ (fun b q' hs' => hpq ((sym_succ hN).mp hs').1.symm) hr'
      rw [this.1]
  · rintro rfl
    refine ⟨q, by rw [hF]; exact List.mem_singleton.mpr rfl, ?_⟩
    rw [hq0]
    exact NFA.Run.single_sym ha ((sym_succ hN).mpr ⟨rfl, rfl, rfl⟩)

theorem gen_sym {a : String} (ha : a ≠ "") (st : GenState) :
    regexpGenerate (.sym a) st =
      .ok ({ N := { Q := ["q" ++ toString st.counter, "q" ++ toString (st.counter + 1)], Sigma := [],
                    delta := [(("q" ++ toString st.counter, a), ["q" ++ toString (st.counter + 1)])],
                    q0 := "q" ++ toString st.counter, F := ["q" ++ toString (st.counter + 1)], eps := "" },
             shared := true },
           { counter := st.counter + 2, Sigma := sinsert st.Sigma a }) := by
  simp only [regexpGenerate, freshQ, if_neg ha]

theorem inv_sym {a : String} (ha : a ≠ "") (st : GenState) :
    ∃ g st', regexpGenerate (.sym a) st = .ok (g, st') ∧ GenInv (.sym a) st g st' := by
  refine ⟨_, _, gen_sym ha st, ?_⟩
  have hne : "q" ++ toString st.counter ≠ "q" ++ toString (st.counter + 1) := by
    intro h; have := qname_inj h; omega
  refine ⟨?_, ?_, ?_, rfl, by simp, ?_, ?_⟩
  · simp
  · exact (Named.nil.cons (Nat.le_succ _) (Nat.lt_succ_self _)).cons (Nat.le_refl _) (by omega)
  · intro b; simp [Regexp.symbols]
  · intro st'' hsub he
    have haS : a ∈ st''.Sigma := hsub a (by simp)
    refine ⟨?_, ?_, fun b hb => hb⟩
    · rw [NFA.valid_iff]
      refine ⟨by simp [effN], by simp [effN], he, ?_⟩
      intro q b T hm
      simp only [effN, List.mem_singleton, Prod.mk.injEq] at hm
      obtain ⟨⟨rfl, rfl⟩, rfl⟩ := hm
      exact ⟨by simp [effN], Or.inl haS, by simp [effN]⟩
    · intro b hb
      simp only [Regexp.symbols, List.mem_singleton] at hb
      subst hb; exact haS
  · intro w
    rw [Regexp.lang_sym]
    exact sym_accepts rfl rfl rfl hne (fun h => ha h) w

theorem eff_rep (g : GenNFA) (st1 st'' : GenState) (q0 : String) :
    GenNFA.eff { N := (effN g st1).repetitionRaw q0, shared := g.shared } st'' = g.eff st'' := by
  obtain ⟨N, sh⟩ := g
  cases sh <;> rfl

theorem effN_rep (g : GenNFA) (st1 st'' : GenState) (q0 : String) :
    effN { N := (effN g st1).repetitionRaw q0, shared := g.shared } st'' =
      (effN g st'').repetitionRaw q0 := by
  obtain ⟨N, sh⟩ := g
  cases sh <;> rfl

theorem inv_star {r : Regexp String} {st st1 : GenState} {g : GenNFA}
    (h : regexpGenerate r st = .ok (g, st1)) (inv : GenInv r st g st1) (he : "" ∉ st1.Sigma) :
    ∃ g' st', regexpGenerate (.star r) st = .ok (g', st') ∧ GenInv (.star r) st g' st' := by
  have hv1 : (effN g st1).valid = true := (inv.valid st1 (fun _ h => h) he).1
  have hfresh := inv.names.fresh (Nat.le_refl _)
  have hR := NFA.repetition_ok (effN g st1) (genFresh g.N.Q st1.counter).1 hv1
  refine ⟨_, _, gen_star h hR, ?_⟩
  rw [inv.names.genFresh_eq]
  refine ⟨?_, ?_, ?_, inv.eps, NFA.repetitionRaw_keys_nodup _ _, ?_, ?_⟩
  · have := inv.le; simp only; omega
  · exact (inv.names.mono (Nat.le_refl _) (Nat.le_succ _)).sinsert inv.le (Nat.lt_succ_self _)
  · exact inv.sigma
  · intro st'' hsub he''
    rw [effN_rep, eff_rep]
    obtain ⟨hv, h1, h2⟩ := inv.valid st'' hsub he''
    exact ⟨NFA.repetitionRaw_valid _ _ hv, h1, h2⟩
  · intro w
    show ((effN g st1).repetitionRaw _).Accepts w ↔ _
    rw [NFA.repetitionRaw_lang _ _ hv1 inv.keys hfresh, Regexp.lang_star_flatten]
    simp only [effN_accepts, inv.lang]

theorem effN_unshared (R : NFA String String) (st'' : GenState) :
    effN { N := R, shared := false } st'' = R := rfl

theorem GenInv.names_sunion {r s : Regexp String} {st st1 st2 : GenState} {g1 g2 : GenNFA}
    (inv1 : GenInv r st g1 st1) (inv2 : GenInv s st1 g2 st2) :
    Named (sunion g1.N.Q g2.N.Q) st.counter st2.counter :=
  (inv1.names.mono (Nat.le_refl _) inv2.le).sunion (inv2.names.mono inv1.le (Nat.le_refl _))

/-- the invariant for a block `R` built from two consecutive operands, their alphabets taken as of `st2` -/
theorem inv_binary {r s t : Regexp String} {st st1 st2 : GenState} {g1 g2 : GenNFA} {R : NFA String String}
    {c : Nat} (inv1 : GenInv r st g1 st1) (inv2 : GenInv s st1 g2 st2) (he : "" ∉ st2.Sigma)
    (ht : t.symbols = sunion r.symbols s.symbols) (hc : st2.counter ≤ c)
    (hQ : Named R.Q st.counter c)
    (hS : R.Sigma = sunion (g1.eff st2) (g2.eff st2)) (heps : R.eps = "") (hk : (R.delta.map (·.1)).Nodup)
    (hv : R.valid = true) (hL : ∀ w, R.Accepts w ↔ t.Lang w) :
    GenInv t st { N := R, shared := false } { st2 with counter := c } := by
  obtain ⟨-, hs1, ht1⟩ := inv1.valid st2 (fun a ha => (inv2.sigma a).mpr (Or.inl ha)) he
  obtain ⟨-, hs2, ht2⟩ := inv2.valid st2 (fun _ h => h) he
  refine ⟨Nat.le_trans (Nat.le_trans inv1.le inv2.le) hc, hQ, ?_, heps, hk, ?_, hL⟩
  · intro a
    show a ∈ st2.Sigma ↔ _
    rw [ht, mem_sunion, inv2.sigma, inv1.sigma, or_assoc]
  · intro st'' hsub _
    rw [effN_unshared]
    refine ⟨hv, ?_, ?_⟩
    · intro a ha
      rw [ht, mem_sunion] at ha
      show a ∈ R.Sigma
      rw [hS]
      exact mem_sunion.mpr (ha.imp (hs1 a) (hs2 a))
    · intro a ha
      have ha : a ∈ R.Sigma := ha
      rw [hS] at ha
      exact (mem_sunion.mp ha).elim (fun h => hsub a (ht1 a h)) (fun h => hsub a (ht2 a h))

theorem inv_sum {r s : Regexp String} {st st1 st2 : GenState} {g1 g2 : GenNFA}
    (h1 : regexpGenerate r st = .ok (g1, st1)) (inv1 : GenInv r st g1 st1)
    (h2 : regexpGenerate s st1 = .ok (g2, st2)) (inv2 : GenInv s st1 g2 st2) (he : "" ∉ st2.Sigma) :
    ∃ g' st', regexpGenerate (.sum r s) st = .ok (g', st') ∧ GenInv (.sum r s) st g' st' := by
  obtain ⟨hv1, -, -⟩ := inv1.valid st2 (fun a ha => (inv2.sigma a).mpr (Or.inl ha)) he
  obtain ⟨hv2, -, -⟩ := inv2.valid st2 (fun _ h => h) he
  have hd := inv1.names.disjoint inv2.names
  have hnames := inv1.names_sunion inv2
  have hfresh := hnames.fresh (Nat.le_refl _)
  have hq1 : "q" ++ toString st2.counter ∉ (effN g1 st2).Q := fun h => hfresh (mem_sunion.mpr (Or.inl h))
  have hq2 : "q" ++ toString st2.counter ∉ (effN g2 st2).Q := fun h => hfresh (mem_sunion.mpr (Or.inr h))
  have heps : (effN g2 st2).eps = (effN g1 st2).eps := inv2.eps.trans inv1.eps.symm
  have hR := NFA.union_ok (effN g1 st2) (effN g2 st2) (genFresh (sunion g1.N.Q g2.N.Q) st2.counter).1
    hv1 hv2 hd heps
  refine ⟨_, _, gen_sum h1 h2 (sdisjoint_iff.mpr hd) hR, ?_⟩
  rw [hnames.genFresh_eq]
  refine inv_binary inv1 inv2 he rfl (Nat.le_succ _) ?_ rfl inv1.eps (NFA.unionRaw_keys_nodup _ _ _)
    (NFA.unionRaw_valid _ _ _ hv1 hv2 heps) fun w => ?_
  · exact (hnames.mono (Nat.le_refl _) (Nat.le_succ _)).sinsert (Nat.le_trans inv1.le inv2.le) (Nat.lt_succ_self _)
  · show ((effN g1 st2).unionRaw (effN g2 st2) _).Accepts w ↔ _
    rw [NFA.unionRaw_lang _ _ _ hv1 hv2 inv1.keys inv2.keys hd hq1 hq2 heps, Regexp.lang_sum,
      effN_accepts, effN_accepts, inv1.lang, inv2.lang]

theorem inv_cat {r s : Regexp String} {st st1 st2 : GenState} {g1 g2 : GenNFA}
    (h1 : regexpGenerate r st = .ok (g1, st1)) (inv1 : GenInv r st g1 st1)
    (h2 : regexpGenerate s st1 = .ok (g2, st2)) (inv2 : GenInv s st1 g2 st2) (he : "" ∉ st2.Sigma) :
    ∃ g' st', regexpGenerate (.cat r s) st = .ok (g', st') ∧ GenInv (.cat r s) st g' st' := by
  obtain ⟨hv1, -, -⟩ := inv1.valid st2 (fun a ha => (inv2.sigma a).mpr (Or.inl ha)) he
  obtain ⟨hv2, -, -⟩ := inv2.valid st2 (fun _ h => h) he
  have hd := inv1.names.disjoint inv2.names
  have heps : (effN g2 st2).eps = (effN g1 st2).eps := inv2.eps.trans inv1.eps.symm
  have hR := NFA.concat_ok (effN g1 st2) (effN g2 st2) hv1 hv2 hd heps
  refine ⟨_, _, gen_cat h1 h2 hR, ?_⟩
  refine inv_binary inv1 inv2 he rfl (Nat.le_refl _) ?_ rfl inv1.eps (NFA.concatRaw_keys_nodup _ _)
    (NFA.concatRaw_valid _ _ hv1 hv2 heps) fun w => ?_
  · intro q hq
    simp only [NFA.concatRaw, effN, mem_sinsert] at hq
    refine inv1.names_sunion inv2 q (hq.elim id ?_)
    rintro rfl
    exact mem_sunion.mpr (Or.inl (NFA.valid_q0 (N := effN g1 st2) hv1))
  · show ((effN g1 st2).concatRaw (effN g2 st2)).Accepts w ↔ _
    rw [NFA.concatRaw_lang _ _ hv1 hv2 inv1.keys inv2.keys hd heps, Regexp.lang_cat]
    simp only [effN_accepts, inv1.lang, inv2.lang]

theorem regexpGenerate_inv (r : Regexp String) (hr : r.NoEps) (st : GenState) (he : "" ∉ st.Sigma) :
    ∃ g st', regexpGenerate r st = .ok (g, st') ∧ GenInv r st g st' := by
  induction r generalizing st with
  | zero => exact inv_zero st
  | one => exact inv_one st
  | sym a => exact inv_sym hr st
  | star r ih =>
    obtain ⟨g, st1, h, inv⟩ := ih hr st he
    exact inv_star h inv (inv.noEps hr he)
  | sum r s ih1 ih2 =>
    obtain ⟨g1, st1, h1, inv1⟩ := ih1 hr.1 st he
    obtain ⟨g2, st2, h2, inv2⟩ := ih2 hr.2 st1 (inv1.noEps hr.1 he)
    exact inv_sum h1 inv1 h2 inv2 (inv2.noEps hr.2 (inv1.noEps hr.1 he))
  | cat r s ih1 ih2 =>
    obtain ⟨g1, st1, h1, inv1⟩ := ih1 hr.1 st he
    obtain ⟨g2, st2, h2, inv2⟩ := ih2 hr.2 st1 (inv1.noEps hr.1 he)
    exact inv_cat h1 inv1 h2 inv2 (inv2.noEps hr.2 (inv1.noEps hr.1 he))

theorem regexpToNfa_eq {r : Regexp String} {g : GenNFA} {st : GenState}
    (h : regexpGenerate r { counter := 0, Sigma := [] } = .ok (g, st)) :
    regexpToNfa r = .ok (effN g st) := by
  simp only [regexpToNfa, h, bind, Except.bind, pure, Except.pure, effN]

end C06a
end Gamba
