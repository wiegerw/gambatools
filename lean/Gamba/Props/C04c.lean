/-
  Gamba.Props.C04c — Hopcroft's algorithm (`DFA.hopcroft`, the model of `dfa_hopfcroft`, including the dead
  `if P in W_cal` test: a split block that is still pending stays in the waiting list as a stale entry and only
  the smaller half is added): for every pop order the run returns within the model's fuel, and what it returns is
  the minimal quotient.
-/
import Gamba.Proofs.C04c
namespace Gamba
variable {σ τ : Type} [DecidableEq σ] [DecidableEq τ]

namespace C04c
/-- `q1 ≡ q2`; `q3` accepting sink, `q4` rejecting sink -/
def exD : DFA String String :=
  { Q := ["q0", "q1", "q2", "q3", "q4"], Sigma := ["a", "b"],
    delta := [(("q0", "a"), "q1"), (("q0", "b"), "q2"), (("q1", "a"), "q3"), (("q1", "b"), "q4"),
              (("q2", "a"), "q3"), (("q2", "b"), "q4"), (("q3", "a"), "q3"), (("q3", "b"), "q3"),
              (("q4", "a"), "q4"), (("q4", "b"), "q4")],
    q0 := "q0", F := ["q3"] }
end C04c

/-- partial correctness for every pop order: if the run returns, the result is the minimal quotient.
    `hQ` is part of the property's wording; the proof does not use it. -/
theorem hopcroft_spec (D : DFA σ τ) (hv : D.valid = true) (hQ : D.Q.Nodup) (s : Sched) (M : DFA (List σ) τ)
    (h : D.hopcroft s = .ok M) :
    M.valid = true ∧ M.Sigma = D.Sigma ∧ D.IsNerode M.Q ∧
      (∀ w, (∀ a, a ∈ w → a ∈ D.Sigma) → (M.Accepts w ↔ D.Accepts w)) ∧
      (∀ B C, B ∈ M.Q → C ∈ M.Q → B ≠ C → M.Dist B C) := by
  have _ := hQ
  obtain ⟨M', hM', h'⟩ := D.hopcroft_total hv s
  cases hM'.symm.trans h
  exact h'

example : C04c.exD.valid = true ∧ C04c.exD.Q.Nodup := by decide +kernel

/-- two pop orders, same blocks -/
example : (C04c.exD.hopcroft []).toOption.map (·.Q) = some [["q3"], ["q1", "q2"], ["q0"], ["q4"]] ∧
    (C04c.exD.hopcroft [2, 0, 1]).toOption.map (·.Q) = some [["q3"], ["q1", "q2"], ["q0"], ["q4"]] ∧
    (C04c.exD.hopcroft [2, 0, 1]).toOption.map (fun M => (M.q0, M.F)) = some (["q0"], [["q3"]]) :=
  by decide +kernel

/-- the hypothesis `D.hopcroft s = .ok M` is satisfiable, and the conclusion then applies -/
example : ∃ M, C04c.exD.hopcroft [2, 0, 1] = .ok M ∧ M.Q = [["q3"], ["q1", "q2"], ["q0"], ["q4"]] ∧
    C04c.exD.IsNerode M.Q := by
  obtain ⟨M, hM, _, _, hN, _⟩ := C04c.exD.hopcroft_total (by decide +kernel) [2, 0, 1]
  have hQ : (C04c.exD.hopcroft [2, 0, 1]).toOption.map (·.Q) = some [["q3"], ["q1", "q2"], ["q0"], ["q4"]] := by
    decide +kernel
  rw [hM] at hQ
  exact ⟨M, hM, Option.some.inj hQ, hN⟩

/-- termination within the model's fuel, for every pop order.  `hQ` is part of the property's wording; the proof does not use it. -/
theorem hopcroft_terminates (D : DFA σ τ) (hv : D.valid = true) (hQ : D.Q.Nodup) (s : Sched) :
    ∃ M, D.hopcroft s = .ok M :=
  have _ := hQ
  let ⟨M, hM, _⟩ := D.hopcroft_total hv s
  ⟨M, hM⟩

/-- for every pop order the run on `exD` returns, and what it returns is the quotient by the Nerode classes -/
example (s : Sched) : ∃ M, C04c.exD.hopcroft s = .ok M ∧ C04c.exD.IsNerode M.Q := by
  obtain ⟨M, hM⟩ := hopcroft_terminates C04c.exD (by decide +kernel) (by decide +kernel) s
  exact ⟨M, hM, (hopcroft_spec C04c.exD (by decide +kernel) (by decide +kernel) s M hM).2.2.1⟩

#print axioms hopcroft_spec
#print axioms hopcroft_terminates
end Gamba
