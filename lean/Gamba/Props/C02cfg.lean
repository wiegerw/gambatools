/-
  Gamba.Props.C02cfg — the bounded enumerator `cfg_words_up_to_n` (`CFG.wordsUpTo`, as repaired) is
  exact: on a grammar in Chomsky normal form it returns exactly the words of length ≤ n of the
  language; on an arbitrary grammar it goes through `toChomsky` and is exact as soon as `toChomsky G`
  is a CNF grammar with the same language (which `toChomsky_spec` of `Props/C08d.lean` provides).

  No validity hypothesis is needed for the CNF statement (the enumerator never ranges over `G.V`).
-/
import Gamba.Proofs.C02cfg
import Gamba.Props.C08d
namespace Gamba

/-- the CNF grammar `S → AB | a`, `A → a`, `B → b` -/
def C02cfg.exG : CFG :=
  { V := ["S", "A", "B"], Sigma := ["a", "b"], S := "S",
    R := [⟨"S", 0, [.v "A", .v "B"]⟩, ⟨"S", 1, [.t "a"]⟩, ⟨"A", 2, [.t "a"]⟩, ⟨"B", 3, [.t "b"]⟩] }

theorem C02cfg.exG_chomsky : C02cfg.exG.isChomsky = true := by decide

/-- the CNF grammar `S → ε | AA | AB`, `A → a | AA`, `B → b` (ε-rule, recursion) -/
def C02cfg.exG2 : CFG :=
  { V := ["S", "A", "B"], Sigma := ["a", "b"], S := "S",
    R := [⟨"S", 0, []⟩, ⟨"S", 1, [.v "A", .v "A"]⟩, ⟨"S", 2, [.v "A", .v "B"]⟩,
          ⟨"A", 3, [.t "a"]⟩, ⟨"A", 4, [.v "A", .v "A"]⟩, ⟨"B", 5, [.t "b"]⟩] }

theorem C02cfg.exG2_chomsky : C02cfg.exG2.isChomsky = true := by decide

/-- `cfg_words_up_to_n` on a CNF grammar: exactly the words of length ≤ n of the language -/
theorem cfg_words_exact_cnf (G : CFG) (hc : G.isChomsky = true) (n : Nat) (w : List String) :
    w ∈ G.wordsUpTo n ↔ w.length ≤ n ∧ G.Lang w := by
  rw [CFG.mem_wordsUpTo_cnf hc, CFG.Lang]
  constructor
  · rintro (⟨rfl, hr⟩ | ⟨k, f, hk, hit, hmw⟩)
    · exact ⟨Nat.zero_le _, (CFG.cnf_gen_v_nil_iff hc).mpr hr⟩
    · have h1 := CFG.iterN_step2_length hit
      have h2 := hmw.length
      simp only [List.length_cons, List.length_nil] at h1
      exact ⟨by omega, CFG.iterN_step2_gen hit hmw.gen⟩
  · rintro ⟨hlen, hgen⟩
    by_cases hw : w = []
    · subst hw
      exact Or.inl ⟨rfl, (CFG.cnf_gen_v_nil_iff hc).mp hgen⟩
    · obtain ⟨k, f, hk, hit, hmw⟩ := (CFG.cnf_gen_iff_steps hc hw).mp hgen
      exact Or.inr ⟨k, f, by omega, hit, hmw⟩

example : C02cfg.exG.wordsUpTo 0 = [] ∧ C02cfg.exG.wordsUpTo 1 = [["a"]] ∧
    C02cfg.exG.wordsUpTo 2 = [["a"], ["a", "b"]] ∧ C02cfg.exG.wordsUpTo 5 = [["a"], ["a", "b"]] := by
  decide +kernel

example : C02cfg.exG2.wordsUpTo 0 = [[]] ∧
    C02cfg.exG2.wordsUpTo 3 =
      [[], ["a", "a"], ["a", "b"], ["a", "a", "a"], ["a", "a", "b"]] := by
  decide +kernel

/-- the theorem applied to the examples: `ab ∈ L(exG)`, `b ∉ L(exG)`, `aab ∈ L(exG2)`, `ε ∈ L(exG2)` -/
example : C02cfg.exG.Lang ["a", "b"] ∧ ¬ C02cfg.exG.Lang ["b"] ∧ C02cfg.exG2.Lang ["a", "a", "b"] ∧
    C02cfg.exG2.Lang [] := by
  refine ⟨?_, ?_, ?_, ?_⟩
  · exact ((cfg_words_exact_cnf C02cfg.exG C02cfg.exG_chomsky 2 ["a", "b"]).mp (by decide +kernel)).2
  · intro h
    have := (cfg_words_exact_cnf C02cfg.exG C02cfg.exG_chomsky 1 ["b"]).mpr ⟨by decide +kernel, h⟩
    revert this; decide
  · exact ((cfg_words_exact_cnf C02cfg.exG2 C02cfg.exG2_chomsky 3 ["a", "a", "b"]).mp (by decide +kernel)).2
  · exact ((cfg_words_exact_cnf C02cfg.exG2 C02cfg.exG2_chomsky 0 []).mp (by decide +kernel)).2

/-- arbitrary grammar: the enumerator goes through `toChomsky`; given that `toChomsky G` is CNF with
    the same language, the enumeration is exact -/
theorem cfg_words_exact_of_chomsky (G : CFG) (n : Nat) (w : List String)
    (hC : (G.toChomsky).isChomsky = true) (hL : ∀ w, (G.toChomsky).Lang w ↔ G.Lang w) :
    w ∈ G.wordsUpTo n ↔ w.length ≤ n ∧ G.Lang w := by
  cases hc : G.isChomsky with
  | true => exact cfg_words_exact_cnf G hc n w
  | false =>
    rw [CFG.wordsUpTo_toChomsky hc hC, cfg_words_exact_cnf G.toChomsky hC n w, hL]

/-- the enumeration is exact under the hypotheses of `cfg_accepts_spec` -/
theorem cfg_words_exact_side {G : CFG} (hv : G.valid = true) (hS : G.S ∈ G.V)
    (hside : G.isChomsky = true ∨ CFG.Apart G "S") (n : Nat) (w : List String) :
    w ∈ G.wordsUpTo n ↔ w.length ≤ n ∧ G.Lang w :=
  hside.elim (cfg_words_exact_cnf G · n w) fun hd =>
    have h := CFG.C08d.toChomsky_eq_applyChomsky G ▸ CFG.after_applyChomsky G 5 "S" hv hS
    cfg_words_exact_of_chomsky G n w (h.isChomsky hd) (h.lang fun _ => hd)

/-- arbitrary valid grammar (hypotheses of `toChomsky_spec`): the enumeration is exact -/
theorem cfg_words_exact (G : CFG) (hv : G.valid = true) (hS : G.S ∈ G.V) (ha : CFG.AliasOK G)
    (hd : ∀ a, a ∈ G.Sigma → a ∉ G.V ∧ a ≠ CFG.freshVariable G.V "S") (n : Nat) (w : List String) :
    w ∈ G.wordsUpTo n ↔ w.length ≤ n ∧ G.Lang w :=
  have _ := ha
  cfg_words_exact_side hv hS (Or.inr hd) n w

/-- non-vacuity: the grammar `S → aSb | ε | T`, `T → c` of `C08d` is not in CNF, satisfies the
    hypotheses, and `acb` is enumerated for `n = 3` -/
example : C08d.exG.isChomsky = false ∧ C08d.exG.toChomsky.isChomsky = true ∧
    (∀ w, C08d.exG.toChomsky.Lang w ↔ C08d.exG.Lang w) ∧
    ["a", "c", "b"] ∈ C08d.exG.wordsUpTo 3 := by
  obtain ⟨_, hC, _, _, _, hL⟩ :=
    toChomsky_spec C08d.exG C08d.exG_valid C08d.exG_S C08d.exG_alias C08d.exG_disj
  exact ⟨by decide +kernel, hC, hL,
    (cfg_words_exact C08d.exG C08d.exG_valid C08d.exG_S C08d.exG_alias C08d.exG_disj 3 _).mpr
      ⟨by decide +kernel, C08d.exG_lang_acb⟩⟩

end Gamba

#print axioms Gamba.cfg_words_exact_cnf
#print axioms Gamba.cfg_words_exact_of_chomsky
#print axioms Gamba.cfg_words_exact
