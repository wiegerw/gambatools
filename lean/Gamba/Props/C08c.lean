/-
  Gamba.Props.C08c — phases 4 (`binarise`) and 5 (`isolateTerminals`) of the Chomsky-normal-form
  conversion: structure, invariants and language preservation; runs of fresh variables.
  The hypothesis `hfresh` of the three theorems always holds: it is `freshVariable_fresh` (Props/C08a; the proof
  is `CFG.freshVariable_not_mem` in Proofs/C08a).

  The language conjunct of both phase theorems needs `G.S ∈ G.V`: `valid` does not check it, and a start symbol
  outside `V` can be captured by a "fresh" variable (counterexamples `c08cCexBin`, `c08cCexIso` below).
-/
import Gamba.Proofs.C08c
namespace Gamba

/-- all variables introduced in one run are pairwise distinct and new (`hfresh` is not used: it is
    `freshVariable_fresh`) -/
theorem freshVariables_distinct (hfresh : ∀ (V : List String) (hint : String), CFG.freshVariable V hint ∉ V)
    (V : List String) (hint : String) (n : Nat) :
    (CFG.freshVariables V hint n).1.Nodup ∧ (∀ A, A ∈ (CFG.freshVariables V hint n).1 → A ∉ V) ∧
    (∀ A, A ∈ (CFG.freshVariables V hint n).2 ↔ A ∈ V ∨ A ∈ (CFG.freshVariables V hint n).1) ∧
    (CFG.freshVariables V hint n).1.length = n :=
  have _ := hfresh
  have ⟨h1, h2, h3, h4⟩ := CFG.C08c.freshVariables_spec hint n V
  ⟨h1, h2, fun _ => h3 ▸ List.mem_append, h4⟩

example : CFG.freshVariables ["S", "A"] "S" 3 = (["B", "C", "D"], ["S", "A", "B", "C", "D"]) := by decide +kernel

/-- phase 4: splitting long right-hand sides into chains of fresh variables (`hfresh` is not used) -/
theorem binarise_spec (hfresh : ∀ (V : List String) (hint : String), CFG.freshVariable V hint ∉ V)
    (G : CFG) (hv : G.valid = true) (ha : CFG.AliasOK G) :
    (G.binarise).valid = true ∧ (G.binarise).S = G.S ∧ (∀ A, A ∈ G.V → A ∈ (G.binarise).V) ∧
    CFG.RhsLe2 G.binarise ∧ CFG.AliasOK G.binarise ∧
    (CFG.NoUnit G → CFG.NoUnit G.binarise) ∧
    (CFG.NoEpsExceptStart G → CFG.NoEpsExceptStart G.binarise) ∧
    (G.S ∈ G.V → CFG.StartNotOnRhs G → CFG.StartNotOnRhs G.binarise) ∧
    (G.S ∈ G.V → ∀ w, (G.binarise).Lang w ↔ G.Lang w) := by
  have _ := hfresh
  obtain ⟨h, h2⟩ := CFG.C08c.binarise_inv hv ha
  exact ⟨h.valid, h.hS, h.hV, h2, h.alias, h.noUnit, h.noEps, h.start, h.lang⟩

/-- the grammar `S → aSbS | ab` -/
def c08cG : CFG := ⟨["S"], ["a", "b"],
  [⟨"S", 0, [.t "a", .v "S", .t "b", .v "S"]⟩, ⟨"S", 1, [.t "a", .t "b"]⟩], "S"⟩

example : c08cG.valid = true ∧ CFG.AliasOK c08cG ∧ CFG.NoUnit c08cG ∧ CFG.NoEpsExceptStart c08cG ∧ c08cG.S ∈ c08cG.V :=
  ⟨by decide +kernel, CFG.C08c.aliasOK_of_b (by decide +kernel), by decide +kernel, by decide +kernel, by decide +kernel⟩

example : c08cG.binarise.V = ["S", "A", "B"] ∧ c08cG.binarise.R =
    [⟨"S", 0, [.t "a", .v "A"]⟩, ⟨"S", 1, [.t "a", .t "b"]⟩,
     ⟨"A", 2, [.v "S", .v "B"]⟩, ⟨"B", 3, [.t "b", .v "S"]⟩] := by decide +kernel

/-- two rules sharing one `Alternative` (what `elimUnit` produces from `S → A`, `A → abc`) -/
def c08cAlias : CFG := ⟨["S", "A"], ["a", "b", "c"],
  [⟨"S", 1, [.t "a", .t "b", .t "c"]⟩, ⟨"A", 1, [.t "a", .t "b", .t "c"]⟩], "S"⟩

example : c08cAlias.valid = true ∧ CFG.AliasOK c08cAlias ∧ CFG.StartNotOnRhs c08cAlias ∧ c08cAlias.S ∈ c08cAlias.V :=
  ⟨by decide +kernel, CFG.C08c.aliasOK_of_b (by decide +kernel), by decide +kernel, by decide +kernel⟩

/-- both rules are rewritten by the first step, the second step does nothing -/
example : c08cAlias.binarise.V = ["S", "A", "B"] ∧ c08cAlias.binarise.R =
    [⟨"S", 1, [.t "a", .v "B"]⟩, ⟨"A", 1, [.t "a", .v "B"]⟩, ⟨"B", 2, [.t "b", .t "c"]⟩] := by decide +kernel

/-- counterexample to the unguarded language conjunct: the start symbol `S` is not in `V`, all of
    `A` … `R` are, so the "fresh" variable of the chain is `S` itself -/
def c08cCexBin : CFG := ⟨["A","B","C","D","E","F","G","H","I","J","K","L","M","N","O","P","Q","R"], ["a"],
  [⟨"A", 0, [.t "a", .t "a", .t "a"]⟩], "S"⟩

example : c08cCexBin.valid = true ∧ CFG.AliasOK c08cCexBin ∧ ¬ (∀ w, c08cCexBin.binarise.Lang w ↔ c08cCexBin.Lang w) := by
  refine ⟨by decide +kernel, CFG.C08c.aliasOK_of_b (by decide +kernel), ?_⟩
  intro h
  have hR : c08cCexBin.binarise.R = [⟨"A", 0, [.t "a", .v "S"]⟩, ⟨"S", 1, [.t "a", .t "a"]⟩] := by decide +kernel
  have hS : c08cCexBin.binarise.S = "S" := by decide +kernel
  have h1 : c08cCexBin.binarise.Lang ["a", "a"] := by
    unfold CFG.Lang
    rw [hS]
    refine CFG.gen_v_iff.mpr ⟨[.t "a", .t "a"], ⟨⟨"S", 1, [.t "a", .t "a"]⟩, ?_, rfl, rfl⟩, .t (.t .nil)⟩
    rw [hR]; simp
  obtain ⟨rhs, ⟨r, hr, hl, _⟩, _⟩ := CFG.gen_v_iff.mp ((h _).mp h1)
  simp only [c08cCexBin, List.mem_singleton] at hr
  subst hr
  revert hl; decide

/-- phase 5: one fresh variable per terminal occurring in a rule of length ≥ 2 (`hfresh` is not used) -/
theorem isolateTerminals_spec (hfresh : ∀ (V : List String) (hint : String), CFG.freshVariable V hint ∉ V)
    (G : CFG) (hv : G.valid = true) (ha : CFG.AliasOK G) :
    (G.isolateTerminals).valid = true ∧ (G.isolateTerminals).S = G.S ∧ (∀ A, A ∈ G.V → A ∈ (G.isolateTerminals).V) ∧
    (CFG.RhsLe2 G → CFG.NoUnit G → CFG.AllCnfShaped G.isolateTerminals) ∧
    (CFG.NoEpsExceptStart G → CFG.NoEpsExceptStart G.isolateTerminals) ∧
    (G.S ∈ G.V → CFG.StartNotOnRhs G → CFG.StartNotOnRhs G.isolateTerminals) ∧
    (G.S ∈ G.V → ∀ w, (G.isolateTerminals).Lang w ↔ G.Lang w) := by
  have _ := hfresh
  obtain ⟨acc, R', h⟩ := CFG.C08c.isolateTerminals_char ha
  have hi := h.intro ha hv
  exact ⟨hi.valid hv, h.hS, hi.V_mono, h.cnfShaped ha, hi.noEps h.hS,
    fun hSV => hi.startNotOnRhs h.hS hSV fun q hq => CFG.C08c.IsoRes.tab_no_var _ q hq _, hi.lang_of_S hv h.hS⟩

/-- `c08cG.binarise`, written out -/
def c08cG2 : CFG := ⟨["S", "A", "B"], ["a", "b"],
  [⟨"S", 0, [.t "a", .v "A"]⟩, ⟨"S", 1, [.t "a", .t "b"]⟩,
   ⟨"A", 2, [.v "S", .v "B"]⟩, ⟨"B", 3, [.t "b", .v "S"]⟩], "S"⟩

example : c08cG2.valid = true ∧ CFG.AliasOK c08cG2 ∧ CFG.RhsLe2 c08cG2 ∧ CFG.NoUnit c08cG2 ∧
    CFG.NoEpsExceptStart c08cG2 ∧ c08cG2.S ∈ c08cG2.V :=
  ⟨by decide +kernel, CFG.C08c.aliasOK_of_b (by decide +kernel), by decide +kernel, by decide +kernel, by decide +kernel, by decide +kernel⟩

/-- (`isolateLoop` is defined by well-founded recursion and `String.map` does not reduce in the
    kernel, so `simp` unrolls the loop before `decide` finishes) -/
example : c08cG2.isolateTerminals.V = ["S", "A", "B", "C", "D"] ∧ c08cG2.isolateTerminals.R =
    [⟨"S", 0, [.v "C", .v "A"]⟩, ⟨"S", 1, [.v "C", .v "D"]⟩,
     ⟨"A", 2, [.v "S", .v "B"]⟩, ⟨"B", 3, [.v "D", .v "S"]⟩,
     ⟨"C", 4, [.t "a"]⟩, ⟨"D", 5, [.t "b"]⟩] := by
  have ha : CFG.upperAscii "a" = "A" := CFG.C08c.upperAscii_eq (by decide +kernel)
  have hb : CFG.upperAscii "b" = "B" := CFG.C08c.upperAscii_eq (by decide +kernel)
  have h1 : CFG.freshVariable ["S", "A", "B"] "A" = "C" := by decide +kernel
  have h2 : CFG.freshVariable ["S", "A", "B", "C"] "B" = "D" := by decide +kernel
  simp [CFG.isolateTerminals, c08cG2, CFG.isolateLoop, CFG.replaceSymbols, CFG.replaceSymbol, ha, hb, h1, h2]
  decide

/-- two rules sharing one `Alternative` of length 2: both are rewritten at the first visit -/
def c08cAlias2 : CFG := ⟨["S", "A"], ["a", "b"],
  [⟨"S", 1, [.t "a", .t "b"]⟩, ⟨"A", 1, [.t "a", .t "b"]⟩, ⟨"A", 2, [.t "a"]⟩], "S"⟩

example : c08cAlias2.valid = true ∧ CFG.AliasOK c08cAlias2 ∧ CFG.RhsLe2 c08cAlias2 ∧ CFG.NoUnit c08cAlias2 ∧
    CFG.NoEpsExceptStart c08cAlias2 ∧ c08cAlias2.S ∈ c08cAlias2.V ∧ CFG.StartNotOnRhs c08cAlias2 :=
  ⟨by decide +kernel, CFG.C08c.aliasOK_of_b (by decide +kernel), by decide +kernel, by decide +kernel, by decide +kernel, by decide +kernel, by decide +kernel⟩

example : c08cAlias2.isolateTerminals.V = ["S", "A", "B", "C"] ∧ c08cAlias2.isolateTerminals.R =
    [⟨"S", 1, [.v "B", .v "C"]⟩, ⟨"A", 1, [.v "B", .v "C"]⟩, ⟨"A", 2, [.t "a"]⟩,
     ⟨"B", 3, [.t "a"]⟩, ⟨"C", 4, [.t "b"]⟩] := by
  have ha : CFG.upperAscii "a" = "A" := CFG.C08c.upperAscii_eq (by decide +kernel)
  have hb : CFG.upperAscii "b" = "B" := CFG.C08c.upperAscii_eq (by decide +kernel)
  have h1 : CFG.freshVariable ["S", "A"] "A" = "B" := by decide +kernel
  have h2 : CFG.freshVariable ["S", "A", "B"] "B" = "C" := by decide +kernel
  simp [CFG.isolateTerminals, c08cAlias2, CFG.isolateLoop, CFG.replaceSymbols, CFG.replaceSymbol, ha, hb, h1, h2]
  decide

/-- counterexample to the unguarded language conjunct: `S ∉ V` and the variable allocated for
    the terminal `s` is `upperAscii "s" = "S"` -/
def c08cCexIso : CFG := ⟨["A"], ["s"], [⟨"A", 0, [.t "s", .t "s"]⟩], "S"⟩

example : c08cCexIso.valid = true ∧ CFG.AliasOK c08cCexIso ∧
    ¬ (∀ w, c08cCexIso.isolateTerminals.Lang w ↔ c08cCexIso.Lang w) := by
  refine ⟨by decide +kernel, CFG.C08c.aliasOK_of_b (by decide +kernel), ?_⟩
  intro h
  have hs : CFG.upperAscii "s" = "S" := CFG.C08c.upperAscii_eq (by decide +kernel)
  have h1 : CFG.freshVariable ["A"] "S" = "S" := by decide +kernel
  have hR : c08cCexIso.isolateTerminals.R = [⟨"A", 0, [.v "S", .v "S"]⟩, ⟨"S", 1, [.t "s"]⟩] := by
    simp [CFG.isolateTerminals, c08cCexIso, CFG.isolateLoop, CFG.replaceSymbols, CFG.replaceSymbol, hs, h1]
    decide
  have h1 : c08cCexIso.isolateTerminals.Lang ["s"] := by
    unfold CFG.Lang
    refine CFG.gen_v_iff.mpr ⟨[.t "s"], ⟨⟨"S", 1, [.t "s"]⟩, ?_, rfl, rfl⟩, .t .nil⟩
    rw [hR]; simp
  obtain ⟨rhs, ⟨r, hr, hl, _⟩, _⟩ := CFG.gen_v_iff.mp ((h _).mp h1)
  simp only [c08cCexIso, List.mem_singleton] at hr
  subst hr
  revert hl; decide

#print axioms freshVariables_distinct
#print axioms binarise_spec
#print axioms isolateTerminals_spec

end Gamba
