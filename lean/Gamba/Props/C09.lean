/-
  Gamba.Props.C09 — the PDA acceptance test (`pda_accepts_word` with the ε-closure iteration limit) is always
  sound w.r.t. the Sipser-style semantics of `Gamba.Spec.PDA`, and complete whenever no ε-closure it computes
  was truncated by the limit.
-/
import Gamba.Proofs.C09
namespace Gamba
variable {σ τ γ : Type} [DecidableEq σ] [DecidableEq τ] [DecidableEq γ]

/-- `moves` is exactly the spec's one-move relation (for a PDA whose δ has unique keys, as a Python dict has)
    (`hε`, `hv` belong to the wording of the property; the proof does not use them) -/
theorem pda_moves_iff (P : PDA σ τ γ) (hk : (P.delta.map (·.1)).Nodup) (hε : P.epsG ∉ P.Gamma) (hv : P.valid = true)
    (a : τ) (c c' : PConf σ γ) : c' ∈ P.moves a c ↔ P.Move a c c' :=
  have _ := hε
  have _ := hv
  ⟨PDA.Move_of_mem_moves hk, PDA.mem_moves_of_Move⟩

example : (C09.exPDA.delta.map (·.1)).Nodup ∧ C09.exPDA.epsG ∉ C09.exPDA.Gamma ∧ C09.exPDA.valid = true :=
  by decide +kernel

example : C09.exPDA.moves "b" ("q", ["$", "A", "A"]) = [("q", ["$", "A"])] ∧
    C09.exPDA.moves "eps" ("q", ["$"]) = [("f", [])] ∧ C09.exPDA.moves "b" ("q", ["$"]) = [] ∧
    C09.exPDA.moves "a" ("p", ["$"]) = [("p", ["$", "A"])] := by decide +kernel

example : C09.exPDA.Move "b" ("q", ["$", "A", "A"]) ("q", ["$", "A"]) :=
  (pda_moves_iff C09.exPDA C09.exPDA_keys (by decide +kernel) C09.exPDA_valid _ _ _).mp (by decide +kernel)

/-- every configuration in a (possibly truncated) closure is ε-reachable: for EVERY limit and pop order
    (`hv` belongs to the wording of the property; the proof does not use it) -/
theorem pda_epsClosure_sound (P : PDA σ τ γ) (hk : (P.delta.map (·.1)).Nodup) (hv : P.valid = true)
    (limit : Nat) (s : Sched) (R : List (PConf σ γ)) (c : PConf σ γ)
    (h : c ∈ (P.epsClosure limit s R).1) : P.EpsReach R c :=
  have _ := hv
  P.epsClosure_sound hk limit s R c h

example : C09.exPDA.epsClosure 1000 [] [("s", [])] = ([("s", []), ("p", ["$"]), ("q", ["$"]), ("f", [])], false) ∧
    C09.exPDA.epsClosure 2 [7, 1] [("s", [])] = ([("s", []), ("p", ["$"]), ("q", ["$"])], true) := by decide +kernel

example : C09.exPDA.EpsReach [("s", [])] ("q", ["$"]) :=
  pda_epsClosure_sound C09.exPDA C09.exPDA_keys C09.exPDA_valid 2 [7, 1] _ _ (by decide +kernel)

/-- an untruncated closure is exactly ε-reachability
    (`hv` belongs to the wording of the property; the proof does not use it) -/
theorem pda_epsClosure_complete (P : PDA σ τ γ) (hk : (P.delta.map (·.1)).Nodup) (hv : P.valid = true)
    (limit : Nat) (s : Sched) (R : List (PConf σ γ)) (h : (P.epsClosure limit s R).2 = false) (c : PConf σ γ) :
    c ∈ (P.epsClosure limit s R).1 ↔ P.EpsReach R c :=
  have _ := hv
  ⟨P.epsClosure_sound hk limit s R c, P.epsClosure_complete limit s R h c⟩

example : (C09.exPDA.epsClosure 1000 [] [("s", [])]).2 = false := by decide +kernel

/-- hence `(f, [])` is the only ε-reachable configuration of `exPDA` with state `f` -/
example (st : List String) (h : C09.exPDA.EpsReach [("s", [])] ("f", st)) : st = [] := by
  have := (pda_epsClosure_complete C09.exPDA C09.exPDA_keys C09.exPDA_valid 1000 [] [("s", [])] rfl ("f", st)).mpr h
  have hcl : (C09.exPDA.epsClosure 1000 [] [("s", [])]).1 = [("s", []), ("p", ["$"]), ("q", ["$"]), ("f", [])] := rfl
  rw [hcl] at this
  simp at this
  exact this

/-- the truncation flag is false as soon as the ε-reachable set is finite of size at most the limit
    (each iteration pops a distinct configuration): given as — if some duplicate-free list `U` contains every
    ε-reachable configuration and `U.length ≤ limit` then the closure is not truncated
    (`hv`, `hn` belong to the wording of the property; the proof does not use them) -/
theorem pda_epsClosure_not_truncated (P : PDA σ τ γ) (hk : (P.delta.map (·.1)).Nodup) (hv : P.valid = true)
    (limit : Nat) (s : Sched) (R U : List (PConf σ γ)) (hU : ∀ c, P.EpsReach R c → c ∈ U) (hn : U.Nodup)
    (hl : U.length ≤ limit) : (P.epsClosure limit s R).2 = false := by
  have _ := hv
  have _ := hn
  apply (P.epsLoop_spec R U limit s _ _ (.init fun _ => mem_dedup)).2 (fun c hc => hU c (Reach.pda_epsReach hk hc))
    (nodup_dedup R)
  have hle : (dedup R).length ≤ U.length :=
    List.Nodup.length_le_of_subset (nodup_dedup R) (fun x hx => hU x (.base (mem_dedup.mp hx)))
  omega

/-- non-vacuity: for `exPDA` the four configurations of the closure are all that is ε-reachable from `(s, [])`
    (by `pda_epsClosure_complete`), so a limit of 4 suffices for every pop order -/
example (s : Sched) : (C09.exPDA.epsClosure 4 s [("s", [])]).2 = false :=
  pda_epsClosure_not_truncated C09.exPDA C09.exPDA_keys C09.exPDA_valid 4 s [("s", [])]
    [("s", []), ("p", ["$"]), ("q", ["$"]), ("f", [])]
    (fun c hc => (pda_epsClosure_complete C09.exPDA C09.exPDA_keys C09.exPDA_valid 1000 [] [("s", [])] rfl c).mpr hc)
    (by decide +kernel) (by decide +kernel)

/-- SOUNDNESS: the test never answers True for a word without an accepting computation — any limit, any pop order -/
theorem pda_accepts_sound (P : PDA σ τ γ) (hk : (P.delta.map (·.1)).Nodup) (hv : P.valid = true)
    (limit : Nat) (s : Sched) (w : List τ) (hw : ∀ a, a ∈ w → a ∈ P.Sigma)
    (h : P.accepts limit s w = true) : P.Accepts w :=
  P.accepts_sound hk limit s w (fun a ha => PDA.valid_eps hv (hw a ha)) h

example : C09.exPDA.accepts 1000 [] ["a", "b"] = true ∧ C09.exPDA.accepts 1000 [] ["a", "a", "b", "b"] = true ∧
    C09.exPDA.accepts 1000 [] [] = true ∧ C09.exPDA.accepts 1000 [] ["a", "b", "b"] = false ∧
    C09.exPDA.accepts 1000 [] ["b", "a"] = false := by decide +kernel

example : C09.exPDA.Accepts ["a", "a", "b", "b"] :=
  pda_accepts_sound C09.exPDA C09.exPDA_keys C09.exPDA_valid 1000 [] _ (by decide +kernel) rfl

/-- COMPLETENESS below the limit: if no closure on the way was truncated, every accepted word is answered True
    (`hk`, `hv`, `hw` belong to the wording of the property; the proof does not use them) -/
theorem pda_accepts_complete (P : PDA σ τ γ) (hk : (P.delta.map (·.1)).Nodup) (hv : P.valid = true)
    (limit : Nat) (s : Sched) (w : List τ) (hw : ∀ a, a ∈ w → a ∈ P.Sigma)
    (ht : (P.acceptsT limit s w).2 = false) (h : P.Accepts w) : P.accepts limit s w = true :=
  have _ := hk
  have _ := hv
  have _ := hw
  P.accepts_complete limit s w ht h

example : (C09.exPDA.acceptsT 1000 [] ["a", "b", "b"]).2 = false ∧
    (C09.exPDA.acceptsT 1000 [] ["a", "a", "b", "b"]).2 = false := by decide +kernel

/-- used contrapositively: an untruncated `False` answer is a proof of non-membership -/
example : ¬ C09.exPDA.Accepts ["a", "b", "b"] := by
  intro h
  have := pda_accepts_complete C09.exPDA C09.exPDA_keys C09.exPDA_valid 1000 [] ["a", "b", "b"] (by decide +kernel) rfl h
  exact absurd this (by decide +kernel)

/-! ### The truncation hypothesis of `pda_accepts_complete` cannot be dropped

`exLoopPDA` has the stack-growing ε-cycle `(s, Xⁿ) ⊢ (s, Xⁿ⁺¹)`; every closure from `(s, [])` is truncated,
whatever the limit.  It accepts `aaa`, but with limit 2 the test answers `False` (flag `true`);
with limit 3 it answers `True` (still flagged as truncated). -/

example : C09.exLoopPDA.valid = true ∧ (C09.exLoopPDA.delta.map (·.1)).Nodup := by decide +kernel

example : C09.exLoopPDA.epsClosure 3 [] [("s", [])] =
    ([("s", []), ("s", ["X"]), ("s", ["X", "X"]), ("s", ["X", "X", "X"])], true) := by decide +kernel

example : C09.exLoopPDA.acceptsT 2 [] ["a", "a", "a"] = (false, true) ∧
    C09.exLoopPDA.acceptsT 3 [] ["a", "a", "a"] = (true, true) := by decide +kernel

example : C09.exLoopPDA.Accepts ["a", "a", "a"] ∧ C09.exLoopPDA.accepts 2 [] ["a", "a", "a"] = false :=
  ⟨pda_accepts_sound C09.exLoopPDA C09.exLoopPDA_keys C09.exLoopPDA_valid 3 [] _ (by decide +kernel) rfl, rfl⟩

#print axioms pda_moves_iff
#print axioms pda_epsClosure_sound
#print axioms pda_epsClosure_complete
#print axioms pda_epsClosure_not_truncated
#print axioms pda_accepts_sound
#print axioms pda_accepts_complete

end Gamba
