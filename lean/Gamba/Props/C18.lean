/-
  Gamba.Props.C18 — property C18: the three Thompson building blocks `nfa_union`, `nfa_concatenation`,
  `nfa_repetition` (as repaired: result ε = operand ε, fresh state name supplied by the repaired generator)
  produce valid NFAs for L1 ∪ L2, L1·L2 and L1*, and the result does not depend on the generator history.

  The hypotheses `(N.delta.map (·.1)).Nodup` ("δ is a Python dict: no repeated key") are needed.
  Without them the language clauses are false: `dictUpdate` folds `Dict.set`
  over ALL entries of the copied δ, so for a repeated key the LAST binding survives, whereas `lookup`
  (hence `NFA.Succ`/`NFA.Accepts` of the operand) reads the FIRST one — see `nfa_union_spec_needs_nodup`.
-/
import Gamba.Proofs.C18
namespace Gamba
variable {σ τ : Type} [DecidableEq σ] [DecidableEq τ]

open C18

theorem nfa_union_spec (N1 N2 : NFA σ τ) (q0 : σ) (h1 : N1.valid = true) (h2 : N2.valid = true)
    (hk1 : (N1.delta.map (·.1)).Nodup) (hk2 : (N2.delta.map (·.1)).Nodup)
    (hd : ∀ q, q ∈ N1.Q → q ∉ N2.Q) (hq1 : q0 ∉ N1.Q) (hq2 : q0 ∉ N2.Q) (he : N2.eps = N1.eps) :
    ∃ N, N1.union N2 q0 = .ok N ∧ N.valid = true ∧ N.eps = N1.eps ∧
      (∀ a, a ∈ N.Sigma ↔ a ∈ N1.Sigma ∨ a ∈ N2.Sigma) ∧
      ∀ w, N.Accepts w ↔ (N1.Accepts w ∨ N2.Accepts w) :=
  ⟨N1.unionRaw N2 q0, NFA.union_ok N1 N2 q0 h1 h2 hd he, NFA.unionRaw_valid N1 N2 q0 h1 h2 he,
    rfl, fun _ => mem_sunion, NFA.unionRaw_lang N1 N2 q0 h1 h2 hk1 hk2 hd hq1 hq2 he⟩

/-- the result is again a dict (so the constructions can be iterated) -/
theorem nfa_union_keys_nodup (N1 N2 : NFA σ τ) (q0 : σ) (N : NFA σ τ) (h : N1.union N2 q0 = .ok N) :
    (N.delta.map (·.1)).Nodup := by
  obtain ⟨-, -, rfl⟩ := NFA.union_eq_ok_iff.mp h
  exact NFA.unionRaw_keys_nodup N1 N2 q0

example : exA.valid = true ∧ exB.valid = true ∧ (exA.delta.map (·.1)).Nodup ∧ (exB.delta.map (·.1)).Nodup ∧
    (∀ q, q ∈ exA.Q → q ∉ exB.Q) ∧ "s" ∉ exA.Q ∧ "s" ∉ exB.Q ∧ exB.eps = exA.eps :=
  ⟨by decide +kernel, by decide +kernel, by decide +kernel, by decide +kernel, sdisjoint_iff.mp (by decide +kernel), by decide +kernel, by decide +kernel, by decide +kernel⟩

example : exA.union exB "s" = .ok
    { Q := ["a0", "a1", "b0", "b1", "s"], Sigma := ["a", "b"],
      delta := [(("a0", "a"), ["a1"]), (("b0", "b"), ["b1"]), (("b1", "eps"), ["b0"]),
                (("s", "eps"), ["a0", "b0"])],
      q0 := "s", F := ["a1", "b1"], eps := "eps" } := by decide +kernel

theorem nfa_concat_spec (N1 N2 : NFA σ τ) (h1 : N1.valid = true) (h2 : N2.valid = true)
    (hk1 : (N1.delta.map (·.1)).Nodup) (hk2 : (N2.delta.map (·.1)).Nodup)
    (hd : ∀ q, q ∈ N1.Q → q ∉ N2.Q) (he : N2.eps = N1.eps) :
    ∃ N, N1.concat N2 = .ok N ∧ N.valid = true ∧ N.eps = N1.eps ∧
      (∀ a, a ∈ N.Sigma ↔ a ∈ N1.Sigma ∨ a ∈ N2.Sigma) ∧
      ∀ w, N.Accepts w ↔ ∃ u v, w = u ++ v ∧ N1.Accepts u ∧ N2.Accepts v :=
  ⟨N1.concatRaw N2, NFA.concat_ok N1 N2 h1 h2 hd he, NFA.concatRaw_valid N1 N2 h1 h2 he,
    rfl, fun _ => mem_sunion, NFA.concatRaw_lang N1 N2 h1 h2 hk1 hk2 hd he⟩

theorem nfa_concat_keys_nodup (N1 N2 : NFA σ τ) (N : NFA σ τ) (h : N1.concat N2 = .ok N) :
    (N.delta.map (·.1)).Nodup := by
  obtain ⟨-, -, rfl⟩ := NFA.concat_eq_ok_iff.mp h
  exact NFA.concatRaw_keys_nodup N1 N2

example : exA.concat exB = .ok
    { Q := ["a0", "a1", "b0", "b1"], Sigma := ["a", "b"],
      delta := [(("a0", "a"), ["a1"]), (("b0", "b"), ["b1"]), (("b1", "eps"), ["b0"]),
                (("a1", "eps"), ["b0"])],
      q0 := "a0", F := ["b1"], eps := "eps" } := by decide +kernel

theorem nfa_repetition_spec (N1 : NFA σ τ) (q0 : σ) (h1 : N1.valid = true)
    (hk1 : (N1.delta.map (·.1)).Nodup) (hq : q0 ∉ N1.Q) :
    ∃ N, N1.repetition q0 = .ok N ∧ N.valid = true ∧ N.eps = N1.eps ∧ (∀ a, a ∈ N.Sigma ↔ a ∈ N1.Sigma) ∧
      ∀ w, N.Accepts w ↔ ∃ ws : List (List τ), w = ws.flatten ∧ ∀ u, u ∈ ws → N1.Accepts u :=
  ⟨N1.repetitionRaw q0, NFA.repetition_ok N1 q0 h1, NFA.repetitionRaw_valid N1 q0 h1,
    rfl, fun _ => Iff.rfl, NFA.repetitionRaw_lang N1 q0 h1 hk1 hq⟩

theorem nfa_repetition_keys_nodup (N1 : NFA σ τ) (q0 : σ) (N : NFA σ τ) (h : N1.repetition q0 = .ok N) :
    (N.delta.map (·.1)).Nodup := by
  obtain ⟨-, rfl⟩ := NFA.checked_eq_ok_iff.mp h
  exact NFA.repetitionRaw_keys_nodup N1 q0

example : exB.valid = true ∧ (exB.delta.map (·.1)).Nodup ∧ "s" ∉ exB.Q := by decide +kernel

example : exB.repetition "s" = .ok
    { Q := ["b0", "b1", "s"], Sigma := ["b"],
      delta := [(("b0", "b"), ["b1"]), (("b1", "eps"), ["b0"]), (("s", "eps"), ["b0"])],
      q0 := "s", F := ["b1", "s"], eps := "eps" } := by decide +kernel

example : exA.repetition "s" = .ok
    { Q := ["a0", "a1", "s"], Sigma := ["a"],
      delta := [(("a0", "a"), ["a1"]), (("a1", "eps"), ["a0"]), (("s", "eps"), ["a0"])],
      q0 := "s", F := ["a1", "s"], eps := "eps" } := by decide +kernel

/-- the state name drawn by the (repaired) generator is never an operand state, whatever the counter
    (= number of earlier calls) -/
theorem genFresh_fresh (Q : List String) (i : Nat) : (genFresh Q i).1 ∉ Q := by
  rw [genFresh, genFreshAux_fst]
  exact freshStateAux_not_mem Q "q" (Nat.le_succ _) i

theorem genFresh_counter (Q : List String) (i : Nat) : i < (genFresh Q i).2 :=
  genFreshAux_snd Q _ i

example : genFresh ["q0", "q1", "q3", "p"] 0 = ("q2", 3) := by decide +kernel
example : genFresh ["q0", "q1", "q3", "p"] 3 = ("q4", 5) := by decide +kernel

/-- history independence: the language of the result does not depend on the generator state -/
theorem nfa_union_history_indep (N1 N2 : NFA String String) (i j : Nat) (h1 : N1.valid = true)
    (h2 : N2.valid = true)
    (hk1 : (N1.delta.map (·.1)).Nodup) (hk2 : (N2.delta.map (·.1)).Nodup)
    (hd : ∀ q, q ∈ N1.Q → q ∉ N2.Q) (he : N2.eps = N1.eps) :
    ∃ A B, N1.union N2 (genFresh (sunion N1.Q N2.Q) i).1 = .ok A ∧
      N1.union N2 (genFresh (sunion N1.Q N2.Q) j).1 = .ok B ∧
      ∀ w, A.Accepts w ↔ B.Accepts w := by
  have hf : ∀ k, (genFresh (sunion N1.Q N2.Q) k).1 ∉ N1.Q ∧ (genFresh (sunion N1.Q N2.Q) k).1 ∉ N2.Q := by
    intro k
    have := genFresh_fresh (sunion N1.Q N2.Q) k
    rw [mem_sunion, not_or] at this
    exact this
  obtain ⟨A, hA, _, _, _, hLA⟩ := nfa_union_spec N1 N2 _ h1 h2 hk1 hk2 hd (hf i).1 (hf i).2 he
  obtain ⟨B, hB, _, _, _, hLB⟩ := nfa_union_spec N1 N2 _ h1 h2 hk1 hk2 hd (hf j).1 (hf j).2 he
  exact ⟨A, B, hA, hB, fun w => (hLA w).trans (hLB w).symm⟩

example : (genFresh (sunion exA.Q exB.Q) 0).1 = "q0" ∧ (genFresh (sunion exA.Q exB.Q) 7).1 = "q7" := by
  decide +kernel

/-! ### why the `Nodup` hypotheses: a δ with a repeated key -/

/-- `exDup` is "valid" and reads `a` from `s` to the final state `t` (first binding), but its union with
    the empty automaton reads `a` from `s` only to the non-final `u` (last binding survives the copy). -/
example : exDup.delta.lookup ("s", "a") = some ["t"] ∧
    (exDup.unionRaw exEmpty "n").delta.lookup ("s", "a") = some ["u"] ∧ ¬ (exDup.delta.map (·.1)).Nodup :=
  by decide +kernel

/-- the `Nodup` hypotheses are needed: all other hypotheses of `nfa_union_spec` hold, the language
    clause does not: `a ∈ L(exDup)` but `a ∉ L(exDup ∪ exEmpty)` -/
theorem nfa_union_spec_needs_nodup :
    ∃ (N1 N2 : NFA String String) (q0 : String), N1.valid = true ∧ N2.valid = true ∧
      (∀ q, q ∈ N1.Q → q ∉ N2.Q) ∧ q0 ∉ N1.Q ∧ q0 ∉ N2.Q ∧ N2.eps = N1.eps ∧
      ∃ N, N1.union N2 q0 = .ok N ∧ ¬ ∀ w, N.Accepts w ↔ (N1.Accepts w ∨ N2.Accepts w) :=
  ⟨exDup, exEmpty, "n", exDup_union_counterexample⟩

/-! ### the language clauses at work on the concrete operands -/

example : ∃ N, exA.concat exB = .ok N ∧ N.Accepts ["a", "b", "b"] := by
  obtain ⟨N, hN, _, _, _, hL⟩ := nfa_concat_spec exA exB (by decide +kernel) (by decide +kernel) (by decide +kernel) (by decide +kernel)
    (sdisjoint_iff.mp (by decide +kernel)) rfl
  exact ⟨N, hN, (hL _).mpr ⟨["a"], ["b", "b"], rfl, exA_accepts, exB_accepts⟩⟩

example : ∃ N, exA.repetition "s" = .ok N ∧ N.Accepts [] ∧ N.Accepts ["a", "a", "a"] := by
  obtain ⟨N, hN, _, _, _, hL⟩ := nfa_repetition_spec exA "s" (by decide +kernel) (by decide +kernel) (by decide +kernel)
  refine ⟨N, hN, (hL _).mpr ⟨[], rfl, fun u hu => by cases hu⟩, (hL _).mpr ⟨[["a"], ["a"], ["a"]], rfl, ?_⟩⟩
  intro u hu
  simp only [List.mem_cons, List.not_mem_nil, or_false, or_self] at hu
  subst hu
  exact exA_accepts

#print axioms nfa_union_spec
#print axioms nfa_union_keys_nodup
#print axioms nfa_concat_spec
#print axioms nfa_concat_keys_nodup
#print axioms nfa_repetition_spec
#print axioms nfa_repetition_keys_nodup
#print axioms genFresh_fresh
#print axioms genFresh_counter
#print axioms nfa_union_history_indep
#print axioms nfa_union_spec_needs_nodup

end Gamba
