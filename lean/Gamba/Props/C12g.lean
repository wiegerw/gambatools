/-
  Gamba.Props.C12g — property C12, second sentence: "whenever a counterexample word is reported it is a genuine word on
  which answer and reference differ, with the right polarity, and the language-comparison feedback reports one of minimal
  length."  `Gamba.Model.CheckCex` gives, for every text-level checker, the reported word and its polarity
  (`true` = "should not be accepted", `false` = "should be accepted").  Here: the report does not depend on the iteration
  order of Python's sets (polarity and length), it is genuine for the SEMANTIC languages of the parsed objects (same
  acceptance predicates as the `*_text_sound` theorems of C12c–C12f), minimal among the differing words, and absent when
  the verdict is `OK`.
-/
import Gamba.Props.C12h
namespace Gamba
open Parse C12ex

/-- Python's sets iterate in an arbitrary order: polarity and LENGTH of the reported word do not depend on it -/
theorem compare_order_independent {τ : Type} [DecidableEq τ] (A1 A1' A2 A2' : List (List τ))
    (e1 : ∀ w, w ∈ A1' ↔ w ∈ A1) (e2 : ∀ w, w ∈ A2' ↔ w ∈ A2) (w : List τ) (b : Bool)
    (h : compareLanguages A1 A2 = some (w, b)) :
    ∃ w', compareLanguages A1' A2' = some (w', b) ∧ w'.length = w.length :=
  C12g.compare_order_independent e1 e2 h

-- the same two sets listed in other orders (and with a repetition): another word, same polarity, same length
example : compareLanguages [[1], [3, 3, 3], [4], [5]] [[1], [2]] = some ([4], true) ∧
    compareLanguages [[5], [3, 3, 3], [1], [4], [1]] [[2], [1]] = some ([5], true) := by decide +kernel
example : (∀ w, w ∈ [[5], [3, 3, 3], [1], [4], [1]] ↔ w ∈ [[1], [3, 3, 3], [4], [5]]) ∧
    (∀ w, w ∈ [[2], [1]] ↔ w ∈ [[1], [2]]) := by
  refine ⟨fun w => ?_, fun w => ?_⟩ <;> simp only [List.mem_cons, List.not_mem_nil, or_false] <;> grind

/-- … nor does the absence of a report -/
theorem compare_order_independent_none {τ : Type} [DecidableEq τ] (A1 A1' A2 A2' : List (List τ))
    (e1 : ∀ w, w ∈ A1' ↔ w ∈ A1) (e2 : ∀ w, w ∈ A2' ↔ w ∈ A2) (h : compareLanguages A1 A2 = none) :
    compareLanguages A1' A2' = none := by
  rw [compare_none_iff] at h ⊢
  intro w
  rw [e1 w, e2 w]
  exact h w

example : compareLanguages [[1], [1, 2], [1]] [[1, 2], [1]] = none ∧
    compareLanguages [[1, 2], [1]] [[1], [1], [1, 2]] = none := by decide +kernel

/-- `check_dfa_language_from_file`: the reported word is at most `len` long, accepted by exactly one of the two parsed
    DFAs (answer only: "should not be accepted"; reference only: "should be accepted"), of minimal length among such
    words, and "should be accepted" is only reported when the answer accepts no word outside the reference language -/
theorem dfa_language_file_cex_genuine (answer refText : String) (len : Nat) (w : List String) (b : Bool)
    (h : CheckCex.report (CheckCex.dfaLanguageFileLangs answer refText len) = some (w, b)) :
    ∃ A D, Parse.parseDfa answer.toList = .ok A ∧ Parse.parseDfa refText.toList = .ok D ∧
      A.valid = true ∧ D.valid = true ∧ w.length ≤ len ∧
      (b = true → A.Accepts w ∧ ¬ D.Accepts w ∧
        ∀ v, v.length ≤ len → A.Accepts v → ¬ D.Accepts v → w.length ≤ v.length) ∧
      (b = false → D.Accepts w ∧ ¬ A.Accepts w ∧
        (∀ v, v.length ≤ len → D.Accepts v → ¬ A.Accepts v → w.length ≤ v.length) ∧
        ∀ v, v.length ≤ len → A.Accepts v → D.Accepts v) := by
  obtain ⟨A1, A2, hP, hc⟩ := C12g.report_some h
  obtain ⟨n1, n2, hL1, hL2⟩ := C12h.languageFileLangs_some (languageFileLangs_dfa_dfa_eq answer refText {} len ▸ hP)
  obtain ⟨A, h1, _, rfl⟩ := C12h.langOfText_dfa_some hL1
  obtain ⟨D, h2, _, rfl⟩ := C12h.langOfText_dfa_some hL2
  have vA := (parsedDfa_of h1).valid
  have vD := (parsedDfa_of h2).valid
  exact ⟨A, D, h1, h2, vA, vD, Enum.genuine (DFA.enum vA len) (DFA.enum vD len) hc⟩

-- test vectors: their proof shape is explained in the header of Proofs/C12ex.lean
-- reference: words ending in `a`.  Answer "words containing an `a`": `ab` is accepted by the answer only
example : CheckCex.report (CheckCex.dfaLanguageFileLangs "initial p\nfinal q\np q a\np p b\nq q a b"
    "initial p\nfinal q\np q a\np p b\nq q a\nq p b" 3) = some (["a", "b"], true) := by
  rw [CheckCex.dfaLanguageFileLangs, hasA_parse, endsA_parse]; decide +kernel
-- answer "words ending in `aa`": nothing extra, the shortest missing word is `a`
example : CheckCex.report (CheckCex.dfaLanguageFileLangs
    "initial p\nfinal r\np q a\np p b\nq r a\nq p b\nr r a\nr p b"
    "initial p\nfinal q\np q a\np p b\nq q a\nq p b" 3) = some (["a"], false) := by
  rw [CheckCex.dfaLanguageFileLangs, endsA_parse]; decide +kernel

/-- `check_dfa2regexp`: answer = the parsed expression, reference = the parsed DFA -/
theorem dfa2regexp_cex_genuine (dfa answer : String) (len : Nat) (w : List String) (b : Bool)
    (h : CheckCex.report (CheckCex.dfa2regexpLangs dfa answer len) = some (w, b)) :
    ∃ D r, Parse.parseDfa dfa.toList = .ok D ∧ RegexpText.parseSimple answer = some r ∧ D.valid = true ∧
      w.length ≤ len ∧
      (b = true → r.Lang w ∧ ¬ D.Accepts w ∧
        ∀ v, v.length ≤ len → r.Lang v → ¬ D.Accepts v → w.length ≤ v.length) ∧
      (b = false → D.Accepts w ∧ ¬ r.Lang w ∧
        (∀ v, v.length ≤ len → D.Accepts v → ¬ r.Lang v → w.length ≤ v.length) ∧
        ∀ v, v.length ≤ len → r.Lang v → D.Accepts v) := by
  obtain ⟨A1, A2, hP, hc⟩ := C12g.report_some h
  obtain ⟨D, r, h1, h2, rfl, rfl⟩ := C12g.dfa2regexpLangs_some hP
  have vD := (parsedDfa_of h1).valid
  exact ⟨D, r, h1, h2, vD, Enum.genuine (r.enum len) (DFA.enum vD len) hc⟩

-- words ending in `a`; `(a+b)*` also matches ε; `(a+b)*a+c` matches `c`, a word the DFA cannot read; `a` misses `aa`
example : CheckCex.report (CheckCex.dfa2regexpLangs "initial p\nfinal q\np q a\np p b\nq q a\nq p b" "(a+b)*" 2)
    = some ([], true) := by
  rw [CheckCex.dfa2regexpLangs, endsA_parse]; decide +kernel
example : CheckCex.report (CheckCex.dfa2regexpLangs "initial p\nfinal q\np q a\np p b\nq q a\nq p b" "(a+b)*a+c" 2)
    = some (["c"], true) := by
  rw [CheckCex.dfa2regexpLangs, endsA_parse]; decide +kernel
example : CheckCex.report (CheckCex.dfa2regexpLangs "initial p\nfinal q\np q a\np p b\nq q a\nq p b" "a" 2)
    = some (["a", "a"], false) := by
  rw [CheckCex.dfa2regexpLangs, endsA_parse]; decide +kernel

/-- `cfg_check_chomsky`: answer = the second grammar text, reference = the first.  Unconditionally the reported word is
    in exactly one of the two ENUMERATIONS `cfg_words_up_to_n`; the passage to the languages needs for each grammar that it
    is in Chomsky normal form or that no terminal is a variable name (as in `chomsky_text_lang`, `cfgLanguageWords_text_sound`) -/
theorem chomsky_cex_genuine (cfg answer : String) (len : Nat) (w : List String) (b : Bool)
    (h : CheckCex.report (CheckCex.chomskyLangs cfg answer len) = some (w, b)) :
    ∃ G eps G1 eps1, CfgText.parseSimpleCfg cfg.toList = .ok (G, eps) ∧
      CfgText.parseSimpleCfg answer.toList = .ok (G1, eps1) ∧ G.valid = true ∧ G1.valid = true ∧
      (b = true → w ∈ G1.wordsUpTo len ∧ w ∉ G.wordsUpTo len) ∧
      (b = false → w ∈ G.wordsUpTo len ∧ w ∉ G1.wordsUpTo len) ∧
      ((G.isChomsky = true ∨ ∀ a, a ∈ G.Sigma → a ∉ G.V ∧ a ≠ CFG.freshVariable G.V "S") →
       (G1.isChomsky = true ∨ ∀ a, a ∈ G1.Sigma → a ∉ G1.V ∧ a ≠ CFG.freshVariable G1.V "S") →
        w.length ≤ len ∧
        (b = true → G1.Lang w ∧ ¬ G.Lang w ∧
          ∀ v, v.length ≤ len → G1.Lang v → ¬ G.Lang v → w.length ≤ v.length) ∧
        (b = false → G.Lang w ∧ ¬ G1.Lang w ∧
          (∀ v, v.length ≤ len → G.Lang v → ¬ G1.Lang v → w.length ≤ v.length) ∧
          ∀ v, v.length ≤ len → G1.Lang v → G.Lang v)) := by
  obtain ⟨A1, A2, hP, hc⟩ := C12g.report_some h
  obtain ⟨G, eps, G1, eps1, h1, h2, rfl, rfl⟩ := C12g.chomskyLangs_some hP
  obtain ⟨v, sv, _⟩ := parseSimpleCfg_ok_valid _ G eps h1
  obtain ⟨v1, sv1, _⟩ := parseSimpleCfg_ok_valid _ G1 eps1 h2
  have hg := C12h.genuine_lists hc
  exact ⟨G, eps, G1, eps1, h1, h2, v, v1, fun hb => ⟨(hg.1 hb).1, (hg.1 hb).2.1⟩, fun hb => ⟨(hg.2 hb).1, (hg.2 hb).2.1⟩,
    fun hs hs1 => Enum.genuine (cfg_words_exact_side v1 sv1 hs1 len) (cfg_words_exact_side v sv hs len) hc⟩

-- S → AB | a, A → a, B → b (language {ab, a}); the answer drops `S → a` / adds `S → b`
example : CheckCex.report (CheckCex.chomskyLangs "S -> AB | a\nA -> a\nB -> b" "S -> XB\nX -> a\nB -> b" 3)
    = some (["a"], false) := by
  rw [CheckCex.chomskyLangs, exG_parse]; decide +kernel
example : CheckCex.report (CheckCex.chomskyLangs "S -> AB | a\nA -> a\nB -> b" "S -> XB | a | b\nX -> a\nB -> b" 3)
    = some (["b"], true) := by
  rw [CheckCex.chomskyLangs, exG_parse]; decide +kernel

/-- `check_nfa_language_from_file`, for every pop order `s` of the ε-closure worklists -/
theorem nfa_language_file_cex_genuine (answer refText : String) (s : Sched) (len : Nat) (w : List String) (b : Bool)
    (h : CheckCex.report (CheckCex.nfaLanguageFileLangs answer refText s len) = some (w, b)) :
    ∃ A N, Parse.parseNfa answer.toList = .ok A ∧ Parse.parseNfa refText.toList = .ok N ∧
      A.valid = true ∧ N.valid = true ∧ w.length ≤ len ∧
      (b = true → A.Accepts w ∧ ¬ N.Accepts w ∧
        ∀ v, v.length ≤ len → A.Accepts v → ¬ N.Accepts v → w.length ≤ v.length) ∧
      (b = false → N.Accepts w ∧ ¬ A.Accepts w ∧
        (∀ v, v.length ≤ len → N.Accepts v → ¬ A.Accepts v → w.length ≤ v.length) ∧
        ∀ v, v.length ≤ len → A.Accepts v → N.Accepts v) := by
  obtain ⟨A1, A2, hP, hc⟩ := C12g.report_some h
  obtain ⟨n1, n2, hL1, hL2⟩ :=
    C12h.languageFileLangs_some (languageFileLangs_nfa_nfa_eq answer refText { sched := s } len ▸ hP)
  obtain ⟨A, h1, _, h3⟩ := C12h.langOfText_nfa_some hL1
  obtain ⟨N, h2, _, h4⟩ := C12h.langOfText_nfa_some hL2
  have vA := (parsedNfa_of h1).valid
  have vN := (parsedNfa_of h2).valid
  exact ⟨A, N, h1, h2, vA, vN, Enum.genuine (NFA.enum vA h3) (NFA.enum vN h4) hc⟩

-- reference {ε, x}; the answer accepts `x` only / accepts `xx` as well
example : CheckCex.report (CheckCex.nfaLanguageFileLangs "initial s\nfinal t\ns t x" "initial A\nfinal B\nA B x ε" [] 3)
    = some ([], false) := by
  rw [CheckCex.nfaLanguageFileLangs, exN_parse]; decide +kernel
example : CheckCex.report (CheckCex.nfaLanguageFileLangs "initial s\nfinal s t u\ns t x\nt u x"
    "initial A\nfinal B\nA B x ε" [3, 1, 2] 3) = some (["x", "x"], true) := by
  rw [CheckCex.nfaLanguageFileLangs, exN_parse]; decide +kernel

/-- `check_dfa_reverse`: the answer is an NFA, the expected language the mirror image of the DFA's language -/
theorem reverse_cex_genuine (dfa answer : String) (s : Sched) (len : Nat) (w : List String) (b : Bool)
    (h : CheckCex.report (CheckCex.reverseLangs dfa answer s len) = some (w, b)) :
    ∃ D A, Parse.parseDfa dfa.toList = .ok D ∧ Parse.parseNfa answer.toList = .ok A ∧
      D.valid = true ∧ A.valid = true ∧ w.length ≤ len ∧
      (b = true → A.Accepts w ∧ ¬ D.Accepts w.reverse ∧
        ∀ v, v.length ≤ len → A.Accepts v → ¬ D.Accepts v.reverse → w.length ≤ v.length) ∧
      (b = false → D.Accepts w.reverse ∧ ¬ A.Accepts w ∧
        (∀ v, v.length ≤ len → D.Accepts v.reverse → ¬ A.Accepts v → w.length ≤ v.length) ∧
        ∀ v, v.length ≤ len → A.Accepts v → D.Accepts v.reverse) := by
  obtain ⟨A1, A2, hP, hc⟩ := C12g.report_some h
  obtain ⟨D, A, h1, h2, h3, rfl⟩ := C12g.reverseLangs_some hP
  have vD := (parsedDfa_of h1).valid
  have vA := (parsedNfa_of h2).valid
  exact ⟨D, A, h1, h2, vD, vA,
    Enum.genuine (P2 := fun w => D.Accepts w.reverse) (NFA.enum vA h3)
      (DFA.enum_reverse vD len) hc⟩

-- `D`: `p -a-> q`, `p -b-> p`, `q` absorbing and final: the words containing an `a`
-- the reversed loop `p -b-> p` is missing in the answer: `ab` (mirror image `ba` is accepted by `D`) should be accepted
example : CheckCex.report (CheckCex.reverseLangs "initial p\nfinal q\np q a\np p b\nq q a b"
    "initial s\nfinal p\ns q ε\nq p a\nq q a b" [] 3) = some (["a", "b"], false) := by
  rw [CheckCex.reverseLangs, hasA_parse, revAnsNoLoop_parse]; decide +kernel
-- the answer also accepts in `q`, which it reaches by `s -ε-> q`: ε (not accepted by `D`) should not be accepted
example : CheckCex.report (CheckCex.reverseLangs "initial p\nfinal q\np q a\np p b\nq q a b"
    "initial s\nfinal p q\ns q ε\nq p a\np p b\nq q a b" [] 3) = some ([], true) := by
  rw [CheckCex.reverseLangs, hasA_parse, revAnsQ_parse]; decide +kernel

/-- `check_dfa_minimal`: the code compares with the quotient automaton, which has the language of the given DFA (C04b):
    the statement is about the given DFA itself -/
theorem minimal_cex_genuine (dfa answer : String) (len : Nat) (w : List String) (b : Bool)
    (h : CheckCex.report (CheckCex.minimalLangs dfa answer len) = some (w, b)) :
    ∃ D A, Parse.parseDfa dfa.toList = .ok D ∧ Parse.parseDfa answer.toList CheckText.wordOrSetStateOk = .ok A ∧
      D.valid = true ∧ A.valid = true ∧ w.length ≤ len ∧
      (b = true → A.Accepts w ∧ ¬ D.Accepts w ∧
        ∀ v, v.length ≤ len → A.Accepts v → ¬ D.Accepts v → w.length ≤ v.length) ∧
      (b = false → D.Accepts w ∧ ¬ A.Accepts w ∧
        (∀ v, v.length ≤ len → D.Accepts v → ¬ A.Accepts v → w.length ≤ v.length) ∧
        ∀ v, v.length ≤ len → A.Accepts v → D.Accepts v) := by
  obtain ⟨A1, A2, hP, hc⟩ := C12g.report_some h
  obtain ⟨D, A, M, h1, h2, h3, rfl, rfl⟩ := C12g.minimalLangs_some hP
  have pD := parsedDfa_of h1
  have vA := (parsedDfa_of h2).valid
  obtain ⟨vM, hML⟩ := C12a.quotient_lang pD.valid pD.nodupQ h3
  exact ⟨D, A, h1, h2, pD.valid, vA, (DFA.enum vA len).genuine ((DFA.enum vM len).congr hML) hc⟩

-- the 4-state DFA of C04b (accepts after two steps through `1`/`2` into the absorbing `3`); an answer that merges too
-- much (`{1,2}` accepting): `a` should not be accepted
example : CheckCex.report (CheckCex.minimalLangs "initial 0\nfinal 3\n0 1 a\n0 2 b\n1 3 a\n1 0 b\n2 3 a\n2 0 b\n3 3 a b"
    "initial {0}\nfinal {3} {1,2}\n{0} {1,2} a b\n{1,2} {3} a\n{1,2} {0} b\n{3} {3} a b" 3) = some (["a"], true) := by
  rw [CheckCex.minimalLangs, fourStates_parse, minAns12_parse]; decide +kernel
-- an answer with no accepting state: the shortest accepted word of the DFA has length 2
example : CheckCex.report (CheckCex.minimalLangs "initial 0\nfinal 3\n0 1 a\n0 2 b\n1 3 a\n1 0 b\n2 3 a\n2 0 b\n3 3 a b"
    "initial {0}\n{0} {1,2} a b\n{1,2} {3} a\n{1,2} {0} b\n{3} {3} a b" 3) = some (["a", "a"], false) := by
  rw [CheckCex.minimalLangs, fourStates_parse, minAns0_parse]; decide +kernel

open Classical in
/-- `check_dfa_union / _intersection / _symmetric_difference`: the expected language is the union / intersection /
    symmetric difference (`t.accept`) of the languages of the two given DFAs -/
theorem product_cex_genuine (t : ProductType) (answer dfa1 dfa2 : String) (len : Nat) (w : List String) (b : Bool)
    (h : CheckCex.report (CheckCex.productLangs t answer dfa1 dfa2 len) = some (w, b)) :
    ∃ D1 D2 A, Parse.parseDfa dfa1.toList = .ok D1 ∧ Parse.parseDfa dfa2.toList = .ok D2 ∧
      Parse.parseDfa answer.toList CheckText.productStateOk = .ok A ∧
      D1.valid = true ∧ D2.valid = true ∧ A.valid = true ∧ (∀ a, a ∈ D1.Sigma ↔ a ∈ D2.Sigma) ∧ w.length ≤ len ∧
      (b = true → A.Accepts w ∧ ¬ t.accept (decide (D1.Accepts w)) (decide (D2.Accepts w)) = true ∧
        ∀ v, v.length ≤ len → A.Accepts v → ¬ t.accept (decide (D1.Accepts v)) (decide (D2.Accepts v)) = true →
          w.length ≤ v.length) ∧
      (b = false → t.accept (decide (D1.Accepts w)) (decide (D2.Accepts w)) = true ∧ ¬ A.Accepts w ∧
        (∀ v, v.length ≤ len → t.accept (decide (D1.Accepts v)) (decide (D2.Accepts v)) = true → ¬ A.Accepts v →
          w.length ≤ v.length) ∧
        ∀ v, v.length ≤ len → A.Accepts v → t.accept (decide (D1.Accepts v)) (decide (D2.Accepts v)) = true) := by
  obtain ⟨A1, A2, hP, hc⟩ := C12g.report_some h
  obtain ⟨D1, D2, A, h1, h2, h3, hS, rfl, rfl⟩ := C12g.productLangs_some hP
  have v1 := (parsedDfa_of h1).valid
  have v2 := (parsedDfa_of h2).valid
  have vA := (parsedDfa_of h3).valid
  exact ⟨D1, D2, A, h1, h2, h3, v1, v2, vA, hS,
    Enum.genuine
      (P2 := fun w => t.accept (decide (D1.Accepts w)) (decide (D2.Accepts w)) = true)
      (DFA.enum vA len) ((DFA.enum v1 len).product (DFA.enum v2 len) t) hc⟩

/-- … spelled out for the union: a "should not be accepted" word is accepted by the answer and by neither given DFA, a
    "should be accepted" word by one of the two given DFAs and not by the answer -/
theorem product_cex_genuine_union (answer dfa1 dfa2 : String) (len : Nat) (w : List String) (b : Bool)
    (h : CheckCex.report (CheckCex.productLangs .union answer dfa1 dfa2 len) = some (w, b)) :
    ∃ D1 D2 A, Parse.parseDfa dfa1.toList = .ok D1 ∧ Parse.parseDfa dfa2.toList = .ok D2 ∧
      Parse.parseDfa answer.toList CheckText.productStateOk = .ok A ∧ w.length ≤ len ∧
      (b = true → A.Accepts w ∧ ¬ D1.Accepts w ∧ ¬ D2.Accepts w) ∧
      (b = false → (D1.Accepts w ∨ D2.Accepts w) ∧ ¬ A.Accepts w) := by
  obtain ⟨D1, D2, A, h1, h2, h3, _, _, _, _, hl, ht, hf⟩ := product_cex_genuine .union answer dfa1 dfa2 len w b h
  refine ⟨D1, D2, A, h1, h2, h3, hl, fun hb => ?_, fun hb => ?_⟩
  · obtain ⟨a1, a2, _⟩ := ht hb
    simp only [ProductType.accept, Bool.or_eq_true, decide_eq_true_eq, not_or] at a2
    exact ⟨a1, a2.1, a2.2⟩
  · obtain ⟨a1, a2, _⟩ := hf hb
    simp only [ProductType.accept, Bool.or_eq_true, decide_eq_true_eq] at a1
    exact ⟨a1, a2⟩

-- `D1`: words ending in `a`; `D2`: words of even length.  The intersection automaton handed in for the union exercise:
-- ε (even length) should be accepted
example : CheckCex.report (CheckCex.productLangs .union
    "initial (p,e)\nfinal (q,e)\n(p,e) (q,o) a\n(p,e) (p,o) b\n(p,o) (q,e) a\n(p,o) (p,e) b\n(q,e) (q,o) a\n(q,e) (p,o) b\n(q,o) (q,e) a\n(q,o) (p,e) b"
    "initial p\nfinal q\np q a\np p b\nq q a\nq p b" "initial e\nfinal e\ne o a b\no e a b" 3) = some ([], false) := by
  rw [CheckCex.productLangs, endsA_parse, evenLen_parse, interAns_parse]; decide +kernel
-- every state accepting: `b` (odd length, does not end in `a`) should not be accepted
example : CheckCex.report (CheckCex.productLangs .union
    "initial (p,e)\nfinal (q,o) (q,e) (p,e) (p,o)\n(p,e) (q,o) a\n(p,e) (p,o) b\n(p,o) (q,e) a\n(p,o) (p,e) b\n(q,e) (q,o) a\n(q,e) (p,o) b\n(q,o) (q,e) a\n(q,o) (p,e) b"
    "initial p\nfinal q\np q a\np p b\nq q a\nq p b" "initial e\nfinal e\ne o a b\no e a b" 3) = some (["b"], true) := by
  rw [CheckCex.productLangs, endsA_parse, evenLen_parse, allAns_parse]; decide +kernel
-- the union automaton handed in for the intersection exercise: ε should not be accepted
example : CheckCex.report (CheckCex.productLangs .intersection
    "initial (p,e)\nfinal (q,o) (q,e) (p,e)\n(p,e) (q,o) a\n(p,e) (p,o) b\n(p,o) (q,e) a\n(p,o) (p,e) b\n(q,e) (q,o) a\n(q,e) (p,o) b\n(q,o) (q,e) a\n(q,o) (p,e) b"
    "initial p\nfinal q\np q a\np p b\nq q a\nq p b" "initial e\nfinal e\ne o a b\no e a b" 3) = some ([], true) := by
  rw [CheckCex.productLangs, unionAns_parse, endsA_parse, evenLen_parse]; decide +kernel

/-! The checkers whose expected language is a word list.
    The list may contain words longer than `len` (or over a foreign alphabet); the enumeration of the answer never does.  A
    listed word is "missing" when it is longer than `len` OR not accepted: this is the difference of the two sets the code
    computes (a listed word longer than the bound is reported as "should be accepted" even if the answer accepts it). -/

/-- `check_dfa_language_from_words` -/
theorem dfa_language_words_cex_genuine (answer wordList : String) (len : Nat) (w : List String) (b : Bool)
    (h : CheckCex.report (CheckCex.dfaLanguageWordsLangs answer wordList len) = some (w, b)) :
    ∃ A, Parse.parseDfa answer.toList = .ok A ∧ A.valid = true ∧
      (b = true → w.length ≤ len ∧ A.Accepts w ∧ w ∉ CheckText.parseWordList wordList ∧
        ∀ v, v.length ≤ len → A.Accepts v → v ∉ CheckText.parseWordList wordList → w.length ≤ v.length) ∧
      (b = false → w ∈ CheckText.parseWordList wordList ∧ (len < w.length ∨ ¬ A.Accepts w) ∧
        (∀ v, v ∈ CheckText.parseWordList wordList → (len < v.length ∨ ¬ A.Accepts v) → w.length ≤ v.length) ∧
        ∀ v, v.length ≤ len → A.Accepts v → v ∈ CheckText.parseWordList wordList) := by
  obtain ⟨A1, A2, hP, hc⟩ := C12g.report_some h
  obtain ⟨nQ, hL, rfl⟩ := C12h.languageWordsLangs_some (languageWordsLangs_dfa_eq answer wordList {} len ▸ hP)
  obtain ⟨A, h1, _, rfl⟩ := C12h.langOfText_dfa_some hL
  have vA := (parsedDfa_of h1).valid
  exact ⟨A, h1, vA, Enum.genuine_list (DFA.enum vA len) hc⟩

-- words ending in `a`, bound 2: `ba` is accepted but not listed; `b` is listed but not accepted; the accepted word `aba`
-- is listed but longer than the bound
example : CheckCex.report (CheckCex.dfaLanguageWordsLangs "initial p\nfinal q\np q a\np p b\nq q a\nq p b" "a aa" 2)
    = some (["b", "a"], true) := by
  rw [CheckCex.dfaLanguageWordsLangs, endsA_parse]; decide +kernel
example : CheckCex.report (CheckCex.dfaLanguageWordsLangs "initial p\nfinal q\np q a\np p b\nq q a\nq p b" "a aa ba b" 2)
    = some (["b"], false) := by
  rw [CheckCex.dfaLanguageWordsLangs, endsA_parse]; decide +kernel
example : CheckCex.report (CheckCex.dfaLanguageWordsLangs "initial p\nfinal q\np q a\np p b\nq q a\nq p b" "a aa ba aba" 2)
    = some (["a", "b", "a"], false) := by
  rw [CheckCex.dfaLanguageWordsLangs, endsA_parse]; decide +kernel

/-- `check_nfa_language_from_words`, for every pop order -/
theorem nfa_language_words_cex_genuine (answer wordList : String) (s : Sched) (len : Nat) (w : List String) (b : Bool)
    (h : CheckCex.report (CheckCex.nfaLanguageWordsLangs answer wordList s len) = some (w, b)) :
    ∃ A, Parse.parseNfa answer.toList = .ok A ∧ A.valid = true ∧
      (b = true → w.length ≤ len ∧ A.Accepts w ∧ w ∉ CheckText.parseWordList wordList ∧
        ∀ v, v.length ≤ len → A.Accepts v → v ∉ CheckText.parseWordList wordList → w.length ≤ v.length) ∧
      (b = false → w ∈ CheckText.parseWordList wordList ∧ (len < w.length ∨ ¬ A.Accepts w) ∧
        (∀ v, v ∈ CheckText.parseWordList wordList → (len < v.length ∨ ¬ A.Accepts v) → w.length ≤ v.length) ∧
        ∀ v, v.length ≤ len → A.Accepts v → v ∈ CheckText.parseWordList wordList) := by
  obtain ⟨A1, A2, hP, hc⟩ := C12g.report_some h
  obtain ⟨nQ, hL, rfl⟩ :=
    C12h.languageWordsLangs_some (languageWordsLangs_nfa_eq answer wordList { sched := s } len ▸ hP)
  obtain ⟨A, h1, _, h2⟩ := C12h.langOfText_nfa_some hL
  have vA := (parsedNfa_of h1).valid
  exact ⟨A, h1, vA, Enum.genuine_list (NFA.enum vA h2) hc⟩

-- language {ε, x}: ε accepted but not listed / `xx` listed but not accepted
example : CheckCex.report (CheckCex.nfaLanguageWordsLangs "initial A\nfinal B\nA B x ε" "x" [] 3) = some ([], true) := by
  rw [CheckCex.nfaLanguageWordsLangs, exN_parse]; decide +kernel
example : CheckCex.report (CheckCex.nfaLanguageWordsLangs "initial A\nfinal B\nA B x ε" "x ε xx" [3, 1, 2] 3)
    = some (["x", "x"], false) := by
  rw [CheckCex.nfaLanguageWordsLangs, exN_parse]; decide +kernel

/-- `check_cfg_language_from_words`: unconditionally in terms of the enumeration `cfg_words_up_to_n`; in terms of the
    language when the parsed grammar is in Chomsky normal form or none of its terminals is a variable name -/
theorem cfg_language_words_cex_genuine (answer wordList : String) (len : Nat) (w : List String) (b : Bool)
    (h : CheckCex.report (CheckCex.cfgLanguageWordsLangs answer wordList len) = some (w, b)) :
    ∃ G e, CfgText.parseSimpleCfg answer.toList = .ok (G, e) ∧ G.valid = true ∧
      (b = true → w ∈ G.wordsUpTo len ∧ w ∉ CheckText.parseWordList wordList) ∧
      (b = false → w ∈ CheckText.parseWordList wordList ∧ w ∉ G.wordsUpTo len) ∧
      ((G.isChomsky = true ∨ ∀ a, a ∈ G.Sigma → a ∉ G.V ∧ a ≠ CFG.freshVariable G.V "S") →
        (b = true → w.length ≤ len ∧ G.Lang w ∧ w ∉ CheckText.parseWordList wordList ∧
          ∀ v, v.length ≤ len → G.Lang v → v ∉ CheckText.parseWordList wordList → w.length ≤ v.length) ∧
        (b = false → w ∈ CheckText.parseWordList wordList ∧ (len < w.length ∨ ¬ G.Lang w) ∧
          (∀ v, v ∈ CheckText.parseWordList wordList → (len < v.length ∨ ¬ G.Lang v) → w.length ≤ v.length) ∧
          ∀ v, v.length ≤ len → G.Lang v → v ∈ CheckText.parseWordList wordList)) := by
  obtain ⟨A1, A2, hP, hc⟩ := C12g.report_some h
  obtain ⟨nQ, hL, rfl⟩ := C12h.languageWordsLangs_some (languageWordsLangs_cfg_eq answer wordList {} len ▸ hP)
  obtain ⟨G, e, h1, _, rfl⟩ := C12h.langOfText_cfg_some hL
  obtain ⟨v, sv, _⟩ := parseSimpleCfg_ok_valid _ G e h1
  have hg := C12h.genuine_lists hc
  exact ⟨G, e, h1, v, fun hb => ⟨(hg.1 hb).1, (hg.1 hb).2.1⟩, fun hb => ⟨(hg.2 hb).1, (hg.2 hb).2.1⟩,
    fun hs => Enum.genuine_list (cfg_words_exact_side v sv hs len) hc⟩

-- `{aⁿbⁿ}`, bound 4: `aabb` generated but not listed / `ba` listed but not generated / `aaabbb` listed, too long
example : CheckCex.report (CheckCex.cfgLanguageWordsLangs "S -> aSb | ε" "ε ab" 4) = some (["a", "a", "b", "b"], true) := by
  rw [CheckCex.cfgLanguageWordsLangs, C12e.exAnBn_parse]; dsimp only; rw [C12e.exAnBn_words4]; decide +kernel
example : CheckCex.report (CheckCex.cfgLanguageWordsLangs "S -> aSb | ε" "ε ab aabb ba" 4) = some (["b", "a"], false) := by
  rw [CheckCex.cfgLanguageWordsLangs, C12e.exAnBn_parse]; dsimp only; rw [C12e.exAnBn_words4]; decide +kernel
example : CheckCex.report (CheckCex.cfgLanguageWordsLangs "S -> aSb | ε" "ε ab aabb aaabbb" 4)
    = some (["a", "a", "a", "b", "b", "b"], false) := by
  rw [CheckCex.cfgLanguageWordsLangs, C12e.exAnBn_parse]; dsimp only; rw [C12e.exAnBn_words4]; decide +kernel

/-- `check_dfa_accepts_rejects`: a "should be accepted" word is on the first list, over the alphabet and NOT accepted by the
    parsed DFA; a "should not be accepted" word is on the second list and accepted (and is only reported when every word
    of the first list is accepted) -/
theorem dfa_accepts_rejects_report_genuine (dfa accepted rejected : String) (w : List String) (b : Bool)
    (h : CheckCex.dfaAcceptsRejectsReport dfa accepted rejected = some (w, b)) :
    ∃ D, Parse.parseDfa dfa.toList = .ok D ∧ D.valid = true ∧
      (b = false → w ∈ CheckText.parseWordList accepted ∧ (∀ a, a ∈ w → a ∈ D.Sigma) ∧ ¬ D.Accepts w) ∧
      (b = true → w ∈ CheckText.parseWordList rejected ∧ D.Accepts w ∧
        ∀ v, v ∈ CheckText.parseWordList accepted → D.Accepts v) := by
  obtain ⟨D, h1, hr⟩ := C12g.dfaAcceptsRejectsReport_some h
  have vD := (parsedDfa_of h1).valid
  have hg := C12g.acceptsRejectsReport_some hr
  simp only [← DFA.Accepts_iff_accepts, DFA.accepts_false_iff vD] at hg
  exact ⟨D, h1, vD, hg⟩

-- words ending in `a`: `ab` on the first list is rejected / `ba` on the second list is accepted
example : CheckCex.dfaAcceptsRejectsReport "initial p\nfinal q\np q a\np p b\nq q a\nq p b" "a ab" "b"
    = some (["a", "b"], false) := by
  rw [CheckCex.dfaAcceptsRejectsReport, endsA_parse]; decide +kernel
example : CheckCex.dfaAcceptsRejectsReport "initial p\nfinal q\np q a\np p b\nq q a\nq p b" "a" "b ba"
    = some (["b", "a"], true) := by
  rw [CheckCex.dfaAcceptsRejectsReport, endsA_parse]; decide +kernel

/-- `check_cfg_accepts_rejects`: unconditionally in terms of the membership test `CFG.accepts`, in terms of the language
    under the side condition of `cfgAcceptsRejects_text_sound` (or for a grammar in Chomsky normal form) -/
theorem cfg_accepts_rejects_report_genuine (cfg accepted rejected : String) (w : List String) (b : Bool)
    (h : CheckCex.cfgAcceptsRejectsReport cfg accepted rejected = some (w, b)) :
    ∃ G e, CfgText.parseSimpleCfg cfg.toList = .ok (G, e) ∧ G.valid = true ∧
      (b = false → w ∈ CheckText.parseWordList accepted ∧ G.accepts w = .ok false) ∧
      (b = true → w ∈ CheckText.parseWordList rejected ∧ G.accepts w = .ok true) ∧
      ((G.isChomsky = true ∨ ∀ a, a ∈ G.Sigma → a ∉ G.V ∧ a ≠ CFG.freshVariable G.V "S") →
        (b = false → w ∈ CheckText.parseWordList accepted ∧ ¬ G.Lang w) ∧
        (b = true → w ∈ CheckText.parseWordList rejected ∧ G.Lang w ∧
          ∀ v, v ∈ CheckText.parseWordList accepted → G.Lang v)) := by
  obtain ⟨G, e, h1, hr⟩ := C12g.cfgAcceptsRejectsReport_some h
  obtain ⟨v, sv, _⟩ := parseSimpleCfg_ok_valid _ G e h1
  have hg := C12g.acceptsRejectsReport_some hr
  refine ⟨G, e, h1, v, hg.1, fun hb => ⟨(hg.2 hb).1, (hg.2 hb).2.1⟩, fun hs => ?_⟩
  simpa only [cfg_accepts_true_iff v sv hs, cfg_accepts_false_iff v sv hs] using hg

-- `{aⁿbⁿ}`: `aab` on the first list is not generated / `aabb` on the second list is generated
example : CheckCex.cfgAcceptsRejectsReport "S -> aSb | ε" "ab aab" "a" = some (["a", "a", "b"], false) := by
  rw [CheckCex.cfgAcceptsRejectsReport, C12e.exAnBn_parse]; decide +kernel
example : CheckCex.cfgAcceptsRejectsReport "S -> aSb | ε" "ab" "a aabb" = some (["a", "a", "b", "b"], true) := by
  rw [CheckCex.cfgAcceptsRejectsReport, C12e.exAnBn_parse]; decide +kernel

theorem product_ok_no_report (t : ProductType) (answer dfa1 dfa2 : String) (len : Nat)
    (h : CheckText.product t answer dfa1 dfa2 len = .ok) :
    CheckCex.report (CheckCex.productLangs t answer dfa1 dfa2 len) = none := by
  refine C12g.report_none_of fun A1 A2 hP => ?_
  obtain ⟨D1, D2, A, h1, h2, h3, _, rfl, rfl⟩ := C12g.productLangs_some hP
  obtain ⟨_, _, _, h1', h2', h3', hc⟩ := C12c.product_unpack h
  rw [h1] at h1'; rw [h2] at h2'; rw [h3] at h3'
  cases h1'; cases h2'; cases h3'
  exact (C12a.productCheck_iff.mp hc).2.2

example : CheckText.product .union
    "initial (p,e)\nfinal (q,o) (q,e) (p,e)\n(p,e) (q,o) a\n(p,e) (p,o) b\n(p,o) (q,e) a\n(p,o) (p,e) b\n(q,e) (q,o) a\n(q,e) (p,o) b\n(q,o) (q,e) a\n(q,o) (p,e) b"
    "initial p\nfinal q\np q a\np p b\nq q a\nq p b" "initial e\nfinal e\ne o a b\no e a b" 3 = .ok := by
  rw [CheckText.product, unionAns_parse, endsA_parse, evenLen_parse]; decide +kernel

theorem reverse_ok_no_report (dfa answer : String) (s : Sched) (len : Nat)
    (h : CheckText.reverse dfa answer s len = .ok) :
    CheckCex.report (CheckCex.reverseLangs dfa answer s len) = none := by
  refine C12g.report_none_of fun A1 A2 hP => ?_
  obtain ⟨D, A, h1, h2, h3, rfl⟩ := C12g.reverseLangs_some hP
  rw [CheckText.reverse, h1, h2] at h
  have vD := (parsedDfa_of h1).valid
  have vA := (parsedNfa_of h2).valid
  exact ((NFA.enum vA h3).same_iff (DFA.enum_reverse vD len)).mpr
    ((C12a.reverseCheck_iff vD vA).mp ((ofExcept_ok_iff _).mp h)).2.2.2.2.2

example : CheckText.reverse "initial p\nfinal q\np q a\np p b\nq q a b"
    "initial s\nfinal p\ns q ε\nq p a\np p b\nq q a b" [] 3 = .ok := by
  rw [CheckText.reverse, hasA_parse, revAns_parse]; decide +kernel

theorem minimal_ok_no_report (dfa answer : String) (len : Nat) (h : CheckText.minimal dfa answer len = .ok) :
    CheckCex.report (CheckCex.minimalLangs dfa answer len) = none := by
  refine C12g.report_none_of fun A1 A2 hP => ?_
  obtain ⟨D, A, M, h1, h2, h3, rfl, rfl⟩ := C12g.minimalLangs_some hP
  rw [CheckText.minimal, h1, h2] at h
  have pD := parsedDfa_of h1
  have vA := (parsedDfa_of h2).valid
  obtain ⟨vM, hML⟩ := C12a.quotient_lang pD.valid pD.nodupQ h3
  exact ((DFA.enum vA len).same_iff ((DFA.enum vM len).congr hML)).mpr
    ((C12a.minimalCheck_iff pD.valid pD.nodupQ vA).mp ((ofExcept_ok_iff _).mp h)).2.2

example : CheckText.minimal "initial 0\nfinal 3\n0 1 a\n0 2 b\n1 3 a\n1 0 b\n2 3 a\n2 0 b\n3 3 a b"
    "initial {0}\nfinal {3}\n{0} {1,2} a b\n{1,2} {3} a\n{1,2} {0} b\n{3} {3} a b" 4 = .ok := by
  rw [CheckText.minimal, fourStates_parse, minAns_parse]; decide +kernel

theorem dfa2regexp_ok_no_report (dfa answer : String) (len : Nat) (h : CheckText.dfa2regexp dfa answer len = .ok) :
    CheckCex.report (CheckCex.dfa2regexpLangs dfa answer len) = none := by
  refine C12g.report_none_of fun A1 A2 hP => ?_
  obtain ⟨D, r, h1, h2, rfl, rfl⟩ := C12g.dfa2regexpLangs_some hP
  rw [CheckText.dfa2regexp, h1, h2] at h
  exact chk_equalLanguages_sound _ _ ((ofBool_ok_iff _).mp h)

example : CheckText.dfa2regexp "initial p\nfinal q\np q a\np p b\nq q a\nq p b" "(a+b)*a" 2 = .ok := by
  rw [CheckText.dfa2regexp, endsA_parse]; decide +kernel

theorem chomsky_ok_no_report (cfg answer : String) (phase : Nat) (start : String) (len : Nat)
    (h : CheckText.chomsky cfg answer phase start len = .ok) :
    CheckCex.report (CheckCex.chomskyLangs cfg answer len) = none := by
  refine C12g.report_none_of fun A1 A2 hP => ?_
  obtain ⟨G, eps, G1, eps1, h1, h2, rfl, rfl⟩ := C12g.chomskyLangs_some hP
  rw [CheckText.chomsky, h1, h2] at h
  exact (chk_chomsky_sound G G1 phase start len ((ofBool_ok_iff _).mp h)).1

example : CheckText.chomsky "S -> AB | a\nA -> a\nB -> b" "S -> XB | a\nX -> a\nB -> b" 5 "S" 3 = .ok := by
  rw [CheckText.chomsky, exG_parse]; decide +kernel

theorem dfa_language_file_ok_no_report (answer refText : String) (len : Nat)
    (h : CheckText.dfaLanguageFile answer refText len = .ok) :
    CheckCex.report (CheckCex.dfaLanguageFileLangs answer refText len) = none :=
  languageFileLangs_dfa_dfa_eq answer refText {} len ▸
    languageFile_ok_no_report .dfa .dfa answer refText {} len (languageFile_dfa_dfa_eq .. ▸ h)

example : CheckText.dfaLanguageFile "initial p\nfinal q r\np q a\np p b\nq r a\nq p b\nr q a\nr p b"
    "initial p\nfinal q\np q a\np p b\nq q a\nq p b" 3 = .ok := by
  rw [CheckText.dfaLanguageFile, endsA3_parse, endsA_parse]; decide +kernel

theorem nfa_language_file_ok_no_report (answer refText : String) (s : Sched) (len : Nat)
    (h : CheckText.nfaLanguageFile answer refText s len = .ok) :
    CheckCex.report (CheckCex.nfaLanguageFileLangs answer refText s len) = none :=
  languageFileLangs_nfa_nfa_eq answer refText { sched := s } len ▸
    languageFile_ok_no_report .nfa .nfa answer refText { sched := s } len (languageFile_nfa_nfa_eq .. ▸ h)

example : CheckText.nfaLanguageFile "initial s\nfinal s t\ns t x" "initial A\nfinal B\nA B x ε" [3, 1, 2] 3 = .ok := by
  rw [CheckText.nfaLanguageFile, exN_parse]; decide +kernel

theorem dfa_language_words_ok_no_report (answer wordList : String) (len maxStates : Nat)
    (h : CheckText.dfaLanguageWords answer wordList len maxStates = .ok) :
    CheckCex.report (CheckCex.dfaLanguageWordsLangs answer wordList len) = none :=
  languageWordsLangs_dfa_eq answer wordList {} len ▸
    languageWords_ok_no_report .dfa answer wordList {} len maxStates (languageWords_dfa_eq .. ▸ h)

example : CheckText.dfaLanguageWords "initial p\nfinal q\np q a\np p b\nq q a\nq p b" "ba a  aa\na" 2 2 = .ok := by
  rw [CheckText.dfaLanguageWords, endsA_parse]; decide +kernel

theorem nfa_language_words_ok_no_report (answer wordList : String) (s : Sched) (len maxStates : Nat)
    (h : CheckText.nfaLanguageWords answer wordList s len maxStates = .ok) :
    CheckCex.report (CheckCex.nfaLanguageWordsLangs answer wordList s len) = none :=
  languageWordsLangs_nfa_eq answer wordList { sched := s } len ▸
    languageWords_ok_no_report .nfa answer wordList { sched := s } len maxStates (languageWords_nfa_eq .. ▸ h)

example : CheckText.nfaLanguageWords "initial A\nfinal B\nA B x ε" "x _" [3, 1, 2] 3 2 = .ok := by
  rw [CheckText.nfaLanguageWords, exN_parse]; decide +kernel

theorem cfg_language_words_ok_no_report (answer wordList : String) (len : Nat)
    (h : CheckText.cfgLanguageWords answer wordList len = .ok) :
    CheckCex.report (CheckCex.cfgLanguageWordsLangs answer wordList len) = none :=
  languageWordsLangs_cfg_eq answer wordList {} len ▸
    languageWords_ok_no_report .cfg answer wordList {} len 0 (languageWords_cfg_eq .. ▸ h)

example : CheckText.cfgLanguageWords "S -> aSb | ε" "ε ab aabb" 4 = .ok := by
  rw [CheckText.cfgLanguageWords, C12e.exAnBn_parse]; dsimp only; rw [C12e.exAnBn_words4]; decide +kernel

theorem dfa_accepts_rejects_ok_no_report (dfa accepted rejected : String)
    (h : CheckText.dfaAcceptsRejects dfa accepted rejected = .ok) :
    CheckCex.dfaAcceptsRejectsReport dfa accepted rejected = none := by
  obtain ⟨D, h1, hc⟩ := C12e.dfaAcceptsRejects_unpack (by decide) h
  unfold CheckCex.dfaAcceptsRejectsReport
  rw [h1]
  exact C12g.acceptsRejectsReport_none_of_ok hc

example : CheckText.dfaAcceptsRejects "initial p\nfinal q\np q a\np p b\nq q a\nq p b" "a ba aa" "ε b ab" = .ok := by
  rw [CheckText.dfaAcceptsRejects, endsA_parse]; decide +kernel

theorem cfg_accepts_rejects_ok_no_report (cfg accepted rejected : String)
    (h : CheckText.cfgAcceptsRejects cfg accepted rejected = .ok) :
    CheckCex.cfgAcceptsRejectsReport cfg accepted rejected = none := by
  obtain ⟨G, e, h1, hc⟩ := C12e.cfgAcceptsRejects_unpack (by decide) h
  unfold CheckCex.cfgAcceptsRejectsReport
  rw [h1]
  exact C12g.acceptsRejectsReport_none_of_ok hc

example : CheckText.cfgAcceptsRejects "S -> aSb | ε" "ε ab aabb" "a ba abb" = .ok := by
  rw [CheckText.cfgAcceptsRejects, C12e.exAnBn_parse]; decide +kernel

#print axioms compare_order_independent
#print axioms compare_order_independent_none
#print axioms dfa_language_file_cex_genuine
#print axioms dfa2regexp_cex_genuine
#print axioms chomsky_cex_genuine
#print axioms nfa_language_file_cex_genuine
#print axioms reverse_cex_genuine
#print axioms minimal_cex_genuine
#print axioms product_cex_genuine
#print axioms product_cex_genuine_union
#print axioms dfa_language_words_cex_genuine
#print axioms nfa_language_words_cex_genuine
#print axioms cfg_language_words_cex_genuine
#print axioms dfa_accepts_rejects_report_genuine
#print axioms cfg_accepts_rejects_report_genuine
#print axioms product_ok_no_report
#print axioms reverse_ok_no_report
#print axioms minimal_ok_no_report
#print axioms dfa2regexp_ok_no_report
#print axioms chomsky_ok_no_report
#print axioms dfa_language_file_ok_no_report
#print axioms nfa_language_file_ok_no_report
#print axioms dfa_language_words_ok_no_report
#print axioms nfa_language_words_ok_no_report
#print axioms cfg_language_words_ok_no_report
#print axioms dfa_accepts_rejects_ok_no_report
#print axioms cfg_accepts_rejects_ok_no_report

end Gamba
