/-
  Gamba.Props.C16e — the simple grammar text format (`cfg_print_simple` / `parse_simple_cfg`): printing a grammar the
  format can represent and parsing the text again gives the same grammar (C16, grammar clause).
-/
import Gamba.Proofs.C16e
import Gamba.Proofs.DecEq
namespace Gamba

open CfgText in
/-- C16 (grammars): `parse_simple_cfg (cfg_print_simple G)` succeeds and gives `G` back — the same variables, terminals
    and start variable, and the same rules as a set (the printer groups the alternatives by variable, in order of first
    appearance, so the ORDER of the rules changes; `CFG.__eq__` compares sorted rules too) — for every `Printable`
    grammar: valid, single upper-case variables, single lower-case ASCII terminals, every variable has a rule, the
    start variable heads the first rule, and Σ has no terminal that does not occur.  The ε symbol the parser reports
    is `ε` (some rule has an empty right-hand side) or the default `_`. -/
theorem parse_print_cfg (G : CFG) (h : CfgText.Printable G) :
    ∃ text G' eps, CfgText.printSimpleCfg G = .ok text ∧ CfgText.parseSimpleCfg text.toList = .ok (G', eps) ∧
      (∀ A, A ∈ G'.V ↔ A ∈ G.V) ∧ (∀ a, a ∈ G'.Sigma ↔ a ∈ G.Sigma) ∧ G'.S = G.S ∧
      (∀ A rhs, (∃ r, r ∈ G'.R ∧ r.lhs = A ∧ r.rhs = rhs) ↔ (∃ r, r ∈ G.R ∧ r.lhs = A ∧ r.rhs = rhs)) ∧
      (eps = "ε" ∨ eps = "_") := by
  obtain ⟨text, eps, hprint, heps, hparse⟩ := h.parse_print
  obtain ⟨sV, sS, sR, _⟩ := h.mkCfg_spec G.S fun p => ((grouped_perm G).map CFG.pair).mem_iff
  refine ⟨_, _, _, hprint, hparse, sV, sS, rfl, sR, ?_⟩
  rcases heps with e | e <;> rw [e]
  · exact Or.inl rfl
  · exact Or.inr rfl

/-- `S -> aSb | ε | T`, `T -> c`, with the alternatives of `S` interleaved with the rule of `T` -/
def C16e.exG : CFG :=
  { V := ["S", "T"], Sigma := ["a", "b", "c"],
    R := [⟨"S", 0, [.t "a", .v "S", .t "b"]⟩, ⟨"S", 1, []⟩, ⟨"T", 2, [.t "c"]⟩, ⟨"S", 3, [.v "T"]⟩], S := "S" }

/-- non-vacuity: the example grammar is printable … -/
theorem C16e.exG_printable : CfgText.Printable C16e.exG where
  simple := by rfl
  valid := by decide
  hasRules := by decide +kernel
  startFirst := ⟨_, _, rfl, rfl⟩
  sigmaUsed := by decide +kernel

example := parse_print_cfg C16e.exG C16e.exG_printable

/-- … it is printed with the alternatives grouped by variable … -/
example : CfgText.printSimpleCfg C16e.exG = .ok "S -> aSb | ε | T\nT -> c" := by decide +kernel

/-- … and parsed back with the rules in the printed order (not the original one) and ε reported as `ε` -/
example : CfgText.parseSimpleCfg "S -> aSb | ε | T\nT -> c".toList =
    .ok ({ V := ["S", "T"], Sigma := ["a", "b", "c"],
           R := [⟨"S", 0, [.t "a", .v "S", .t "b"]⟩, ⟨"S", 1, []⟩, ⟨"S", 2, [.v "T"]⟩, ⟨"T", 3, [.t "c"]⟩], S := "S" }, "ε") := by
  decide +kernel

/-- a grammar without an ε-rule: the parser reports the default ε symbol `_` -/
example : CfgText.parseSimpleCfg "S -> aS | a".toList =
    .ok ({ V := ["S"], Sigma := ["a"], R := [⟨"S", 0, [.t "a", .v "S"]⟩, ⟨"S", 1, [.t "a"]⟩], S := "S" }, "_") := by decide +kernel

/-- a grammar whose every right-hand side is empty is fine (`S -> ε`) -/
example : CfgText.parseSimpleCfg "S -> ε".toList = .ok ({ V := ["S"], Sigma := [], R := [⟨"S", 0, []⟩], S := "S" }, "ε") := by decide +kernel

/-! The hypotheses of `Printable` are needed (each `G` below is valid and simple): -/

/-- `sigmaUsed`: a terminal of Σ that occurs in no rule is lost -/
example : (CfgText.printSimpleCfg { V := ["S"], Sigma := ["a", "b"], R := [⟨"S", 0, [.t "a"]⟩], S := "S" } = .ok "S -> a") ∧
    CfgText.parseSimpleCfg "S -> a".toList = .ok ({ V := ["S"], Sigma := ["a"], R := [⟨"S", 0, [.t "a"]⟩], S := "S" }, "_") :=
  ⟨by decide +kernel, by decide +kernel⟩

/-- `startFirst`: the start variable becomes the variable of the first printed line -/
example : (CfgText.printSimpleCfg { V := ["S", "T"], Sigma := ["a"], R := [⟨"T", 0, [.t "a"]⟩, ⟨"S", 1, [.v "T"]⟩], S := "S" } =
      .ok "T -> a\nS -> T") ∧
    CfgText.parseSimpleCfg "T -> a\nS -> T".toList =
      .ok ({ V := ["T", "S"], Sigma := ["a"], R := [⟨"T", 0, [.t "a"]⟩, ⟨"S", 1, [.v "T"]⟩], S := "T" }, "_") :=
  ⟨by decide +kernel, by decide +kernel⟩

/-- `hasRules`: a variable without a rule that occurs in a right-hand side makes the re-parse fail … -/
example : (CfgText.printSimpleCfg { V := ["S", "T"], Sigma := ["a"], R := [⟨"S", 0, [.t "a", .v "T"]⟩], S := "S" } = .ok "S -> aT") ∧
    CfgText.parseSimpleCfg "S -> aT".toList = .error .runtimeError :=
  ⟨by decide +kernel, by decide +kernel⟩

/-- … and one that occurs nowhere is lost; a grammar without any rule prints as the empty text, which is rejected -/
example : (CfgText.printSimpleCfg { V := ["S", "T"], Sigma := ["a"], R := [⟨"S", 0, [.t "a"]⟩], S := "S" } = .ok "S -> a") ∧
    (CfgText.printSimpleCfg { V := ["S"], Sigma := [], R := [], S := "S" } = .ok "") ∧
    CfgText.parseSimpleCfg "".toList = .error .runtimeError :=
  ⟨by decide +kernel, by decide +kernel, by decide +kernel⟩

#print axioms parse_print_cfg

end Gamba
