/-
  Gamba.Props.C04a — `dfa_minimize` (table filling): the fixed point of the table marks exactly the
  inequivalent pairs and the loop terminates within its fuel; the result is a valid DFA over the same
  alphabet, with the same language, whose states are the Nerode classes of ALL states of the input
  (unreachable ones included) and are pairwise distinguishable.
-/
import Gamba.Proofs.C04a
import Gamba.Proofs.DecEq
namespace Gamba
variable {σ τ : Type} [DecidableEq σ] [DecidableEq τ]

/-- the table-filling fixed point marks exactly the distinguishable pairs (of distinct positions of Q),
    and the loop terminates within its fuel.  `_hQ` is part of the property's wording; the proof does not use it. -/
theorem table_exact (D : DFA σ τ) (hv : D.valid = true) (_hQ : D.Q.Nodup) :
    ∃ m, D.table = .ok m ∧ ∀ p q, p ∈ D.Q → q ∈ D.Q → (marked m p q = true ↔ ¬ D.Equiv p q) :=
  let ⟨m, h1, _, h3⟩ := D.table_exact' hv
  ⟨m, h1, h3⟩

/-- `dfa_minimize`: result valid, same alphabet and language, states = Nerode classes of ALL states,
    pairwise distinguishable.  `_hQ` is part of the property's wording; the proof does not use it. -/
theorem minimizeTable_spec (D : DFA σ τ) (hv : D.valid = true) (_hQ : D.Q.Nodup) :
    ∃ M, D.minimizeTable = .ok M ∧ M.valid = true ∧ M.Sigma = D.Sigma ∧ D.IsNerode M.Q ∧
      (∀ w, (∀ a, a ∈ w → a ∈ D.Sigma) → (M.Accepts w ↔ D.Accepts w)) ∧
      (∀ B C, B ∈ M.Q → C ∈ M.Q → B ≠ C → M.Dist B C) :=
  D.minimiser_spec hv (D.minimizeTable_ok hv)

/-! ### a concrete instance: 4 states, `q1` and `q2` equivalent -/

def exC04 : DFA String String :=
  { Q := ["q0", "q1", "q2", "q3"]
    Sigma := ["a", "b"]
    delta := [(("q0", "a"), "q1"), (("q0", "b"), "q2"), (("q1", "a"), "q3"), (("q1", "b"), "q3"),
              (("q2", "a"), "q3"), (("q2", "b"), "q3"), (("q3", "a"), "q3"), (("q3", "b"), "q3")]
    q0 := "q0"
    F := ["q3"] }

theorem exC04_valid : exC04.valid = true := by decide
theorem exC04_nodup : exC04.Q.Nodup := by decide

/-- the hypotheses of both theorems hold on `exC04`; the table marks every pair except `(q1, q2)` -/
example : exC04.valid = true ∧ exC04.Q.Nodup ∧
    exC04.table = .ok [("q0", "q3"), ("q1", "q3"), ("q2", "q3"), ("q0", "q1"), ("q0", "q2")] :=
  ⟨exC04_valid, exC04_nodup, by decide +kernel⟩

example : ∃ m, exC04.table = .ok m ∧ marked m "q1" "q2" = false ∧ marked m "q0" "q1" = true ∧
    exC04.Equiv "q1" "q2" ∧ ¬ exC04.Equiv "q0" "q1" := by
  obtain ⟨m, hm, hE⟩ := table_exact exC04 exC04_valid exC04_nodup
  have hm' : exC04.table = .ok [("q0", "q3"), ("q1", "q3"), ("q2", "q3"), ("q0", "q1"), ("q0", "q2")] := by
    decide +kernel
  cases hm.symm.trans hm'
  exact ⟨_, hm, by decide +kernel, by decide +kernel,
    Classical.not_not.mp (mt (hE "q1" "q2" (by decide +kernel) (by decide +kernel)).mpr (by decide +kernel)),
    (hE "q0" "q1" (by decide +kernel) (by decide +kernel)).mp (by decide +kernel)⟩

/-- `minimizeTable` merges `q1` and `q2`: three states -/
example : ∃ M, exC04.minimizeTable = .ok M ∧ M.Q = [["q0"], ["q1", "q2"], ["q3"]] ∧
    M.q0 = ["q0"] ∧ M.F = [["q3"]] ∧ M.next ["q0"] "b" = ["q1", "q2"] ∧ M.next ["q1", "q2"] "a" = ["q3"] := by
  refine ⟨exC04.ofBlocks [["q0"], ["q1", "q2"], ["q3"]], by decide +kernel, by decide +kernel, by decide +kernel, by decide +kernel,
    by decide +kernel, by decide +kernel⟩

example : ∃ M, exC04.minimizeTable = .ok M ∧ M.Q.length = 3 ∧ exC04.IsNerode M.Q ∧
    (M.Accepts ["a", "b"] ↔ exC04.Accepts ["a", "b"]) := by
  obtain ⟨M, h1, _, _, h4, h5, _⟩ := minimizeTable_spec exC04 exC04_valid exC04_nodup
  have hM : exC04.minimizeTable = .ok (exC04.ofBlocks [["q0"], ["q1", "q2"], ["q3"]]) := by decide +kernel
  refine ⟨M, h1, ?_, h4, h5 _ (by decide +kernel)⟩
  rw [h1] at hM
  rw [Except.ok.inj hM]
  rfl

#print axioms table_exact
#print axioms minimizeTable_spec

end Gamba
