/-
  Gamba.Props.C13c — the library's own CYK answer key passes the library's CYK checker:
  for a grammar in Chomsky normal form whose variables are single word characters (the "simple"
  grammar format of the notebooks) and a non-empty word, `cfg_print_cyk_matrix` of the CYK table is
  produced (the table is not empty) and `check_cyk_matrix` answers "OK" on that text.
  `CFG.SimpleVars G` (Proofs/C13c): every variable of `G` is one word character.

  The hypothesis `hv` (validity) is part of the exercise's precondition; the proof does not use it: the cells of the
  table are subsets of `G.V` for every CNF grammar.
-/
import Gamba.Proofs.C13c
namespace Gamba

namespace C13c

/-- S → A B | a, A → a, B → b -/
def exG : CFG where
  V := ["S", "A", "B"]
  Sigma := ["a", "b"]
  S := "S"
  R := [⟨"S", 0, [.v "A", .v "B"]⟩, ⟨"S", 1, [.t "a"]⟩, ⟨"A", 2, [.t "a"]⟩, ⟨"B", 3, [.t "b"]⟩]

/-- the CYK table of `exG` for the word `a a b` -/
def exX : CFG.CykTable :=
  [((0, 0), ["S", "A"]), ((1, 1), ["S", "A"]), ((2, 2), ["B"]), ((0, 1), []), ((1, 2), ["S"]), ((0, 2), [])]

theorem exG_simple : exG.SimpleVars := by
  intro A hA
  simp only [exG, List.mem_cons, List.not_mem_nil, or_false] at hA
  rcases hA with rfl | rfl | rfl
  · exact ⟨'S', by decide, by decide⟩
  · exact ⟨'A', by decide, by decide⟩
  · exact ⟨'B', by decide, by decide⟩

end C13c

/-- the answer key printed by the library (`cfg_print_cyk_matrix` of `cfg_cyk_matrix`) is accepted by the
    library's own checker `check_cyk_matrix` -/
theorem own_cyk_ok (G : CFG) (w : List String) (hw : w ≠ []) (hc : G.isChomsky = true) (hv : G.valid = true)
    (h1 : G.SimpleVars) (X : CFG.CykTable) (hX : G.cykMatrix w = .ok X) :
    ∃ key, Keys.printCyk X w.length = .ok key ∧ Check.cykCheck G w key = .ok true :=
  have _ := hv
  ⟨_, C13c.printCyk_keyText_and_check hw hc h1 hX⟩

/-! non-vacuity: a CNF grammar with three variables and a word of length three -/

example : ["a", "a", "b"] ≠ [] ∧ C13c.exG.isChomsky = true ∧ C13c.exG.valid = true ∧ C13c.exG.SimpleVars ∧
    C13c.exG.cykMatrix ["a", "a", "b"] = .ok C13c.exX :=
  ⟨by decide +kernel, by decide +kernel, by decide +kernel, C13c.exG_simple, by decide +kernel⟩

/-- what the key looks like (lines in reversed order, cells sorted and padded to width `2·2+1`) -/
theorem C13c.exX_print : Keys.printCyk C13c.exX 3 = .ok "{}   \n{}     {S}  \n{A,S}  {A,S}  {B}  " := by
  unfold Keys.printCyk Keys.cykLine Keys.cykWidth Keys.printSet
  simp only [sortStrings_eq_isort]
  decide +kernel

/-- the checker model accepts it -/
example : Check.cykCheck C13c.exG ["a", "a", "b"] "{}   \n{}     {S}  \n{A,S}  {A,S}  {B}  " = .ok true := by
  decide +kernel

/-- the checker model rejects a key with a wrong cell -/
example : Check.cykCheck C13c.exG ["a", "a", "b"] "{}   \n{S}    {S}  \n{A,S}  {A,S}  {B}  " = .ok false := by
  decide +kernel

/-- the instance of the theorem -/
example : ∃ key, Keys.printCyk C13c.exX 3 = .ok key ∧ Check.cykCheck C13c.exG ["a", "a", "b"] key = .ok true :=
  own_cyk_ok C13c.exG ["a", "a", "b"] (by decide +kernel) (by decide +kernel) (by decide +kernel) C13c.exG_simple C13c.exX rfl

/-! the hypothesis on the variable names is needed: a two-character variable name (the fresh start variable
    `S0` of the CNF conversion, say) is printed as it is, and the checker's cell syntax `{\w(,\w)*}` rejects it -/

/-- S0 → a -/
def C13c.exLong : CFG := ⟨["S0"], ["a"], [⟨"S0", 0, [.t "a"]⟩], "S0"⟩

theorem C13c.exLong_print : Keys.printCyk [((0, 0), ["S0"])] 1 = .ok "{S0}" := by
  simp only [Keys.printCyk]
  decide +kernel

/-- without `SimpleVars` the statement is false -/
theorem own_cyk_needs_simple :
    ¬ ∀ (G : CFG) (w : List String), w ≠ [] → G.isChomsky = true → G.valid = true →
      ∀ X : CFG.CykTable, G.cykMatrix w = .ok X →
        ∃ key, Keys.printCyk X w.length = .ok key ∧ Check.cykCheck G w key = .ok true := by
  intro h
  obtain ⟨key, hk, hc⟩ := h C13c.exLong ["a"] (by decide) (by decide) (by decide) [((0, 0), ["S0"])] rfl
  have hk' : Keys.printCyk [((0, 0), ["S0"])] 1 = .ok key := hk
  rw [C13c.exLong_print] at hk'
  injection hk' with hk'
  subst hk'
  have : Check.cykCheck C13c.exLong ["a"] "{S0}" = .ok false := by rfl
  rw [this] at hc
  injection hc with hc
  cases hc

#print axioms own_cyk_ok
#print axioms own_cyk_needs_simple

end Gamba
