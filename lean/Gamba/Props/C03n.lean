/-
  Gamba.Props.C03n — the subset construction with `print_state_set` names, for NFAs whose state names are
  CLEAN (non-empty, no comma): the set notation determines the set, so the injectivity hypothesis of
  `nfaToDfa_named` disappears.  Both conditions on the names are needed: a state named `""` (or names
  containing `,`) makes two different subsets print alike, and the named automaton then accepts a
  different language (`nfaToDfa_name_collision_witness`, the recorded defect).  `CleanName` is defined in
  `Gamba.Proofs.C03n`.
-/
import Gamba.Proofs.C03n
import Gamba.Proofs.C14a
namespace Gamba

/-- the set notation determines the set, for clean names -/
theorem printStateSet_inj (S T : List String) (hS : ∀ q, q ∈ S → CleanName q) (hT : ∀ q, q ∈ T → CleanName q)
    (h : printStateSet S = printStateSet T) : ∀ q, q ∈ S ↔ q ∈ T :=
  printStateSet_mem_iff S T hS hT h

/-- non-vacuity: clean names exist, and two different lists denoting the same set print alike -/
example : CleanName "q0" ∧ CleanName "{a}" ∧ ¬ CleanName "" ∧ ¬ CleanName "p,q" := by
  refine ⟨?_, ?_, ?_, ?_⟩ <;> decide

example : (∀ q, q ∈ ["b", "a", "b"] → CleanName q) ∧ (∀ q, q ∈ ["a", "b"] → CleanName q) ∧
    printStateSet ["b", "a", "b"] = printStateSet ["a", "b"] := by
  refine ⟨by decide +kernel, by decide +kernel, ?_⟩
  rw [printStateSet_eq_isort]; decide +kernel

/-! ### both conditions on the names are needed: the two collisions that the real library exhibits -/

theorem printStateSet_collision_empty_name : printStateSet [""] = printStateSet [] := by
  rw [C03n.name_emptyName, C03.name_empty]

theorem printStateSet_collision_comma : printStateSet ["p", "q"] = printStateSet ["p,q"] := by
  rw [printStateSet_eq_isort]; decide +kernel

/-- … and the two sets are indeed different in each case -/
example : ¬ (∀ q, q ∈ [""] ↔ q ∈ ([] : List String)) ∧ ¬ (∀ q, q ∈ ["p", "q"] ↔ q ∈ ["p,q"]) := by
  refine ⟨fun h => ?_, fun h => ?_⟩
  · exact absurd ((h "").mp (by decide +kernel)) (by decide +kernel)
  · exact absurd ((h "p").mp (by decide +kernel)) (by decide +kernel)

/-- subset construction with `print_state_set` names, for NFAs with clean state names: no injectivity
    hypothesis left -/
theorem nfaToDfa_named_clean (N : NFA String String) (hv : N.valid = true) (hn : ∀ q, q ∈ N.Q → CleanName q)
    (s : Sched) :
    ∃ D', N.toDfa s = .ok D' ∧ D'.valid = true ∧ D'.Sigma = N.Sigma ∧
      (∀ q, D'.Reachable q ∨ q ∉ D'.Q) ∧
      ∀ w, (∀ a, a ∈ w → a ∈ N.Sigma) → (D'.Accepts w ↔ N.Accepts w) := by
  obtain ⟨D, hD, hval, hSig, hreach, hcanon, hL⟩ := NFA.toDfaSets_spec_canon hv s
  have hinj : ∀ S T, S ∈ D.Q → T ∈ D.Q → printStateSet S = printStateSet T → S = T :=
    fun S T hS hT h => N.printStateSet_inj_on_canon hn (hcanon S hS) (hcanon T hT) h
  refine ⟨_, NFA.toDfa_eq_ok hD, DFA.mapStates_valid' _ D hval hinj, hSig, ?_, ?_⟩
  · intro q
    by_cases hq : q ∈ (D.mapStates printStateSet).Q
    · left
      obtain ⟨S, hS, rfl⟩ := List.mem_map.mp hq
      exact DFA.mapStates_reachable _ D hval hinj (hreach S hS)
    · exact Or.inr hq
  · intro w hw
    rw [DFA.mapStates_accepts_iff _ D hval hinj w (hSig ▸ hw)]
    exact hL w hw

/-- non-vacuity: `exN` (ε-move, nondeterminism, partial δ) is valid with clean names; its named automaton has
    four states, all reachable -/
example : C03.exN.valid = true ∧ (∀ q, q ∈ C03.exN.Q → CleanName q) ∧
    C03.exN.toDfa [] = .ok C03.exDnamed ∧ C03.exDnamed.Q = ["{0}", "{0,1,2}", "{}", "{2}"] :=
  ⟨C03.exN_valid, by decide +kernel, C03.exN_toDfa, by decide +kernel⟩

example : C03.exDnamed.valid = true ∧ (∀ q, C03.exDnamed.Reachable q ∨ q ∉ C03.exDnamed.Q) ∧
    ∀ w, (∀ a, a ∈ w → a ∈ C03.exN.Sigma) → (C03.exDnamed.Accepts w ↔ C03.exN.Accepts w) := by
  obtain ⟨D', h1, h2, _, h4, h5⟩ := nfaToDfa_named_clean C03.exN C03.exN_valid (by decide +kernel) []
  rw [C03.exN_toDfa] at h1
  cases h1
  exact ⟨h2, h4, h5⟩

/-- the recorded defect, formally: a valid NFA with a state named `""` whose named subset automaton (itself a
    valid DFA) is NOT equivalent: the subsets `{""}` and `∅` are both named `"{}"`, and the word `y x` is
    accepted by the named DFA only. -/
theorem nfaToDfa_name_collision_witness : ∃ (N : NFA String String) (D' : DFA String String) (w : List String),
    N.valid = true ∧ N.toDfa [] = .ok D' ∧ (∀ a, a ∈ w → a ∈ N.Sigma) ∧ ¬ (D'.Accepts w ↔ N.Accepts w) := by
  refine ⟨C03n.badN, C03n.badDnamed, ["y", "x"], C03n.badN_valid, C03n.badN_toDfa, by decide, ?_⟩
  intro h
  exact nomatch (NFA.Accepts_iff_eval C03n.badN_valid (by decide) C03n.badN_accepts_yx).mp (h.mp ((DFA.Accepts_iff_accepts _ _).mpr (by decide +kernel)))

/-- the witness in detail: the names are not clean only because of `""`; the structured automaton is fine -/
example : ¬ (∀ q, q ∈ C03n.badN.Q → CleanName q) ∧ CleanName "q" ∧
    C03n.badN.toDfaSets [] = .ok C03n.badD ∧ C03n.badD.valid = true ∧
    C03n.badDnamed.Q = ["{}", "{,q}", "{}"] ∧ C03n.badDnamed.valid = true ∧
    C03n.badDnamed.accepts ["y", "x"] = .ok true ∧ C03n.badN.accepts [] ["y", "x"] = .ok false := by
  refine ⟨fun h => ?_, by decide +kernel, C03n.badN_toDfaSets, by decide +kernel, rfl, C03n.badDnamed_valid,
    by decide +kernel, by decide +kernel⟩
  exact absurd (h "" (by decide +kernel)) (by decide +kernel)

#print axioms printStateSet_inj
#print axioms printStateSet_collision_empty_name
#print axioms printStateSet_collision_comma
#print axioms nfaToDfa_named_clean
#print axioms nfaToDfa_name_collision_witness

end Gamba
