/-
  Gamba.Props.C17l — layout independence of the automaton text format (C17): a description parses to the
  same automaton whatever the order of its lines, with comment and blank lines, with extra white space, and
  with the labels of an edge on one line or spread over several lines.
  The other C17 theorems (`parseX_ok_valid`, `parseDfa_rejects_*`, `parse_rejects_*`, `parseLine_rejects_*`,
  `parseX_builds`) are in Props/C16a–c.
  Definitions used (Proofs/C17l.lean): `Parse.parseLines` (the line parser on a list of lines),
  `Parse.isSkipLine` (blank line or `%` comment), `Parse.unwords` (`" ".join`), `Parse.normLines` (the word lists
  of the lines that are not skipped), `Parse.Raw.Equiv`, `Parse.parseDfaLines` / `Parse.parseNfaLines` (`parse_dfa` / `parse_nfa` on a list of lines).
-/
import Gamba.Proofs.C17l
import Gamba.Proofs.DecEq
namespace Gamba
open Parse

/-! ### the parser is a fold over the lines of the text -/

theorem parseRaw_eq_parseLines (k : Parse.Kind) (ok : Parse.Word → Bool) (text : Parse.Word) :
    Parse.parseRaw k ok text = Parse.parseLines k ok (Text.splitOn '\n' text) := rfl

theorem parseDfa_eq_parseDfaLines (text : Parse.Word) (ok : Parse.Word → Bool) :
    Parse.parseDfa text ok = Parse.parseDfaLines (Text.splitOn '\n' text) ok := rfl

/-! ### 1 — comments and blank lines -/

/-- a blank line or a `%` comment can be inserted or removed anywhere -/
theorem parseLines_skip (k : Parse.Kind) (ok : Parse.Word → Bool) (pre post : List Parse.Word) (l : Parse.Word)
    (hl : Parse.isSkipLine l = true) :
    Parse.parseLines k ok (pre ++ l :: post) = Parse.parseLines k ok (pre ++ post) := by
  rw [parseLines_eq_norm, parseLines_eq_norm, normLines_append, normLines_append, normLines_cons_skip hl]

example : Parse.isSkipLine "  % the start state".toList = true ∧ Parse.isSkipLine " \t ".toList = true ∧
    Parse.isSkipLine "".toList = true ∧ Parse.isSkipLine "%".toList = true ∧ Parse.isSkipLine "p q %".toList = false := by
  decide +kernel

/-! ### 2 — white space -/

/-- the parser only sees the words of a line -/
theorem parseLine_ws (k : Parse.Kind) (ok : Parse.Word → Bool) (st : Parse.Raw) (l l' : Parse.Word)
    (h : Text.splitWs (Text.strip l) = Text.splitWs (Text.strip l')) :
    Parse.parseLine k ok st l = Parse.parseLine k ok st l' := by
  rw [parseLine_eq_strip, parseLine_eq_strip, h]

/-- two texts whose lines have, one by one, the same words parse alike -/
theorem parseLines_ws (k : Parse.Kind) (ok : Parse.Word → Bool) (ls ls' : List Parse.Word)
    (h : ls.map (fun l => Text.splitWs (Text.strip l)) = ls'.map (fun l => Text.splitWs (Text.strip l))) :
    Parse.parseLines k ok ls = Parse.parseLines k ok ls' := by
  rw [parseLines_eq_norm, parseLines_eq_norm, normLines_congr h]

example : ["p q a b".toList, "initial p".toList].map (fun l => Text.splitWs (Text.strip l)) =
    ["  p\tq   a b ".toList, "initial\t\tp\r".toList].map (fun l => Text.splitWs (Text.strip l)) := by decide +kernel

/-! ### 3 — several labels on one line, or one line per group of labels -/

/-- a transition line `p q l₁ … lₘ lₘ₊₁ … lₙ` can be cut into `p q l₁ … lₘ` and `p q lₘ₊₁ … lₙ`
    (`p` not a declaration keyword; the words contain no white space) -/
theorem parseLines_split_labels (k : Parse.Kind) (ok : Parse.Word → Bool) (pre post : List Parse.Word)
    (p q : Parse.Word) (ls1 ls2 : List Parse.Word) (hp : Text.Token p) (hq : Text.Token q)
    (hl1 : ∀ w, w ∈ ls1 → Text.Token w) (hl2 : ∀ w, w ∈ ls2 → Text.Token w) (hne1 : ls1 ≠ []) (hne2 : ls2 ≠ [])
    (hkw : Text.str p ∉ ["states", "final", "initial"] ++ Parse.keywords k) :
    Parse.parseLines k ok (pre ++ Parse.unwords (p :: q :: (ls1 ++ ls2)) :: post) =
      Parse.parseLines k ok (pre ++ Parse.unwords (p :: q :: ls1) :: Parse.unwords (p :: q :: ls2) :: post) :=
  foldlM_parseLine_append_congr pre fun st =>
    foldlM_parseLine_split_labels k ok st post p q ls1 ls2 hp hq hl1 hl2 hne1 hne2 hkw

example : Parse.unwords ("p".toList :: "q".toList :: (["a".toList] ++ ["b".toList, "c".toList])) = "p q a b c".toList ∧
    Parse.unwords ("p".toList :: "q".toList :: ["a".toList]) = "p q a".toList ∧
    Parse.unwords ("p".toList :: "q".toList :: ["b".toList, "c".toList]) = "p q b c".toList ∧
    Text.str "p".toList ∉ ["states", "final", "initial"] ++ Parse.keywords .dfa := by decide +kernel

/-- the keyword condition is needed: `states p q` is not `states p` followed by `states q` -/
example : Parse.parseLines .dfa Parse.isWord ["states p q".toList] =
      .ok { states := ["p", "q"], items := [("states", ["p", "q"])] } ∧
    Parse.parseLines .dfa Parse.isWord ["states p".toList, "states q".toList] = .error .runtimeError := by
  repeat rw [String.toList_ofList]
  decide +kernel

/-! ### 4 — the order of the lines -/

/-- a permutation of the lines of a text that parses also parses, to an equivalent record: same `states`,
    `initial`, `final`, same declarations, the same transition entries in a possibly different order -/
theorem parseLines_perm (k : Parse.Kind) (ok : Parse.Word → Bool) (ls ls' : List Parse.Word) (hp : ls.Perm ls')
    (A : Parse.Raw) (h : Parse.parseLines k ok ls = .ok A) :
    ∃ A', Parse.parseLines k ok ls' = .ok A' ∧ Parse.Raw.Equiv A A' := by
  have he := parseLines_layout k ok (normLines_perm hp)
  rw [h] at he
  exact he.ok_left

/-- … and a permutation of the lines of a text that is rejected is rejected -/
theorem parseLines_perm_error (k : Parse.Kind) (ok : Parse.Word → Bool) (ls ls' : List Parse.Word) (hp : ls.Perm ls')
    (e : Err) (h : Parse.parseLines k ok ls = .error e) : ∃ e', Parse.parseLines k ok ls' = .error e' := by
  have he := parseLines_layout k ok (normLines_perm hp)
  rw [h] at he
  cases h' : Parse.parseLines k ok ls' with
  | error e' => exact ⟨e', rfl⟩
  | ok A' => rw [h'] at he; exact absurd he (by simp [ExEquiv])

/-- a repeated declaration is rejected wherever the two lines stand -/
example : ["final p".toList, "p p a".toList, "final q".toList].Perm ["final q".toList, "final p".toList, "p p a".toList] ∧
    Parse.parseLines .dfa Parse.isWord ["final p".toList, "p p a".toList, "final q".toList] = .error .runtimeError ∧
    Parse.parseLines .dfa Parse.isWord ["final q".toList, "final p".toList, "p p a".toList] = .error .runtimeError :=
  by decide +kernel

/-- 1, 2 and 4 together: only the multiset of the word lists of the non-comment, non-blank lines matters -/
theorem parseLines_layout_independent (k : Parse.Kind) (ok : Parse.Word → Bool) (ls ls' : List Parse.Word)
    (hp : (Parse.normLines ls).Perm (Parse.normLines ls')) (A : Parse.Raw) (h : Parse.parseLines k ok ls = .ok A) :
    ∃ A', Parse.parseLines k ok ls' = .ok A' ∧ Parse.Raw.Equiv A A' := by
  have he := parseLines_layout k ok hp
  rw [h] at he
  exact he.ok_left

def C17.lines1 : List Parse.Word :=
  ["states p q".toList, "initial p".toList, "final q".toList, "p q a b".toList, "q p a b".toList]

/-- the same description: shuffled, commented, re-spaced -/
def C17.lines2 : List Parse.Word :=
  ["% a shuffled copy".toList, "  q   p\ta b ".toList, "".toList, "final q".toList, "initial   p".toList,
   "%% transitions of p".toList, " p q a b".toList, "states  p q \r".toList]

example : C17.lines1.Perm ["q p a b".toList, "final q".toList, "initial p".toList, "p q a b".toList, "states p q".toList] := by
  decide +kernel

example : (Parse.normLines C17.lines1).Perm (Parse.normLines C17.lines2) := by
  unfold C17.lines1 C17.lines2; repeat rw [String.toList_ofList]
  decide +kernel

example : Parse.parseLines .dfa Parse.isWord C17.lines1 =
      .ok { states := ["p", "q"], initial := ["p"], final := ["q"],
            items := [("states", ["p", "q"]), ("initial", ["p"]), ("final", ["q"])],
            transitions := [("p", ['a'], "q"), ("p", ['b'], "q"), ("q", ['a'], "p"), ("q", ['b'], "p")] } ∧
    Parse.parseLines .dfa Parse.isWord C17.lines2 =
      .ok { states := ["p", "q"], initial := ["p"], final := ["q"],
            items := [("final", ["q"]), ("initial", ["p"]), ("states", ["p", "q"])],
            transitions := [("q", ['a'], "p"), ("q", ['b'], "p"), ("p", ['a'], "q"), ("p", ['b'], "q")] } := by
  unfold C17.lines1 C17.lines2; repeat rw [String.toList_ofList]
  decide +kernel

/-! ### 5 — the DFA builder -/

/-- a permutation of the lines of a text that `parse_dfa` accepts is accepted, and gives the same initial state,
    the same final states, the same alphabet (as a set), the same transition function, and the same states —
    as a list up to order in general (`Perm`), and literally the same list if the text has a `states` line (see
    `parseDfa_lines_perm_partial`).  The literal equality `D'.Q = D.Q` fails without
    a `states` line (`parseDfa_lines_perm_stmt_false`). -/
theorem parseDfa_lines_perm (ok : Parse.Word → Bool) (ls ls' : List Parse.Word) (hp : ls.Perm ls')
    (D : DFA String String) (h : Parse.parseDfaLines ls ok = .ok D) :
    ∃ D', Parse.parseDfaLines ls' ok = .ok D' ∧ D'.Q.Perm D.Q ∧ (∀ q, q ∈ D'.Q ↔ q ∈ D.Q) ∧ D'.q0 = D.q0 ∧ D'.F = D.F ∧
      (∀ a, a ∈ D'.Sigma ↔ a ∈ D.Sigma) ∧ ∀ k, D'.delta.lookup k = D.delta.lookup k := by
  obtain ⟨A0, D', _, hD', hQ, _, hq0, hF, hS, hl⟩ := parseLines_bind_layout .dfa ok dfaOfRaw_congr (normLines_perm hp) h
  exact ⟨D', hD', hQ, fun q => hQ.mem_iff, hq0, hF, hS, hl⟩

/-- with an explicit `states` line the state list is literally the same -/
theorem parseDfa_lines_perm_partial (ok : Parse.Word → Bool) (ls ls' : List Parse.Word) (hp : ls.Perm ls')
    (D : DFA String String) (h : Parse.parseDfaLines ls ok = .ok D)
    (hst : ∃ l rest, l ∈ ls ∧ Text.splitWs (Text.strip l) = "states".toList :: rest) :
    ∃ D', Parse.parseDfaLines ls' ok = .ok D' ∧ D'.Q = D.Q ∧ D'.q0 = D.q0 ∧ D'.F = D.F ∧
      (∀ a, a ∈ D'.Sigma ↔ a ∈ D.Sigma) ∧ ∀ k, D'.delta.lookup k = D.delta.lookup k := by
  obtain ⟨A0, D', h0, hD', _, hQ, hq0, hF, hS, hl⟩ := parseLines_bind_layout .dfa ok dfaOfRaw_congr (normLines_perm hp) h
  obtain ⟨l, rest, hl', hw⟩ := hst
  exact ⟨D', hD', hQ (parseLines_states_ne .dfa ok hl' hw h0), hq0, hF, hS, hl⟩

/-- the statement with `D'.Q = D.Q` and no `states` line required -/
def parseDfa_lines_perm_stmt : Prop :=
  ∀ (ok : Parse.Word → Bool) (ls ls' : List Parse.Word) (_ : ls.Perm ls') (D : DFA String String)
    (_ : Parse.parseDfaLines ls ok = .ok D),
    ∃ D', Parse.parseDfaLines ls' ok = .ok D' ∧ D'.Q = D.Q ∧ D'.q0 = D.q0 ∧ D'.F = D.F ∧
      (∀ a, a ∈ D'.Sigma ↔ a ∈ D.Sigma) ∧ ∀ k, D'.delta.lookup k = D.delta.lookup k

def C17.noStates1 : List Parse.Word := ["initial p".toList, "p q a".toList, "q p a".toList]
def C17.noStates2 : List Parse.Word := ["initial p".toList, "q p a".toList, "p q a".toList]

/-- without a `states` line the state list is collected from the transitions, in an order that depends on the
    order of the lines -/
theorem C17.noStates_eval :
    Parse.parseDfaLines C17.noStates1 =
      .ok { Q := ["q", "p"], Sigma := ["a"], q0 := "p", F := [], delta := [(("p", "a"), "q"), (("q", "a"), "p")] } ∧
    Parse.parseDfaLines C17.noStates2 =
      .ok { Q := ["p", "q"], Sigma := ["a"], q0 := "p", F := [], delta := [(("q", "a"), "p"), (("p", "a"), "q")] } :=
  ⟨by decide +kernel, by decide +kernel⟩

theorem parseDfa_lines_perm_stmt_false : ¬ parseDfa_lines_perm_stmt := by
  intro H
  obtain ⟨D', h1, h2, _⟩ := H Parse.isWord C17.noStates1 C17.noStates2 (by decide +kernel) _ C17.noStates_eval.1
  rw [C17.noStates_eval.2] at h1
  cases h1
  revert h2
  decide

/-- the 5-line DFA and two other layouts of it -/
def C17.text1 : List Char := "states p q\ninitial p\nfinal q\np q a b\nq p a b".toList

/-- declarations reordered, comments and blank lines added, white space changed, the labels of `q p` on two
    lines; the transition entries come in the same order, so the result is literally the same -/
def C17.text2 : List Char :=
  "% a DFA\n\nfinal   q\n p  q\ta b \nstates p q\n%% second state\nq p a\n   q p   b\ninitial p\n".toList

/-- the transition lines swapped as well -/
def C17.text3 : List Char := "q p a b\nfinal q\ninitial p\np q a b\nstates p q".toList

example : Parse.parseDfa C17.text1 =
    .ok { Q := ["p", "q"], Sigma := ["a", "b"], q0 := "p", F := ["q"],
          delta := [(("p", "a"), "q"), (("p", "b"), "q"), (("q", "a"), "p"), (("q", "b"), "p")] } := by
  unfold C17.text1; rw [String.toList_ofList]; decide +kernel

example : Parse.parseDfa C17.text2 = Parse.parseDfa C17.text1 := by
  unfold C17.text1 C17.text2; repeat rw [String.toList_ofList]
  decide +kernel

example : Parse.parseDfa C17.text3 =
    .ok { Q := ["p", "q"], Sigma := ["a", "b"], q0 := "p", F := ["q"],
          delta := [(("q", "a"), "p"), (("q", "b"), "p"), (("p", "a"), "q"), (("p", "b"), "q")] } := by
  unfold C17.text3; rw [String.toList_ofList]; decide +kernel

example : (Text.splitOn '\n' C17.text1).Perm (Text.splitOn '\n' C17.text3) ∧
    (∃ l rest, l ∈ Text.splitOn '\n' C17.text1 ∧ Text.splitWs (Text.strip l) = "states".toList :: rest) := by
  unfold C17.text1 C17.text3; repeat rw [String.toList_ofList]
  exact ⟨by decide +kernel, "states p q".toList, ["p".toList, "q".toList], by decide +kernel, by decide +kernel⟩

/-! ### 5′ — the NFA builder -/

theorem parseNfa_eq_parseNfaLines (text : Parse.Word) (ok : Parse.Word → Bool) :
    Parse.parseNfa text ok = Parse.parseNfaLines (Text.splitOn '\n' text) ok := rfl

/-- a permutation of the lines of a text that `parse_nfa` accepts is accepted, and gives the same initial state,
    final states and ε symbol, the same alphabet (as a set), the same states (up to order) and the same set of
    successors for every state and symbol -/
theorem parseNfa_lines_perm (ok : Parse.Word → Bool) (ls ls' : List Parse.Word) (hp : ls.Perm ls')
    (N : NFA String String) (h : Parse.parseNfaLines ls ok = .ok N) :
    ∃ N', Parse.parseNfaLines ls' ok = .ok N' ∧ N'.Q.Perm N.Q ∧ (∀ q, q ∈ N'.Q ↔ q ∈ N.Q) ∧ N'.q0 = N.q0 ∧ N'.F = N.F ∧
      N'.eps = N.eps ∧ (∀ a, a ∈ N'.Sigma ↔ a ∈ N.Sigma) ∧ ∀ p a x, x ∈ N'.succ p a ↔ x ∈ N.succ p a := by
  obtain ⟨A0, N', _, hN', hQ, _, hq0, hF, he, hS, hl⟩ := parseLines_bind_layout .nfa ok nfaOfRaw_congr (normLines_perm hp) h
  exact ⟨N', hN', hQ, fun q => hQ.mem_iff, hq0, hF, he, hS, hl⟩

/-- with an explicit `states` line the state list is literally the same -/
theorem parseNfa_lines_perm_states (ok : Parse.Word → Bool) (ls ls' : List Parse.Word) (hp : ls.Perm ls')
    (N : NFA String String) (h : Parse.parseNfaLines ls ok = .ok N)
    (hst : ∃ l rest, l ∈ ls ∧ Text.splitWs (Text.strip l) = "states".toList :: rest) :
    ∃ N', Parse.parseNfaLines ls' ok = .ok N' ∧ N'.Q = N.Q ∧ N'.q0 = N.q0 ∧ N'.F = N.F ∧ N'.eps = N.eps ∧
      (∀ a, a ∈ N'.Sigma ↔ a ∈ N.Sigma) ∧ ∀ p a x, x ∈ N'.succ p a ↔ x ∈ N.succ p a := by
  obtain ⟨A0, N', h0, hN', _, hQ, hq0, hF, he, hS, hl⟩ := parseLines_bind_layout .nfa ok nfaOfRaw_congr (normLines_perm hp) h
  obtain ⟨l, rest, hl', hw⟩ := hst
  exact ⟨N', hN', hQ (parseLines_states_ne .nfa ok hl' hw h0), hq0, hF, he, hS, hl⟩

def C17.nfaLines1 : List Parse.Word :=
  ["states p q r".toList, "initial p".toList, "final r".toList, "p q a".toList, "p r a ε".toList, "q r b".toList]

def C17.nfaLines2 : List Parse.Word :=
  ["p r a ε".toList, "q r b".toList, "final r".toList, "p q a".toList, "states p q r".toList, "initial p".toList]

/-- the successor sets and the (undeclared) alphabet come out in a different order: `δ(p, a)` is `[q, r]` in one
    layout and `[r, q]` in the other -/
example : C17.nfaLines1.Perm C17.nfaLines2 ∧
    Parse.parseNfaLines C17.nfaLines1 =
      .ok { Q := ["p", "q", "r"], Sigma := ["a", "b"], q0 := "p", F := ["r"], eps := "ε",
            delta := [(("p", "a"), ["q", "r"]), (("p", "ε"), ["r"]), (("q", "b"), ["r"])] } ∧
    Parse.parseNfaLines C17.nfaLines2 =
      .ok { Q := ["p", "q", "r"], Sigma := ["b", "a"], q0 := "p", F := ["r"], eps := "ε",
            delta := [(("p", "a"), ["r", "q"]), (("p", "ε"), ["r"]), (("q", "b"), ["r"])] } := by
  unfold C17.nfaLines1 C17.nfaLines2; repeat rw [String.toList_ofList]
  decide +kernel

example : ∃ l rest, l ∈ C17.nfaLines1 ∧ Text.splitWs (Text.strip l) = "states".toList :: rest :=
  ⟨"states p q r".toList, ["p".toList, "q".toList, "r".toList], by decide +kernel, by decide +kernel⟩

/-! ### 6 — any layout of the printed text of a DFA -/

/-- the most general form: a text whose non-comment, non-blank lines have the same words as those of
    `print_dfa D`, in any order, parses to `D` (same members / lookups) -/
theorem parse_any_layout_dfa_words (D : DFA String String) (hv : D.valid = true) (hk : (D.delta.map (·.1)).Nodup)
    (hQ : ∀ q, q ∈ D.Q → Parse.DfaNameOk q) (hS : ∀ a, a ∈ D.Sigma → Parse.isWord a.toList = true)
    (text : List Char)
    (hp : (Parse.normLines (Text.splitOn '\n' text)).Perm (Parse.normLines (Text.splitOn '\n' (Parse.printDfa D).toList))) :
    ∃ D', Parse.parseDfa text = .ok D' ∧
      (∀ q, q ∈ D'.Q ↔ q ∈ D.Q) ∧ (∀ a, a ∈ D'.Sigma ↔ a ∈ D.Sigma) ∧ D'.q0 = D.q0 ∧ (∀ q, q ∈ D'.F ↔ q ∈ D.F) ∧
      ∀ k, D'.delta.lookup k = D.delta.lookup k := by
  obtain ⟨D1, hp1, h1⟩ := Parse.parse_print_dfa_sim D hv hk hQ hS
  rw [parseDfa_eq_parseDfaLines] at hp1
  -- with the concrete line list in place, unifying `hp1` with `(parseLines …).bind f` makes `whnf` evaluate the parser
  generalize Text.splitOn '\n' (Parse.printDfa D).toList = ls at hp hp1
  obtain ⟨A0, D', _, hD', gQ, _, gq0, gF, gS, gl⟩ := parseLines_bind_layout .dfa Parse.isWord dfaOfRaw_congr hp.symm hp1
  exact ⟨D', by rw [parseDfa_eq_parseDfaLines]; exact hD', fun q => gQ.mem_iff.trans (h1.Q q), fun a => (gS a).trans (h1.Sigma a),
    gq0.trans h1.q0, fun q => gF ▸ h1.F q, fun k => (gl k).trans (h1.lookup hk k)⟩

/-- any permutation of the lines of `print_dfa D`, with comment and blank lines `cs` inserted anywhere, parses
    to `D` (hypotheses of `parse_print_dfa`) -/
theorem parse_any_layout_dfa (D : DFA String String) (hv : D.valid = true) (hk : (D.delta.map (·.1)).Nodup)
    (hQ : ∀ q, q ∈ D.Q → Parse.DfaNameOk q) (hS : ∀ a, a ∈ D.Sigma → Parse.isWord a.toList = true)
    (text : List Char) (cs : List Parse.Word) (hcs : ∀ c, c ∈ cs → Parse.isSkipLine c = true)
    (hp : (Text.splitOn '\n' text).Perm (Text.splitOn '\n' (Parse.printDfa D).toList ++ cs)) :
    ∃ D', Parse.parseDfa text = .ok D' ∧
      (∀ q, q ∈ D'.Q ↔ q ∈ D.Q) ∧ (∀ a, a ∈ D'.Sigma ↔ a ∈ D.Sigma) ∧ D'.q0 = D.q0 ∧ (∀ q, q ∈ D'.F ↔ q ∈ D.F) ∧
      ∀ k, D'.delta.lookup k = D.delta.lookup k := by
  apply parse_any_layout_dfa_words D hv hk hQ hS text
  exact normLines_perm_skip hcs hp

/-- the DFA of Props/C16a (unsorted declarations, two labels on one edge): its printed text, and a shuffled and
    commented layout of it -/
def C17.exD : DFA String String :=
  { Q := ["q", "p"], Sigma := ["b", "a"], q0 := "p", F := [],
    delta := [(("p", "b"), "q"), (("p", "a"), "q"), (("q", "a"), "q"), (("q", "b"), "p")] }

example : C17.exD.valid = true ∧ (C17.exD.delta.map (·.1)).Nodup ∧ (∀ q, q ∈ C17.exD.Q → Parse.DfaNameOk q) ∧
    (∀ a, a ∈ C17.exD.Sigma → Parse.isWord a.toList = true) := by
  refine ⟨by decide +kernel, by decide +kernel, ?_, by decide +kernel⟩
  unfold Parse.DfaNameOk
  decide

/-- the printed text is `"states p q\nfinal \ninitial p\ninput_symbols a b\np q b a\nq p b\nq q a"`
    (`C16.exD_print` in Props/C16a.lean); this is a permutation of its lines with two comment lines and a blank one -/
def C17.exShuffled : List Char :=
  "% shuffled\nq q a\ninput_symbols a b\nq p b\n\nfinal \nstates p q\n% the only two-label edge\np q b a\ninitial p".toList

example : (Text.splitOn '\n' C17.exShuffled).Perm
    (Text.splitOn '\n' "states p q\nfinal \ninitial p\ninput_symbols a b\np q b a\nq p b\nq q a".toList ++
      ["% shuffled".toList, "".toList, "% the only two-label edge".toList]) ∧
    (∀ c, c ∈ ["% shuffled".toList, "".toList, "% the only two-label edge".toList] → Parse.isSkipLine c = true) := by
  unfold C17.exShuffled; repeat rw [String.toList_ofList]
  decide +kernel

example : Parse.parseDfa C17.exShuffled =
    .ok { Q := ["p", "q"], Sigma := ["a", "b"], q0 := "p", F := [],
          delta := [(("q", "a"), "q"), (("q", "b"), "p"), (("p", "b"), "q"), (("p", "a"), "q")] } := by
  unfold C17.exShuffled; rw [String.toList_ofList]; decide +kernel

#print axioms parseRaw_eq_parseLines
#print axioms parseDfa_eq_parseDfaLines
#print axioms parseLines_skip
#print axioms parseLine_ws
#print axioms parseLines_ws
#print axioms parseLines_split_labels
#print axioms parseLines_perm
#print axioms parseLines_perm_error
#print axioms parseLines_layout_independent
#print axioms parseDfa_lines_perm
#print axioms parseDfa_lines_perm_partial
#print axioms parseDfa_lines_perm_stmt_false
#print axioms parseNfa_eq_parseNfaLines
#print axioms parseNfa_lines_perm
#print axioms parseNfa_lines_perm_states
#print axioms parse_any_layout_dfa_words
#print axioms parse_any_layout_dfa

end Gamba
