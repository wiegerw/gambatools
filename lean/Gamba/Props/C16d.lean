/-
  Gamba.Props.C16d — the regular-expression clause of the print/parse round trip (C16):
  the fully parenthesised syntax (`print_regexp` / regexp.g4) re-parses to the same tree; the minimal-parenthesis
  syntax (`print_regexp_simple` / regexp_simple.g4) re-parses to an expression with the same language and the
  same printed form (the left-associated form of the tree).
  Both for expressions with `Regexp.SimpleSyms r` (defined in Proofs/C16d): every symbol is a single ASCII letter.
-/
import Gamba.Proofs.C16d
namespace Gamba

/-- the fully parenthesised syntax re-parses to the SAME tree -/
theorem parseFull_printFull (r : Regexp String) (h : r.SimpleSyms) :
    RegexpText.parseFull (RegexpText.printFull r) = some r := by
  simp [RegexpText.parseFull, RegexpText.lexFull_printFull r h, RegexpText.parseSum_toksF r]

/-- `a(a+b)*c` as the right-nested tree `a · ((a+b)* · c)`: its symbols are single letters -/
example : (Regexp.cat (.sym "a") (.cat (.star (.sum (.sym "a") (.sym "b"))) (.sym "c"))).SimpleSyms :=
  ⟨⟨'a', by decide +kernel, by decide +kernel⟩, ⟨⟨'a', by decide +kernel, by decide +kernel⟩, ⟨'b', by decide +kernel, by decide +kernel⟩⟩, ⟨'c', by decide +kernel, by decide +kernel⟩⟩

example : RegexpText.parseFull (RegexpText.printFull
      (.cat (.sym "a") (.cat (.star (.sum (.sym "a") (.sym "b"))) (.sym "c")))) =
    some (.cat (.sym "a") (.cat (.star (.sum (.sym "a") (.sym "b"))) (.sym "c"))) :=
  parseFull_printFull _ ⟨⟨'a', rfl, by decide +kernel⟩, ⟨⟨'a', rfl, by decide +kernel⟩, ⟨'b', rfl, by decide +kernel⟩⟩, ⟨'c', rfl, by decide +kernel⟩⟩

/-- the same, by evaluation of the model (independent of the theorem) -/
example : RegexpText.parseFull (RegexpText.printFull
      (.cat (.sym "a") (.cat (.star (.sum (.sym "a") (.sym "b"))) (.sym "c")))) =
    some (.cat (.sym "a") (.cat (.star (.sum (.sym "a") (.sym "b"))) (.sym "c"))) := by decide +kernel

/-- the minimal-parenthesis syntax re-parses to an expression with the same language and the same printed form -/
theorem parseSimple_printSimple (r : Regexp String) (h : r.SimpleSyms) :
    ∃ r', RegexpText.parseSimple (RegexpText.printSimple r) = some r' ∧
      (∀ w, r'.Lang w ↔ r.Lang w) ∧ RegexpText.printSimple r' = RegexpText.printSimple r :=
  ⟨RegexpText.leftAssoc r, RegexpText.parseSimple_printSimple_eq r h, RegexpText.lang_leftAssoc r,
    RegexpText.printSimple_leftAssoc r⟩

/-- `a · ((a+b)* · c)` prints as `a(a+b)*c` and re-parses as the LEFT-nested tree `(a · (a+b)*) · c` -/
example : RegexpText.parseSimple (RegexpText.printSimple
      (.cat (.sym "a") (.cat (.star (.sum (.sym "a") (.sym "b"))) (.sym "c")))) =
    some (.cat (.cat (.sym "a") (.star (.sum (.sym "a") (.sym "b")))) (.sym "c")) :=
  RegexpText.parseSimple_printSimple_eq _
    ⟨⟨'a', rfl, by decide +kernel⟩, ⟨⟨'a', rfl, by decide +kernel⟩, ⟨'b', rfl, by decide +kernel⟩⟩, ⟨'c', rfl, by decide +kernel⟩⟩

/-- the same, by evaluation of the model (independent of the theorem); `a+(b+1**)` re-parses as `(a+b)+1**` -/
example : RegexpText.parseSimple (RegexpText.printSimple
      (.cat (.sym "a") (.cat (.star (.sum (.sym "a") (.sym "b"))) (.sym "c")))) =
    some (.cat (.cat (.sym "a") (.star (.sum (.sym "a") (.sym "b")))) (.sym "c")) := by decide +kernel
example : RegexpText.parseSimple (RegexpText.printSimple (.sum (.sym "a") (.sum (.sym "b") (.star (.star .one))))) =
    some (.sum (.sum (.sym "a") (.sym "b")) (.star (.star .one))) := by decide +kernel

#print axioms parseFull_printFull
#print axioms parseSimple_printSimple

end Gamba
