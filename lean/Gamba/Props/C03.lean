/-
  Gamba.Props.C03 — the subset construction `nfa_to_dfa` (`NFA.toDfaSets` on structured subset states,
  `NFA.toDfa` with `print_state_set` names) terminates within its fuel for every pop order and yields a
  valid total DFA with the same language, whose initial state is the ε-closure of the NFA's initial state
  and all of whose states are reachable.  `nfaToDfa_loop_partial` is stated with `NFA.closureT` (the value of
  `NFA.closure` on a valid NFA, `Gamba.Proofs.C01`) and `SubsetAcc.toDFA` (the automaton assembled from an
  accumulator, `Gamba.Proofs.C03`).
-/
import Gamba.Proofs.C03
import Gamba.Proofs.C14a
namespace Gamba
variable {σ τ : Type} [DecidableEq σ] [DecidableEq τ]

/-- partial correctness + termination of the subset construction on structured (list) states -/
theorem nfaToDfa_spec (N : NFA σ τ) (hv : N.valid = true) (s : Sched) :
    ∃ D, N.toDfaSets s = .ok D ∧ D.valid = true ∧ D.Sigma = N.Sigma ∧
      (∀ q, q ∈ D.q0 ↔ N.EpsReach [N.q0] q) ∧
      (∀ S, S ∈ D.Q → D.Reachable S) ∧
      (∀ S, S ∈ D.Q → ∀ q, q ∈ S → q ∈ N.Q) ∧
      ∀ w, (∀ a, a ∈ w → a ∈ N.Sigma) → (D.Accepts w ↔ N.Accepts w) := by
  obtain ⟨acc, h1, ht, he⟩ := NFA.toDfaSets_acc hv s
  exact ⟨_, he, h1.final hv ht⟩

/-- non-vacuity: a valid NFA with an ε-move, a nondeterministic `a`-move and a partial δ; the construction
    yields four subset states, among them the empty set, whatever the pop order -/
example : C03.exN.valid = true ∧ C03.exN.toDfaSets [] = .ok C03.exD ∧
    C03.exN.toDfaSets [3, 1, 2] = .ok C03.exD ∧
    C03.exD.Q = [["0"], ["0", "1", "2"], [], ["2"]] ∧ C03.exD.valid = true :=
  ⟨C03.exN_valid, C03.exN_toDfaSets, C03.exN_toDfaSets', by decide +kernel, by decide +kernel⟩

/-- partial correctness for EVERY fuel given to the `while todo:` loop: if the loop started on the
    initial accumulator returns at all, the assembled automaton has all the properties of `nfaToDfa_spec` -/
theorem nfaToDfa_loop_partial (N : NFA σ τ) (hv : N.valid = true) (s : Sched) (fuel : Nat)
    (acc : SubsetAcc σ τ)
    (h : N.subsetLoop s fuel
      { Q := [N.canon (N.closureT s [N.q0])], delta := [],
        F := if !sdisjoint (N.canon (N.closureT s [N.q0])) N.F then [N.canon (N.closureT s [N.q0])] else [],
        todo := [N.canon (N.closureT s [N.q0])] } = .ok acc) :
    acc.todo = [] ∧
    let D := acc.toDFA N.Sigma (N.canon (N.closureT s [N.q0]))
    D.valid = true ∧ D.Sigma = N.Sigma ∧
      (∀ q, q ∈ D.q0 ↔ N.EpsReach [N.q0] q) ∧
      (∀ S, S ∈ D.Q → D.Reachable S) ∧
      (∀ S, S ∈ D.Q → ∀ q, q ∈ S → q ∈ N.Q) ∧
      ∀ w, (∀ a, a ∈ w → a ∈ N.Sigma) → (D.Accepts w ↔ N.Accepts w) := by
  obtain ⟨h1, ht⟩ := (NFA.subsetLoop_spec hv s _ fuel _ (NFA.OInv.initial hv s)).1 _ h
  exact ⟨ht, h1.final hv ht⟩

/-- the language of the result does not depend on the pop order -/
theorem nfaToDfa_sched_indep (N : NFA σ τ) (hv : N.valid = true) (s s' : Sched) :
    ∃ D D', N.toDfaSets s = .ok D ∧ N.toDfaSets s' = .ok D' ∧
      ∀ w, (∀ a, a ∈ w → a ∈ N.Sigma) → (D.Accepts w ↔ D'.Accepts w) := by
  obtain ⟨D, hD, _, _, _, _, _, hL⟩ := nfaToDfa_spec N hv s
  obtain ⟨D', hD', _, _, _, _, _, hL'⟩ := nfaToDfa_spec N hv s'
  exact ⟨D, D', hD, hD', fun w hw => (hL w hw).trans (hL' w hw).symm⟩

example : C03.exN.valid = true ∧ (∀ a, a ∈ ["a", "b", "b"] → a ∈ C03.exN.Sigma) ∧
    C03.exD.Accepts ["a", "b", "b"] := by
  simp only [DFA.Accepts_iff_accepts]; decide +kernel

/-- with `print_state_set` names: if the naming is injective on the constructed subsets (discharged for
    non-empty comma-free state names in `Gamba.Props.C03n`), the named DFA is valid and has the same language -/
theorem nfaToDfa_named (N : NFA String String) (hv : N.valid = true) (s : Sched) :
    ∃ D, N.toDfaSets s = .ok D ∧
      ((∀ S T, S ∈ D.Q → T ∈ D.Q → printStateSet S = printStateSet T → S = T) →
        ∃ D', N.toDfa s = .ok D' ∧ D'.valid = true ∧
          ∀ w, (∀ a, a ∈ w → a ∈ N.Sigma) → (D'.Accepts w ↔ N.Accepts w)) := by
  obtain ⟨D, hD, hval, hSig, _, _, _, hL⟩ := nfaToDfa_spec N hv s
  refine ⟨D, hD, ?_⟩
  intro hinj
  refine ⟨_, NFA.toDfa_eq_ok hD, DFA.mapStates_valid' _ D hval hinj, fun w hw => ?_⟩
  rw [DFA.mapStates_accepts_iff _ D hval hinj w (hSig ▸ hw)]
  exact hL w hw

/-- non-vacuity: the named automaton of `exN`, evaluated; the naming is injective on its four subsets -/
example : C03.exN.toDfa [] = .ok C03.exDnamed ∧
    C03.exDnamed.Q = ["{0}", "{0,1,2}", "{}", "{2}"] ∧ C03.exDnamed.valid = true ∧
    (∀ S T, S ∈ C03.exD.Q → T ∈ C03.exD.Q → printStateSet S = printStateSet T → S = T) :=
  ⟨C03.exN_toDfa, by decide +kernel, by decide +kernel, C03.exD_names_inj⟩

/-- the injectivity hypothesis of `nfaToDfa_named` cannot be dropped: state names containing ',' make two
    different subsets print alike -/
example : printStateSet ["a,b"] = printStateSet ["a", "b"] ∧ ["a,b"] ≠ ["a", "b"] := by
  refine ⟨?_, by decide +kernel⟩
  rw [printStateSet_eq_isort]; decide +kernel

#print axioms nfaToDfa_spec
#print axioms nfaToDfa_loop_partial
#print axioms nfaToDfa_sched_indep
#print axioms nfaToDfa_named

end Gamba
