/-
  Gamba.Props.C17m — layout independence of the automaton text format (C17), continued: the PDA and TM
  builders give the same automaton whatever the order of the lines (for TMs: as long as no two transitions
  have the same state and read symbol — otherwise the later line wins), and any layout of the printed text of
  an NFA / PDA / TM (lines permuted, comment and blank lines inserted) parses back to it.
  Definitions used (Proofs/C17m.lean): `Parse.parsePdaLines` / `Parse.parseTmLines` (`parse_pda` / `parse_tm` on a
  list of lines); (Proofs/C16c.lean) `Parse.ch l i` (the `i`-th character of a label, as a string).
-/
import Gamba.Proofs.C17m
import Gamba.Props.C16b
import Gamba.Props.C16c
namespace Gamba
open Parse

/-! ### the builders are functions of the list of lines -/

theorem parsePda_eq_parsePdaLines (text : Parse.Word) (ok : Parse.Word → Bool) :
    Parse.parsePda text ok = Parse.parsePdaLines (Text.splitOn '\n' text) ok := rfl

theorem parseTm_eq_parseTmLines (text : Parse.Word) (ok : Parse.Word → Bool) :
    Parse.parseTm text ok = Parse.parseTmLines (Text.splitOn '\n' text) ok := rfl

/-! ### 1 — the PDA builder -/

/-- a permutation of the lines of a text that `parse_pda` accepts is accepted, and gives the same initial state,
    final states and ε (chosen by a declaration, else by looking for `ε` inside the labels — neither depends on
    the order), the same input and stack alphabets (as sets), the same states (up to order) and the same set of
    targets `(q, v)` for every key `(p, a, u)` -/
theorem parsePda_lines_perm (ok : Parse.Word → Bool) (ls ls' : List Parse.Word) (hp : ls.Perm ls')
    (P : SPDA) (h : Parse.parsePdaLines ls ok = .ok P) :
    ∃ P', Parse.parsePdaLines ls' ok = .ok P' ∧ P'.Q.Perm P.Q ∧ P'.q0 = P.q0 ∧ P'.F = P.F ∧ P'.eps = P.eps ∧
      P'.epsG = P.epsG ∧ (∀ a, a ∈ P'.Sigma ↔ a ∈ P.Sigma) ∧ (∀ g, g ∈ P'.Gamma ↔ g ∈ P.Gamma) ∧
      ∀ k x, x ∈ (P'.delta.lookup k).getD [] ↔ x ∈ (P.delta.lookup k).getD [] := by
  obtain ⟨A0, P', _, hP', hQ, _, r⟩ := parseLines_bind_layout .pda ok pdaOfRaw_congr (normLines_perm hp) h
  exact ⟨P', hP', hQ, r⟩

/-- with an explicit `states` line the state list is literally the same -/
theorem parsePda_lines_perm_states (ok : Parse.Word → Bool) (ls ls' : List Parse.Word) (hp : ls.Perm ls')
    (P : SPDA) (h : Parse.parsePdaLines ls ok = .ok P)
    (hst : ∃ l rest, l ∈ ls ∧ Text.splitWs (Text.strip l) = "states".toList :: rest) :
    ∃ P', Parse.parsePdaLines ls' ok = .ok P' ∧ P'.Q = P.Q ∧ P'.q0 = P.q0 ∧ P'.F = P.F ∧ P'.eps = P.eps ∧
      P'.epsG = P.epsG ∧ (∀ a, a ∈ P'.Sigma ↔ a ∈ P.Sigma) ∧ (∀ g, g ∈ P'.Gamma ↔ g ∈ P.Gamma) ∧
      ∀ k x, x ∈ (P'.delta.lookup k).getD [] ↔ x ∈ (P.delta.lookup k).getD [] := by
  obtain ⟨A0, P', h0, hP', _, hQ, r⟩ := parseLines_bind_layout .pda ok pdaOfRaw_congr (normLines_perm hp) h
  obtain ⟨l, rest, hl', hw⟩ := hst
  exact ⟨P', hP', hQ (parseLines_states_ne .pda ok hl' hw h0), r⟩

/-- 1, 2 and 4 of Props/C17l together, for the PDA builder: only the multiset of the word lists of the
    non-comment, non-blank lines matters -/
theorem parsePda_layout_independent (ok : Parse.Word → Bool) (ls ls' : List Parse.Word)
    (hp : (Parse.normLines ls).Perm (Parse.normLines ls')) (P : SPDA) (h : Parse.parsePdaLines ls ok = .ok P) :
    ∃ P', Parse.parsePdaLines ls' ok = .ok P' ∧ P'.Q.Perm P.Q ∧ P'.q0 = P.q0 ∧ P'.F = P.F ∧ P'.eps = P.eps ∧
      P'.epsG = P.epsG ∧ (∀ a, a ∈ P'.Sigma ↔ a ∈ P.Sigma) ∧ (∀ g, g ∈ P'.Gamma ↔ g ∈ P.Gamma) ∧
      ∀ k x, x ∈ (P'.delta.lookup k).getD [] ↔ x ∈ (P.delta.lookup k).getD [] := by
  obtain ⟨A0, P', _, hP', hQ, _, r⟩ := parseLines_bind_layout .pda ok pdaOfRaw_congr hp h
  exact ⟨P', hP', hQ, r⟩

/-- a 6-line PDA for `{aⁿbⁿ | n ≥ 1}`-like words; ε is not declared, it is found inside the labels -/
def C17.pdaText1 : List Char := "states p q\ninitial p\nfinal q\np p a,εA\np q b,Aε\nq q b,Aε".toList

/-- declarations reordered, comments and blank lines added, white space changed; the transition entries come in
    the same order, so the result is literally the same -/
def C17.pdaText2 : List Char :=
  "% a PDA\n\nfinal   q\n p  p\ta,εA \nstates p q\n%% pop\np q b,Aε\n   q q   b,Aε\ninitial p\n".toList

/-- the transition lines permuted as well -/
def C17.pdaText3 : List Char := "q q b,Aε\nfinal q\np q b,Aε\ninitial p\np p a,εA\nstates p q".toList

example : Parse.parsePda C17.pdaText1 =
    .ok { Q := ["p", "q"], Sigma := ["a", "b"], Gamma := ["A"], q0 := "p", F := ["q"], eps := "ε", epsG := "ε",
          delta := [(("p", "a", "ε"), [("p", "A")]), (("p", "b", "A"), [("q", "ε")]),
                    (("q", "b", "A"), [("q", "ε")])] } := by
  unfold C17.pdaText1; rw [String.toList_ofList]; decide +kernel

example : Parse.parsePda C17.pdaText2 =
    .ok { Q := ["p", "q"], Sigma := ["a", "b"], Gamma := ["A"], q0 := "p", F := ["q"], eps := "ε", epsG := "ε",
          delta := [(("p", "a", "ε"), [("p", "A")]), (("p", "b", "A"), [("q", "ε")]),
                    (("q", "b", "A"), [("q", "ε")])] } := by
  unfold C17.pdaText2; rw [String.toList_ofList]; decide +kernel

/-- the undeclared input alphabet and the entries of `δ` come out in another order -/
example : Parse.parsePda C17.pdaText3 =
    .ok { Q := ["p", "q"], Sigma := ["b", "a"], Gamma := ["A"], q0 := "p", F := ["q"], eps := "ε", epsG := "ε",
          delta := [(("q", "b", "A"), [("q", "ε")]), (("p", "b", "A"), [("q", "ε")]),
                    (("p", "a", "ε"), [("p", "A")])] } := by
  unfold C17.pdaText3; rw [String.toList_ofList]; decide +kernel

/-- the hypotheses of `parsePda_lines_perm_states` on these texts -/
example : (Text.splitOn '\n' C17.pdaText1).Perm (Text.splitOn '\n' C17.pdaText3) ∧
    (∃ l rest, l ∈ Text.splitOn '\n' C17.pdaText1 ∧ Text.splitWs (Text.strip l) = "states".toList :: rest) := by
  unfold C17.pdaText1 C17.pdaText3; repeat rw [String.toList_ofList]
  exact ⟨by decide +kernel, "states p q".toList, ["p".toList, "q".toList], by decide +kernel, by decide +kernel⟩

/-- … and of `parsePda_layout_independent` -/
example : (Parse.normLines (Text.splitOn '\n' C17.pdaText1)).Perm (Parse.normLines (Text.splitOn '\n' C17.pdaText2)) := by
  unfold C17.pdaText1 C17.pdaText2; repeat rw [String.toList_ofList]
  decide +kernel

def C17.pdaLines1 : List Parse.Word :=
  ["initial p".toList, "p q a,εA".toList, "p r a,εB".toList, "q p b,Bε".toList]

def C17.pdaLines2 : List Parse.Word :=
  ["q p b,Bε".toList, "p r a,εB".toList, "initial p".toList, "p q a,εA".toList]

/-- without a `states` line the state list is collected in an order that depends on the order of the lines (so only
    `Perm` holds for `Q`), and the target list of `(p, a, ε)` is `[(q, A), (r, B)]` in one layout and
    `[(r, B), (q, A)]` in the other (so only the membership statement holds for `δ`) -/
example : C17.pdaLines1.Perm C17.pdaLines2 ∧
    Parse.parsePdaLines C17.pdaLines1 =
      .ok { Q := ["r", "q", "p"], Sigma := ["a", "b"], Gamma := ["A", "B"], q0 := "p", F := [], eps := "ε", epsG := "ε",
            delta := [(("p", "a", "ε"), [("q", "A"), ("r", "B")]), (("q", "b", "B"), [("p", "ε")])] } ∧
    Parse.parsePdaLines C17.pdaLines2 =
      .ok { Q := ["r", "p", "q"], Sigma := ["b", "a"], Gamma := ["B", "A"], q0 := "p", F := [], eps := "ε", epsG := "ε",
            delta := [(("q", "b", "B"), [("p", "ε")]), (("p", "a", "ε"), [("r", "B"), ("q", "A")])] } := by
  unfold C17.pdaLines1 C17.pdaLines2; repeat rw [String.toList_ofList]
  decide +kernel

/-! ### 2 — the TM builder -/

/-- a permutation of the lines of a text that `parse_tm` accepts is ALWAYS accepted, and gives the same initial,
    accepting and rejecting state, the same blank, the same input and tape alphabets (as sets), the same states (up
    to order), and a transition function defined for the same (state, symbol) pairs.  The VALUES of the transition
    function may differ: see `parseTm_lines_perm` and `parseTm_lines_perm_needs_nodup`. -/
theorem parseTm_lines_perm_weak (ok : Parse.Word → Bool) (ls ls' : List Parse.Word) (hp : ls.Perm ls')
    (T : TM String String) (h : Parse.parseTmLines ls ok = .ok T) :
    ∃ T', Parse.parseTmLines ls' ok = .ok T' ∧ T'.Q.Perm T.Q ∧ T'.q0 = T.q0 ∧ T'.qAccept = T.qAccept ∧
      T'.qReject = T.qReject ∧ T'.blank = T.blank ∧ (∀ a, a ∈ T'.Sigma ↔ a ∈ T.Sigma) ∧
      (∀ g, g ∈ T'.Gamma ↔ g ∈ T.Gamma) ∧ ∀ k, T'.delta.lookup k = none ↔ T.delta.lookup k = none := by
  obtain ⟨A0, T', _, hT', hQ, _, h0, ha, hr, hb, hS, hG, hn, _⟩ := parseLines_bind_layout .tm ok tmOfRaw_congr (normLines_perm hp) h
  exact ⟨T', hT', hQ, h0, ha, hr, hb, hS, hG, hn⟩

/-- … and when no two transition entries of the text have the same state and the same read symbol (stated on the
    record `A` returned by the line parser: the keys `(p, first character of the label)` of `A.transitions` are
    distinct), the transition function is the same too -/
theorem parseTm_lines_perm (ok : Parse.Word → Bool) (ls ls' : List Parse.Word) (hp : ls.Perm ls')
    (T : TM String String) (h : Parse.parseTmLines ls ok = .ok T)
    (A : Parse.Raw) (hA : Parse.parseLines .tm ok ls = .ok A)
    (hnd : (A.transitions.map fun t => (t.1, Parse.ch t.2.1 0)).Nodup) :
    ∃ T', Parse.parseTmLines ls' ok = .ok T' ∧ T'.Q.Perm T.Q ∧ T'.q0 = T.q0 ∧ T'.qAccept = T.qAccept ∧
      T'.qReject = T.qReject ∧ T'.blank = T.blank ∧ (∀ a, a ∈ T'.Sigma ↔ a ∈ T.Sigma) ∧
      (∀ g, g ∈ T'.Gamma ↔ g ∈ T.Gamma) ∧ ∀ k, T'.delta.lookup k = T.delta.lookup k := by
  obtain ⟨A0, T', hA0, hT', hQ, _, h0, ha, hr, hb, hS, hG, _, hd⟩ := parseLines_bind_layout .tm ok tmOfRaw_congr (normLines_perm hp) h
  rw [hA] at hA0
  cases hA0
  exact ⟨T', hT', hQ, h0, ha, hr, hb, hS, hG, hd hnd⟩

/-- with an explicit `states` line the state list is literally the same -/
theorem parseTm_lines_perm_states (ok : Parse.Word → Bool) (ls ls' : List Parse.Word) (hp : ls.Perm ls')
    (T : TM String String) (h : Parse.parseTmLines ls ok = .ok T)
    (A : Parse.Raw) (hA : Parse.parseLines .tm ok ls = .ok A)
    (hnd : (A.transitions.map fun t => (t.1, Parse.ch t.2.1 0)).Nodup)
    (hst : ∃ l rest, l ∈ ls ∧ Text.splitWs (Text.strip l) = "states".toList :: rest) :
    ∃ T', Parse.parseTmLines ls' ok = .ok T' ∧ T'.Q = T.Q ∧ T'.q0 = T.q0 ∧ T'.qAccept = T.qAccept ∧
      T'.qReject = T.qReject ∧ T'.blank = T.blank ∧ (∀ a, a ∈ T'.Sigma ↔ a ∈ T.Sigma) ∧
      (∀ g, g ∈ T'.Gamma ↔ g ∈ T.Gamma) ∧ ∀ k, T'.delta.lookup k = T.delta.lookup k := by
  obtain ⟨A0, T', hA0, hT', _, hQ, h0, ha, hr, hb, hS, hG, _, hd⟩ := parseLines_bind_layout .tm ok tmOfRaw_congr (normLines_perm hp) h
  obtain ⟨l, rest, hl', hw⟩ := hst
  have hne := parseLines_states_ne .tm ok hl' hw hA0
  rw [hA] at hA0
  cases hA0
  exact ⟨T', hT', hQ hne, h0, ha, hr, hb, hS, hG, hd hnd⟩

/-- the layout form: only the multiset of the word lists of the non-comment, non-blank lines matters -/
theorem parseTm_layout_independent (ok : Parse.Word → Bool) (ls ls' : List Parse.Word)
    (hp : (Parse.normLines ls).Perm (Parse.normLines ls')) (T : TM String String)
    (h : Parse.parseTmLines ls ok = .ok T) (A : Parse.Raw) (hA : Parse.parseLines .tm ok ls = .ok A)
    (hnd : (A.transitions.map fun t => (t.1, Parse.ch t.2.1 0)).Nodup) :
    ∃ T', Parse.parseTmLines ls' ok = .ok T' ∧ T'.Q.Perm T.Q ∧ T'.q0 = T.q0 ∧ T'.qAccept = T.qAccept ∧
      T'.qReject = T.qReject ∧ T'.blank = T.blank ∧ (∀ a, a ∈ T'.Sigma ↔ a ∈ T.Sigma) ∧
      (∀ g, g ∈ T'.Gamma ↔ g ∈ T.Gamma) ∧ ∀ k, T'.delta.lookup k = T.delta.lookup k := by
  obtain ⟨A0, T', hA0, hT', hQ, _, h0, ha, hr, hb, hS, hG, _, hd⟩ := parseLines_bind_layout .tm ok tmOfRaw_congr hp h
  rw [hA] at hA0
  cases hA0
  exact ⟨T', hT', hQ, h0, ha, hr, hb, hS, hG, hd hnd⟩

/-- the statement without the hypothesis on repeated keys -/
def parseTm_lines_perm_stmt : Prop :=
  ∀ (ok : Parse.Word → Bool) (ls ls' : List Parse.Word) (_ : ls.Perm ls') (T : TM String String)
    (_ : Parse.parseTmLines ls ok = .ok T),
    ∃ T', Parse.parseTmLines ls' ok = .ok T' ∧ ∀ k, T'.delta.lookup k = T.delta.lookup k

/-- two transitions for `(p, a)`: `p p aa,R` and `p q ab,L` -/
def C17.tmDupText1 : List Char := "initial p\np p aa,R\np q ab,L\np accept __,R".toList
/-- the same lines, the two transitions for `(p, a)` swapped -/
def C17.tmDupText2 : List Char := "initial p\np q ab,L\np p aa,R\np accept __,R".toList

theorem C17.tmDup_eval :
    Parse.parseTm C17.tmDupText1 =
      .ok { Q := ["q", "p", "accept", "reject"], Sigma := ["a", "b"], Gamma := ["a", "b", "_"], q0 := "p",
            qAccept := "accept", qReject := "reject", blank := "_",
            delta := [(("p", "a"), ("q", "b", Dir.L)), (("p", "_"), ("accept", "_", Dir.R))] } ∧
    Parse.parseTm C17.tmDupText2 =
      .ok { Q := ["q", "p", "accept", "reject"], Sigma := ["b", "a"], Gamma := ["b", "a", "_"], q0 := "p",
            qAccept := "accept", qReject := "reject", blank := "_",
            delta := [(("p", "a"), ("p", "a", Dir.R)), (("p", "_"), ("accept", "_", Dir.R))] } :=
  ⟨by unfold C17.tmDupText1; rw [String.toList_ofList]; decide +kernel,
   by unfold C17.tmDupText2; rw [String.toList_ofList]; decide +kernel⟩

/-- the hypothesis on repeated keys is needed: `parse_tm` lets a later transition for the same state and read symbol
    REPLACE an earlier one, so two texts with the same lines in a different order can parse to different machines -/
theorem parseTm_lines_perm_needs_nodup :
    (Text.splitOn '\n' C17.tmDupText1).Perm (Text.splitOn '\n' C17.tmDupText2) ∧
    ∃ T1 T2, Parse.parseTm C17.tmDupText1 = .ok T1 ∧ Parse.parseTm C17.tmDupText2 = .ok T2 ∧
      T1.delta.lookup ("p", "a") = some ("q", "b", Dir.L) ∧ T2.delta.lookup ("p", "a") = some ("p", "a", Dir.R) :=
  ⟨by decide +kernel, _, _, C17.tmDup_eval.1, C17.tmDup_eval.2, rfl, rfl⟩

theorem parseTm_lines_perm_stmt_false : ¬ parseTm_lines_perm_stmt := by
  intro H
  obtain ⟨hp, T1, T2, h1, h2, l1, l2⟩ := parseTm_lines_perm_needs_nodup
  rw [parseTm_eq_parseTmLines] at h1 h2
  obtain ⟨T', hT', hd⟩ := H Parse.isWord _ _ hp T1 h1
  rw [h2] at hT'
  cases hT'
  have := hd ("p", "a")
  rw [l1, l2] at this
  revert this
  decide

/-- the record of the first text has the key `(p, a)` twice -/
example : ∃ A, Parse.parseLines .tm Parse.isWord (Text.splitOn '\n' C17.tmDupText1) = .ok A ∧
    (A.transitions.map fun t => (t.1, Parse.ch t.2.1 0)) = [("p", "a"), ("p", "a"), ("p", "_")] :=
  ⟨{ initial := ["p"], items := [("initial", ["p"])],
     transitions := [("p", "aa,R".toList, "p"), ("p", "ab,L".toList, "q"), ("p", "__,R".toList, "accept")] },
   by decide +kernel, by decide +kernel⟩

/-- a TM that overwrites its input with `x` and accepts on the first blank -/
def C17.tmText1 : List Char :=
  "states s qa qr\ninitial s\naccept qa\nreject qr\ns s ax,R\ns qa __,L".toList

/-- declarations reordered, comments and blank lines added, white space changed; the transition entries come in
    the same order, so the result is literally the same -/
def C17.tmText2 : List Char :=
  "% a TM\nreject qr\n\n s  s\tax,R \naccept   qa\n%% halt\ns qa __,L\nstates s qa qr\ninitial s\n".toList

/-- the transition lines swapped as well -/
def C17.tmText3 : List Char := "s qa __,L\nreject qr\ninitial s\ns s ax,R\naccept qa\nstates s qa qr".toList

example : Parse.parseTm C17.tmText1 =
    .ok { Q := ["s", "qa", "qr"], Sigma := ["a", "x"], Gamma := ["a", "x", "_"], q0 := "s", qAccept := "qa",
          qReject := "qr", blank := "_",
          delta := [(("s", "a"), ("s", "x", Dir.R)), (("s", "_"), ("qa", "_", Dir.L))] } := by
  unfold C17.tmText1; rw [String.toList_ofList]; decide +kernel

example : Parse.parseTm C17.tmText2 =
    .ok { Q := ["s", "qa", "qr"], Sigma := ["a", "x"], Gamma := ["a", "x", "_"], q0 := "s", qAccept := "qa",
          qReject := "qr", blank := "_",
          delta := [(("s", "a"), ("s", "x", Dir.R)), (("s", "_"), ("qa", "_", Dir.L))] } := by
  unfold C17.tmText2; rw [String.toList_ofList]; decide +kernel

/-- the undeclared alphabets and the entries of `δ` come out in another order -/
example : Parse.parseTm C17.tmText3 =
    .ok { Q := ["s", "qa", "qr"], Sigma := ["a", "x"], Gamma := ["_", "a", "x"], q0 := "s", qAccept := "qa",
          qReject := "qr", blank := "_",
          delta := [(("s", "_"), ("qa", "_", Dir.L)), (("s", "a"), ("s", "x", Dir.R))] } := by
  unfold C17.tmText3; rw [String.toList_ofList]; decide +kernel

/-- the hypotheses of `parseTm_lines_perm_states` on these texts: a permutation, distinct keys, a `states` line -/
example : (Text.splitOn '\n' C17.tmText1).Perm (Text.splitOn '\n' C17.tmText3) ∧
    (∃ A, Parse.parseLines .tm Parse.isWord (Text.splitOn '\n' C17.tmText1) = .ok A ∧
      (A.transitions.map fun t => (t.1, Parse.ch t.2.1 0)) = [("s", "a"), ("s", "_")] ∧
      (A.transitions.map fun t => (t.1, Parse.ch t.2.1 0)).Nodup) ∧
    (∃ l rest, l ∈ Text.splitOn '\n' C17.tmText1 ∧ Text.splitWs (Text.strip l) = "states".toList :: rest) := by
  unfold C17.tmText1 C17.tmText3; repeat rw [String.toList_ofList]
  exact ⟨by decide +kernel,
    ⟨{ states := ["s", "qa", "qr"], initial := ["s"], transitions := [("s", "ax,R".toList, "s"), ("s", "__,L".toList, "qa")],
       items := [("states", ["s", "qa", "qr"]), ("initial", ["s"]), ("accept", ["qa"]), ("reject", ["qr"])] },
      by decide +kernel, by decide +kernel, by decide +kernel⟩,
    "states s qa qr".toList, ["s".toList, "qa".toList, "qr".toList], by decide +kernel, by decide +kernel⟩

example : (Parse.normLines (Text.splitOn '\n' C17.tmText1)).Perm (Parse.normLines (Text.splitOn '\n' C17.tmText2)) := by
  unfold C17.tmText1 C17.tmText2; repeat rw [String.toList_ofList]
  decide +kernel

/-! ### 3 — any layout of the printed text of an NFA, a PDA, a TM -/

/-- a text whose non-comment, non-blank lines have the same words as those of `print_nfa N`, in any order,
    parses to `N` (hypotheses and conclusion of `parse_print_nfa`) -/
theorem parse_any_layout_nfa_words (N : NFA String String) (hv : N.valid = true) (hk : (N.delta.map (·.1)).Nodup)
    (hQ : ∀ q, q ∈ N.Q → Parse.NfaNameOk q) (hS : ∀ a, a ∈ N.Sigma → Parse.isWord a.toList = true)
    (he : Parse.isWord N.eps.toList = true) (text : List Char)
    (hp : (Parse.normLines (Text.splitOn '\n' text)).Perm (Parse.normLines (Text.splitOn '\n' (Parse.printNfa N).toList))) :
    ∃ N', Parse.parseNfa text = .ok N' ∧
      (∀ q, q ∈ N'.Q ↔ q ∈ N.Q) ∧ (∀ a, a ∈ N'.Sigma ↔ a ∈ N.Sigma) ∧ N'.q0 = N.q0 ∧ (∀ q, q ∈ N'.F ↔ q ∈ N.F) ∧
      N'.eps = N.eps ∧ ∀ q a x, x ∈ N'.succ q a ↔ x ∈ N.succ q a := by
  obtain ⟨N1, hp1, h1⟩ := Parse.parse_print_nfa_sim N hv hk hQ hS he
  have hp1' : Parse.parseNfaLines (Text.splitOn '\n' (Parse.printNfa N).toList) Parse.isWord = .ok N1 := hp1
  -- as in Props/C17l: keep `whnf` from evaluating the parser on the concrete line list
  generalize Text.splitOn '\n' (Parse.printNfa N).toList = ls at hp hp1'
  obtain ⟨A0, N', _, hN', gQ, _, gq0, gF, ge, gS, gl⟩ := parseLines_bind_layout .nfa Parse.isWord nfaOfRaw_congr hp.symm hp1'
  exact ⟨N', hN', fun q => gQ.mem_iff.trans (h1.Q q), fun a => (gS a).trans (h1.Sigma a), gq0.trans h1.q0, fun q => gF ▸ h1.F q,
    ge.trans h1.eps, fun q a x => (gl q a x).trans (h1.succ q a x)⟩

/-- any permutation of the lines of `print_nfa N`, with comment and blank lines `cs` inserted anywhere, parses
    to `N` -/
theorem parse_any_layout_nfa (N : NFA String String) (hv : N.valid = true) (hk : (N.delta.map (·.1)).Nodup)
    (hQ : ∀ q, q ∈ N.Q → Parse.NfaNameOk q) (hS : ∀ a, a ∈ N.Sigma → Parse.isWord a.toList = true)
    (he : Parse.isWord N.eps.toList = true) (text : List Char) (cs : List Parse.Word)
    (hcs : ∀ c, c ∈ cs → Parse.isSkipLine c = true)
    (hp : (Text.splitOn '\n' text).Perm (Text.splitOn '\n' (Parse.printNfa N).toList ++ cs)) :
    ∃ N', Parse.parseNfa text = .ok N' ∧
      (∀ q, q ∈ N'.Q ↔ q ∈ N.Q) ∧ (∀ a, a ∈ N'.Sigma ↔ a ∈ N.Sigma) ∧ N'.q0 = N.q0 ∧ (∀ q, q ∈ N'.F ↔ q ∈ N.F) ∧
      N'.eps = N.eps ∧ ∀ q a x, x ∈ N'.succ q a ↔ x ∈ N.succ q a := by
  apply parse_any_layout_nfa_words N hv hk hQ hS he text
  exact normLines_perm_skip hcs hp

/-- the printed text of `C16.exN` is `"states p q r\nfinal \ninitial p\ninput_symbols a b\nepsilon _\np q b _\nq p a\nq q a\n"`
    (`C16.exN_print`; its hypotheses are checked in Props/C16b.lean); this is a permutation of its lines — the last,
    empty one included — with two comment lines and a blank one -/
def C17.exNShuffled : List Char :=
  "% shuffled\nq q a\ninput_symbols a b\nq p a\n\nfinal \nstates p q r\n% the only two-label edge\np q b _\nepsilon _\n\ninitial p".toList

set_option maxRecDepth 8192 in
example : (Text.splitOn '\n' C17.exNShuffled).Perm
    (Text.splitOn '\n' (Parse.printNfa C16.exN).toList ++
      ["% shuffled".toList, "".toList, "% the only two-label edge".toList]) ∧
    (∀ c, c ∈ ["% shuffled".toList, "".toList, "% the only two-label edge".toList] → Parse.isSkipLine c = true) := by
  rw [C16.exN_print]; unfold C17.exNShuffled; repeat rw [String.toList_ofList]
  decide +kernel

set_option maxRecDepth 8192 in
example : Parse.parseNfa C17.exNShuffled =
    .ok { Q := ["p", "q", "r"], Sigma := ["a", "b"], q0 := "p", F := [], eps := "_",
          delta := [(("q", "a"), ["q", "p"]), (("p", "b"), ["q"]), (("p", "_"), ["q"])] } := by
  unfold C17.exNShuffled; rw [String.toList_ofList]; decide +kernel

/-- a text whose non-comment, non-blank lines have the same words as those of `print_pda P`, in any order,
    parses to `P` (hypotheses and conclusion of `parse_print_pda`) -/
theorem parse_any_layout_pda_words (P : SPDA) (hv : P.valid = true) (hk : (P.delta.map (·.1)).Nodup)
    (heq : P.epsG = P.eps) (hQ : ∀ q, q ∈ P.Q → Parse.PdaNameOk q)
    (hS : ∀ a, a ∈ P.Sigma → Parse.Char1 Text.isWordChar a)
    (hG : ∀ x, x ∈ P.Gamma → Parse.Char1 (Parse.isLabelSym false) x)
    (he : Parse.Char1 Text.isWordChar P.eps) (text : List Char)
    (hp : (Parse.normLines (Text.splitOn '\n' text)).Perm (Parse.normLines (Text.splitOn '\n' (Parse.printPda P).toList))) :
    ∃ P', Parse.parsePda text = .ok P' ∧
      (∀ q, q ∈ P'.Q ↔ q ∈ P.Q) ∧ (∀ a, a ∈ P'.Sigma ↔ a ∈ P.Sigma) ∧ (∀ x, x ∈ P'.Gamma ↔ x ∈ P.Gamma) ∧
      P'.q0 = P.q0 ∧ (∀ q, q ∈ P'.F ↔ q ∈ P.F) ∧ P'.eps = P.eps ∧ P'.epsG = P.epsG ∧
      ∀ k t, t ∈ (P'.delta.lookup k).getD [] ↔ t ∈ (P.delta.lookup k).getD [] := by
  obtain ⟨P1, hp1, hQ1, hS1, hG1, hq1, hF1, he1, he2, hd1⟩ := parse_print_pda P hv hk heq hQ hS hG he
  have hp1' : Parse.parsePdaLines (Text.splitOn '\n' (Parse.printPda P).toList) Parse.isWord = .ok P1 := hp1
  generalize Text.splitOn '\n' (Parse.printPda P).toList = ls at hp hp1'
  obtain ⟨A0, P', _, hP', gQ, _, gq0, gF, ge, geG, gS, gG, gl⟩ := parseLines_bind_layout .pda Parse.isWord pdaOfRaw_congr hp.symm hp1'
  refine ⟨P', hP', ?_, ?_, ?_, gq0.trans hq1, ?_, ge.trans he1, geG.trans he2, ?_⟩
  · intro q; rw [gQ.mem_iff, hQ1]
  · intro a; rw [gS a, hS1]
  · intro x; rw [gG x, hG1]
  · intro q; rw [gF, hF1]
  · intro k t
    exact (gl k t).trans (hd1 k t)

/-- any permutation of the lines of `print_pda P`, with comment and blank lines `cs` inserted anywhere, parses
    to `P` -/
theorem parse_any_layout_pda (P : SPDA) (hv : P.valid = true) (hk : (P.delta.map (·.1)).Nodup)
    (heq : P.epsG = P.eps) (hQ : ∀ q, q ∈ P.Q → Parse.PdaNameOk q)
    (hS : ∀ a, a ∈ P.Sigma → Parse.Char1 Text.isWordChar a)
    (hG : ∀ x, x ∈ P.Gamma → Parse.Char1 (Parse.isLabelSym false) x)
    (he : Parse.Char1 Text.isWordChar P.eps) (text : List Char) (cs : List Parse.Word)
    (hcs : ∀ c, c ∈ cs → Parse.isSkipLine c = true)
    (hp : (Text.splitOn '\n' text).Perm (Text.splitOn '\n' (Parse.printPda P).toList ++ cs)) :
    ∃ P', Parse.parsePda text = .ok P' ∧
      (∀ q, q ∈ P'.Q ↔ q ∈ P.Q) ∧ (∀ a, a ∈ P'.Sigma ↔ a ∈ P.Sigma) ∧ (∀ x, x ∈ P'.Gamma ↔ x ∈ P.Gamma) ∧
      P'.q0 = P.q0 ∧ (∀ q, q ∈ P'.F ↔ q ∈ P.F) ∧ P'.eps = P.eps ∧ P'.epsG = P.epsG ∧
      ∀ k t, t ∈ (P'.delta.lookup k).getD [] ↔ t ∈ (P.delta.lookup k).getD [] := by
  apply parse_any_layout_pda_words P hv hk heq hQ hS hG he text
  exact normLines_perm_skip hcs hp

/-- the printed text of `C16.exP` (`C16.exP_print`; its hypotheses are checked in Props/C16c.lean), its lines
    permuted, with a comment line and a blank line -/
def C17.exPShuffled : List Char :=
  "q q b,Aε\nepsilon ε\n% push\np p a,εA a,ε$\ns p ε,ε$\nstack_symbols $ A\nfinal f\n\nq f ε,$ε\nstates f p q s\np q ε,εε\ninput_symbols a b\n\ninitial s".toList

set_option maxRecDepth 8192 in
example : (Text.splitOn '\n' C17.exPShuffled).Perm
    (Text.splitOn '\n' (Parse.printPda C16.exP).toList ++
      ["% push".toList, "".toList]) ∧
    (∀ c, c ∈ ["% push".toList, "".toList] → Parse.isSkipLine c = true) := by
  rw [C16.exP_print]; unfold C17.exPShuffled; repeat rw [String.toList_ofList]
  decide +kernel

set_option maxRecDepth 8192 in
example : Parse.parsePda C17.exPShuffled =
    .ok { C16.exP with Q := ["f", "p", "q", "s"], Sigma := ["a", "b"], Gamma := ["$", "A"],
                       delta := [(("q", "b", "A"), [("q", "ε")]), (("p", "a", "ε"), [("p", "A"), ("p", "$")]),
                                 (("s", "ε", "ε"), [("p", "$")]), (("q", "ε", "$"), [("f", "ε")]),
                                 (("p", "ε", "ε"), [("q", "ε")])] } := by
  unfold C17.exPShuffled; rw [String.toList_ofList]; decide +kernel

/-- a text whose non-comment, non-blank lines have the same words as those of `print_tm T`, in any order,
    parses to `T` (hypotheses and conclusion of `parse_print_tm`; the keys of the printed transition entries are
    distinct because those of `T.delta` are) -/
theorem parse_any_layout_tm_words (T : TM String String) (hv : T.valid = true) (hk : (T.delta.map (·.1)).Nodup)
    (hQ : ∀ q, q ∈ T.Q → Parse.TmNameOk q)
    (hG : ∀ x, x ∈ T.Gamma → Parse.Char1 (Parse.isLabelSym true) x)
    (hb : Parse.Char1 (Parse.isLabelSym true) T.blank) (text : List Char)
    (hp : (Parse.normLines (Text.splitOn '\n' text)).Perm (Parse.normLines (Text.splitOn '\n' (Parse.printTm T).toList))) :
    ∃ T', Parse.parseTm text = .ok T' ∧
      (∀ q, q ∈ T'.Q ↔ q ∈ T.Q) ∧ (∀ a, a ∈ T'.Sigma ↔ a ∈ T.Sigma) ∧ (∀ x, x ∈ T'.Gamma ↔ x ∈ T.Gamma) ∧
      T'.q0 = T.q0 ∧ T'.qAccept = T.qAccept ∧ T'.qReject = T.qReject ∧ T'.blank = T.blank ∧
      ∀ k, T'.delta.lookup k = T.delta.lookup k := by
  obtain ⟨T1, hp1, hQ1, hS1, hG1, h01, ha1, hr1, hb1, hd1⟩ := parse_print_tm T hv hk hQ hG hb
  have hp1' : Parse.parseTmLines (Text.splitOn '\n' (Parse.printTm T).toList) Parse.isWord = .ok T1 := hp1
  have hraw := parseLines_print_tm T hv hQ hG
  generalize Text.splitOn '\n' (Parse.printTm T).toList = ls at hp hp1' hraw
  obtain ⟨A0, T', hA0, hT', gQ, _, g0, ga, gr, gb, gS, gG, _, gd⟩ := parseLines_bind_layout .tm Parse.isWord tmOfRaw_congr hp.symm hp1'
  rw [hraw] at hA0
  cases hA0
  have hnd := tmRaw_keys_nodup T hv hk hG
  refine ⟨T', hT', ?_, ?_, ?_, g0.trans h01, ga.trans ha1, gr.trans hr1, gb.trans hb1, ?_⟩
  · intro q; rw [gQ.mem_iff, hQ1]
  · intro a; rw [gS a, hS1]
  · intro x; rw [gG x, hG1]
  · intro k
    exact (gd hnd k).trans (hd1 k)

/-- any permutation of the lines of `print_tm T`, with comment and blank lines `cs` inserted anywhere, parses
    to `T` -/
theorem parse_any_layout_tm (T : TM String String) (hv : T.valid = true) (hk : (T.delta.map (·.1)).Nodup)
    (hQ : ∀ q, q ∈ T.Q → Parse.TmNameOk q)
    (hG : ∀ x, x ∈ T.Gamma → Parse.Char1 (Parse.isLabelSym true) x)
    (hb : Parse.Char1 (Parse.isLabelSym true) T.blank) (text : List Char) (cs : List Parse.Word)
    (hcs : ∀ c, c ∈ cs → Parse.isSkipLine c = true)
    (hp : (Text.splitOn '\n' text).Perm (Text.splitOn '\n' (Parse.printTm T).toList ++ cs)) :
    ∃ T', Parse.parseTm text = .ok T' ∧
      (∀ q, q ∈ T'.Q ↔ q ∈ T.Q) ∧ (∀ a, a ∈ T'.Sigma ↔ a ∈ T.Sigma) ∧ (∀ x, x ∈ T'.Gamma ↔ x ∈ T.Gamma) ∧
      T'.q0 = T.q0 ∧ T'.qAccept = T.qAccept ∧ T'.qReject = T.qReject ∧ T'.blank = T.blank ∧
      ∀ k, T'.delta.lookup k = T.delta.lookup k := by
  apply parse_any_layout_tm_words T hv hk hQ hG hb text
  exact normLines_perm_skip hcs hp

/-- the printed text of `C16.exT` (`C16.exT_print`; its hypotheses are checked in Props/C16c.lean), its lines
    permuted, with two comment lines -/
def C17.exTShuffled : List Char :=
  "s s _x,R\nblank _\n% the empty input alphabet stays empty\ninput_symbols \nreject qr\n\ns qa x_,L\ntape_symbols _ x\n%\nstates qa qr s\naccept qa\ninitial s".toList

set_option maxRecDepth 8192 in
example : (Text.splitOn '\n' C17.exTShuffled).Perm
    (Text.splitOn '\n' (Parse.printTm C16.exT).toList ++
      ["% the empty input alphabet stays empty".toList, "%".toList]) ∧
    (∀ c, c ∈ ["% the empty input alphabet stays empty".toList, "%".toList] → Parse.isSkipLine c = true) := by
  rw [C16.exT_print]; unfold C17.exTShuffled; repeat rw [String.toList_ofList]
  decide +kernel

set_option maxRecDepth 8192 in
example : Parse.parseTm C17.exTShuffled =
    .ok { C16.exT with Q := ["qa", "qr", "s"], Sigma := [], Gamma := ["_", "x"],
                       delta := [(("s", "_"), ("s", "x", Dir.R)), (("s", "x"), ("qa", "_", Dir.L))] } := by
  unfold C17.exTShuffled; rw [String.toList_ofList]; decide +kernel

#print axioms parsePda_eq_parsePdaLines
#print axioms parseTm_eq_parseTmLines
#print axioms parsePda_lines_perm
#print axioms parsePda_lines_perm_states
#print axioms parsePda_layout_independent
#print axioms parseTm_lines_perm_weak
#print axioms parseTm_lines_perm
#print axioms parseTm_lines_perm_states
#print axioms parseTm_layout_independent
#print axioms parseTm_lines_perm_needs_nodup
#print axioms parseTm_lines_perm_stmt_false
#print axioms parse_any_layout_nfa_words
#print axioms parse_any_layout_nfa
#print axioms parse_any_layout_pda_words
#print axioms parse_any_layout_pda
#print axioms parse_any_layout_tm_words
#print axioms parse_any_layout_tm

end Gamba
