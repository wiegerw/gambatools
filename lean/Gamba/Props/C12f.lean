/-
  Gamba.Props.C12f — the three `check_*_language_from_words` checkers AS THE NOTEBOOKS CALL THEM, on text
  (`CheckText.dfaLanguageWords`, `CheckText.nfaLanguageWords`, `CheckText.cfgLanguageWords`): the submitted automaton /
  grammar text must have exactly the listed words (`CheckText.parseWordList`, spec `mem_parseWordList` in C12e) as its
  words up to `length`, and an automaton at most `max_states` states when `max_states > 0`.
  Soundness: the verdict `OK` is only printed when the text parses to a valid object, the state bound holds, the object
  agrees with the list on every word of length ≤ `length`, and no listed word is longer than `length` (a longer listed
  word can never be enumerated, so it is reported as missing).  Completeness: in that case `OK` IS printed.  `Error` is
  printed exactly when the text does not parse (the enumerators never raise on a parser result).
  For grammars the link between the enumerator `CFG.wordsUpTo` and the language needs, for a grammar that is not in
  Chomsky normal form, that no terminal is also a variable name; the text format does NOT guarantee it and without it
  the checker is really wrong (see the example after `cfgLanguageWords_text_sound`).
-/
import Gamba.Props.C12h
namespace Gamba
open Parse C12ex

/-- unconditionally: OK iff the text parses (to a valid DFA without repeated state), the state bound holds and the
    enumeration `dfa_words_up_to_n` lists exactly the listed words -/
theorem dfaLanguageWords_text_verdicts (answer wordList : String) (len maxStates : Nat) :
    CheckText.dfaLanguageWords answer wordList len maxStates = .ok ↔
      ∃ A, Parse.parseDfa answer.toList = .ok A ∧ A.valid = true ∧ (maxStates = 0 ∨ A.Q.length ≤ maxStates) ∧
        ∀ w, w ∈ A.wordsUpTo len ↔ w ∈ CheckText.parseWordList wordList := by
  rw [← languageWords_dfa_eq answer wordList {} len maxStates, languageWords_text_ok_iff]
  constructor
  · rintro ⟨nQ, L, hL, hb, hw⟩
    obtain ⟨A, hA, rfl, rfl⟩ := C12h.langOfText_dfa_some hL
    have pA := parsedDfa_of hA
    rw [dedup_eq_self_of_nodup pA.nodupQ] at hb
    exact ⟨A, hA, pA.valid, (C12a.maxStatesOk_iff _ _).mp hb, hw⟩
  · rintro ⟨A, hA, _, hb, hw⟩
    refine ⟨_, _, C12h.langOfText_dfa_of_parse hA {} len, ?_, hw⟩
    rw [dedup_eq_self_of_nodup (parsedDfa_of hA).nodupQ]
    exact (C12a.maxStatesOk_iff _ _).mpr hb

/-- `check_dfa_language_from_words` on text: OK ⇒ the text parses to a valid DFA with at most `maxStates` states (if a
    bound is set), which accepts, among the words of length ≤ len, exactly the listed ones; and every listed word has
    length ≤ len -/
theorem dfaLanguageWords_text_sound (answer wordList : String) (len maxStates : Nat)
    (h : CheckText.dfaLanguageWords answer wordList len maxStates = .ok) :
    ∃ A, Parse.parseDfa answer.toList = .ok A ∧ A.valid = true ∧ (maxStates = 0 ∨ A.Q.length ≤ maxStates) ∧
      (∀ w, w.length ≤ len →
        (((∀ a, a ∈ w → a ∈ A.Sigma) ∧ A.Accepts w) ↔ w ∈ CheckText.parseWordList wordList)) ∧
      ∀ w, w ∈ CheckText.parseWordList wordList → w.length ≤ len := by
  obtain ⟨A, hA, vA, hb, hw⟩ := (dfaLanguageWords_text_verdicts _ _ _ _).mp h
  exact ⟨A, hA, vA, hb, (Enum.list_iff (dfa_words_exact A vA len)).mp hw⟩

/-- … in the strongest form: a valid DFA accepts no word with a foreign symbol, so the alphabet clause can be dropped -/
theorem dfaLanguageWords_text_lang (answer wordList : String) (len maxStates : Nat)
    (h : CheckText.dfaLanguageWords answer wordList len maxStates = .ok) :
    ∃ A, Parse.parseDfa answer.toList = .ok A ∧ (maxStates = 0 ∨ A.Q.length ≤ maxStates) ∧
      (∀ w, w.length ≤ len → (A.Accepts w ↔ w ∈ CheckText.parseWordList wordList)) ∧
      ∀ w, w ∈ CheckText.parseWordList wordList → w.length ≤ len := by
  obtain ⟨A, hA, vA, hb, hw⟩ := (dfaLanguageWords_text_verdicts _ _ _ _).mp h
  exact ⟨A, hA, hb, (DFA.enum vA len).list_iff.mp hw⟩

-- test vectors: their proof shape is explained in the header of Proofs/C12ex.lean
-- words ending in `a` (states `p`, `q`); the words of length ≤ 2 are `a`, `aa`, `ba` (listed in another order, one twice)
example : CheckText.dfaLanguageWords "initial p\nfinal q\np q a\np p b\nq q a\nq p b" "ba a  aa\na" 2 2 = .ok := by
  rw [CheckText.dfaLanguageWords, endsA_parse]; decide +kernel
-- no state bound (`max_states = 0`)
example : CheckText.dfaLanguageWords "initial p\nfinal q\np q a\np p b\nq q a\nq p b" "a aa ba" 2 0 = .ok := by
  rw [CheckText.dfaLanguageWords, endsA_parse]; decide +kernel
-- the empty word is listed as `ε` or `_` (even length, bound 2: ε, aa)
example : CheckText.dfaLanguageWords "initial e\nfinal e\ne o a\no e a" "ε aa" 2 2 = .ok ∧
    CheckText.dfaLanguageWords "initial e\nfinal e\ne o a\no e a" "aa _" 3 2 = .ok := by decide +kernel
-- a missing word (`ba` is accepted but not listed) / an extra word (`b` is listed but not accepted): feedback
example : CheckText.dfaLanguageWords "initial p\nfinal q\np q a\np p b\nq q a\nq p b" "a aa" 2 2 = .feedback := by
  rw [CheckText.dfaLanguageWords, endsA_parse]; decide +kernel
example : CheckText.dfaLanguageWords "initial p\nfinal q\np q a\np p b\nq q a\nq p b" "a aa ba b" 2 2 = .feedback := by
  rw [CheckText.dfaLanguageWords, endsA_parse]; decide +kernel
-- too many states (2 > 1): feedback
example : CheckText.dfaLanguageWords "initial p\nfinal q\np q a\np p b\nq q a\nq p b" "a aa ba" 2 1 = .feedback := by
  rw [CheckText.dfaLanguageWords, endsA_parse]; decide +kernel
-- a listed word longer than the bound, although accepted (`aba`): feedback — the last conjunct of the theorem
example : CheckText.dfaLanguageWords "initial p\nfinal q\np q a\np p b\nq q a\nq p b" "a aa ba aba" 2 2 = .feedback := by
  rw [CheckText.dfaLanguageWords, endsA_parse]; decide +kernel
-- a listed word with a foreign symbol is just an extra word: feedback, no `Error` (unlike `check_dfa_accepts_rejects`)
example : CheckText.dfaLanguageWords "initial p\nfinal q\np q a\np p b\nq q a\nq p b" "a aa ba ca" 2 2 = .feedback := by
  rw [CheckText.dfaLanguageWords, endsA_parse]; decide +kernel
-- a partial transition table does not parse: `Error`
example : CheckText.dfaLanguageWords "initial p\nfinal q\np q a\np p b\nq q a" "a aa ba" 2 2 = .error := by decide +kernel
-- consequence on the first example: the parsed DFA has ≤ 2 states, accepts `b a` and rejects `a b`
example : ∃ A, Parse.parseDfa "initial p\nfinal q\np q a\np p b\nq q a\nq p b".toList = .ok A ∧ A.Q.length ≤ 2 ∧
    A.Accepts ["b", "a"] ∧ ¬ A.Accepts ["a", "b"] := by
  obtain ⟨A, hA, hb, hw, _⟩ := dfaLanguageWords_text_lang
    "initial p\nfinal q\np q a\np p b\nq q a\nq p b" "ba a  aa\na" 2 2
    (by rw [CheckText.dfaLanguageWords, endsA_parse]; decide +kernel)
  refine ⟨A, hA, hb.resolve_left (by decide +kernel), (hw _ (by decide +kernel)).mpr (by decide +kernel), fun hc => ?_⟩
  exact absurd ((hw _ (by decide +kernel)).mp hc) (by decide +kernel)

/-- completeness: if the text parses, the state bound holds, the DFA accepts among the words of length ≤ len exactly
    the listed ones, and no listed word is longer, the verdict is `OK` -/
theorem dfaLanguageWords_text_complete (answer wordList : String) (len maxStates : Nat) (A : DFA String String)
    (hp : Parse.parseDfa answer.toList = .ok A) (hb : maxStates = 0 ∨ A.Q.length ≤ maxStates)
    (hw : ∀ w, w.length ≤ len → (A.Accepts w ↔ w ∈ CheckText.parseWordList wordList))
    (hl : ∀ w, w ∈ CheckText.parseWordList wordList → w.length ≤ len) :
    CheckText.dfaLanguageWords answer wordList len maxStates = .ok := by
  have vA := (parsedDfa_of hp).valid
  exact (dfaLanguageWords_text_verdicts _ _ _ _).mpr ⟨A, hp, vA, hb, (DFA.enum vA len).list_iff.mpr ⟨hw, hl⟩⟩

example : ∃ A, Parse.parseDfa "initial p\nfinal q\np q a\np p b\nq q a\nq p b".toList = .ok A ∧
    (2 = 0 ∨ A.Q.length ≤ 2) ∧ ∀ w, w ∈ CheckText.parseWordList "a aa ba" → w.length ≤ 2 :=
  ⟨_, endsA_parse, by decide +kernel, by decide +kernel⟩

/-- soundness and completeness in one statement (with the length bound on the list) -/
theorem dfaLanguageWords_text_ok_iff (answer wordList : String) (len maxStates : Nat) :
    CheckText.dfaLanguageWords answer wordList len maxStates = .ok ↔
      ∃ A, Parse.parseDfa answer.toList = .ok A ∧ (maxStates = 0 ∨ A.Q.length ≤ maxStates) ∧
        (∀ w, w.length ≤ len →
          (((∀ a, a ∈ w → a ∈ A.Sigma) ∧ A.Accepts w) ↔ w ∈ CheckText.parseWordList wordList)) ∧
        ∀ w, w ∈ CheckText.parseWordList wordList → w.length ≤ len := by
  constructor
  · intro h
    obtain ⟨A, hA, _, hb, hw, hl⟩ := dfaLanguageWords_text_sound answer wordList len maxStates h
    exact ⟨A, hA, hb, hw, hl⟩
  · rintro ⟨A, hA, hb, hw, hl⟩
    have vA := (parsedDfa_of hA).valid
    exact (dfaLanguageWords_text_verdicts _ _ _ _).mpr ⟨A, hA, vA, hb, (Enum.list_iff (dfa_words_exact A vA len)).mpr ⟨hw, hl⟩⟩

/-- … equivalently, in one clause: the accepted words of length ≤ len are exactly the listed words -/
theorem dfaLanguageWords_text_ok_iff_set (answer wordList : String) (len maxStates : Nat) :
    CheckText.dfaLanguageWords answer wordList len maxStates = .ok ↔
      ∃ A, Parse.parseDfa answer.toList = .ok A ∧ (maxStates = 0 ∨ A.Q.length ≤ maxStates) ∧
        ∀ w, (w.length ≤ len ∧ A.Accepts w) ↔ w ∈ CheckText.parseWordList wordList := by
  rw [dfaLanguageWords_text_verdicts]
  constructor
  · rintro ⟨A, hA, vA, hb, hw⟩
    exact ⟨A, hA, hb, fun w => (DFA.enum vA len w).symm.trans (hw w)⟩
  · rintro ⟨A, hA, hb, hw⟩
    have vA := (parsedDfa_of hA).valid
    exact ⟨A, hA, vA, hb, fun w => (DFA.enum vA len w).trans (hw w)⟩

/-- the verdict `Error`: exactly when the text does not parse -/
theorem dfaLanguageWords_text_error_iff (answer wordList : String) (len maxStates : Nat) :
    CheckText.dfaLanguageWords answer wordList len maxStates = .error ↔ ∃ e, Parse.parseDfa answer.toList = .error e := by
  rw [← languageWords_dfa_eq answer wordList {} len maxStates, languageWords_text_error_iff]
  exact C12h.langOfText_dfa_none

/-- hence feedback is printed only for a parsable text whose DFA has too many states, or misses a listed word of
    length ≤ len, or accepts an unlisted word of length ≤ len, or when a listed word is longer than len -/
theorem dfaLanguageWords_text_feedback (answer wordList : String) (len maxStates : Nat)
    (h : CheckText.dfaLanguageWords answer wordList len maxStates = .feedback) :
    ∃ A, Parse.parseDfa answer.toList = .ok A ∧ A.valid = true ∧
      ((0 < maxStates ∧ maxStates < A.Q.length) ∨
       (∃ w, w ∈ CheckText.parseWordList wordList ∧ (len < w.length ∨ ¬ A.Accepts w)) ∨
       (∃ w, w.length ≤ len ∧ A.Accepts w ∧ w ∉ CheckText.parseWordList wordList)) := by
  have hne : CheckText.dfaLanguageWords answer wordList len maxStates ≠ .error := by rw [h]; decide
  have hno : CheckText.dfaLanguageWords answer wordList len maxStates ≠ .ok := by rw [h]; decide
  cases hA : Parse.parseDfa answer.toList with
  | error e => exact absurd ((dfaLanguageWords_text_error_iff _ _ _ _).mpr ⟨e, hA⟩) hne
  | ok A =>
    refine ⟨A, rfl, (parsedDfa_of hA).valid, Classical.byContradiction fun hn => hno ?_⟩
    refine dfaLanguageWords_text_complete answer wordList len maxStates A hA ?_ (fun w hlen => ⟨fun ha => ?_, fun hm => ?_⟩)
      (fun w hm => ?_)
    · exact Classical.byContradiction fun hb => hn (Or.inl (by omega))
    · exact Classical.byContradiction fun hm => hn (Or.inr (Or.inr ⟨w, hlen, ha, hm⟩))
    · exact Classical.byContradiction fun ha => hn (Or.inr (Or.inl ⟨w, hm, Or.inr ha⟩))
    · exact Classical.byContradiction fun hlen => hn (Or.inr (Or.inl ⟨w, hm, Or.inl (by omega)⟩))

/-- `check_nfa_language_from_words` on text, for every pop order of the ε-closure worklists: OK ⇒ the text parses to a
    valid NFA with at most `maxStates` states (if a bound is set), which accepts, among the words of length ≤ len,
    exactly the listed ones; and every listed word has length ≤ len -/
theorem nfaLanguageWords_text_sound (answer wordList : String) (s : Sched) (len maxStates : Nat)
    (h : CheckText.nfaLanguageWords answer wordList s len maxStates = .ok) :
    ∃ A, Parse.parseNfa answer.toList = .ok A ∧ A.valid = true ∧ (maxStates = 0 ∨ A.Q.length ≤ maxStates) ∧
      (∀ w, w.length ≤ len →
        (((∀ a, a ∈ w → a ∈ A.Sigma) ∧ A.Accepts w) ↔ w ∈ CheckText.parseWordList wordList)) ∧
      ∀ w, w ∈ CheckText.parseWordList wordList → w.length ≤ len := by
  obtain ⟨nQ, L, hL, hb, hw⟩ :=
    languageWords_text_sound .nfa answer wordList { sched := s } len maxStates (languageWords_nfa_eq .. ▸ h)
  obtain ⟨A, hA, rfl, h2⟩ := C12h.langOfText_nfa_some hL
  have pA := parsedNfa_of hA
  rw [dedup_eq_self_of_nodup pA.nodupQ] at hb
  obtain ⟨L', e, hm⟩ := nfa_words_exact A pA.valid s len
  cases h2.symm.trans e
  exact ⟨A, hA, pA.valid, (C12a.maxStatesOk_iff _ _).mp hb, (Enum.list_iff hm).mp hw⟩

/-- … in the strongest form: a valid NFA accepts no word with a foreign symbol either -/
theorem nfaLanguageWords_text_lang (answer wordList : String) (s : Sched) (len maxStates : Nat)
    (h : CheckText.nfaLanguageWords answer wordList s len maxStates = .ok) :
    ∃ A, Parse.parseNfa answer.toList = .ok A ∧ (maxStates = 0 ∨ A.Q.length ≤ maxStates) ∧
      (∀ w, w.length ≤ len → (A.Accepts w ↔ w ∈ CheckText.parseWordList wordList)) ∧
      ∀ w, w ∈ CheckText.parseWordList wordList → w.length ≤ len := by
  obtain ⟨A, hA, vA, hb, hw, hl⟩ := nfaLanguageWords_text_sound answer wordList s len maxStates h
  exact ⟨A, hA, hb, fun w hlen => (and_iff_right_of_imp (NFA.Accepts.over vA)).symm.trans (hw w hlen), hl⟩

-- `A -x-> B`, `A -ε-> B`, accepting `B`: the language is {ε, x}; two pop orders
example : CheckText.nfaLanguageWords "initial A\nfinal B\nA B x ε" "x _" [3, 1, 2] 3 2 = .ok ∧
    CheckText.nfaLanguageWords "initial A\nfinal B\nA B x ε" "ε x" [] 3 0 = .ok := by
  rw [CheckText.nfaLanguageWords, CheckText.nfaLanguageWords, exN_parse]; decide +kernel
-- a missing word (ε) / an extra word (`xx`) / too many states (2 > 1): feedback
example : CheckText.nfaLanguageWords "initial A\nfinal B\nA B x ε" "x" [] 3 2 = .feedback := by
  rw [CheckText.nfaLanguageWords, exN_parse]; decide +kernel
example : CheckText.nfaLanguageWords "initial A\nfinal B\nA B x ε" "x ε xx" [] 3 2 = .feedback := by
  rw [CheckText.nfaLanguageWords, exN_parse]; decide +kernel
example : CheckText.nfaLanguageWords "initial A\nfinal B\nA B x ε" "x ε" [] 3 1 = .feedback := by
  rw [CheckText.nfaLanguageWords, exN_parse]; decide +kernel
-- a listed word longer than the bound (`x`, bound 0): feedback
example : CheckText.nfaLanguageWords "initial A\nfinal B\nA B x ε" "x ε" [] 0 2 = .feedback := by
  rw [CheckText.nfaLanguageWords, exN_parse]; decide +kernel
-- two initial states: `Error`
example : CheckText.nfaLanguageWords "initial A B\nfinal B\nA B x ε" "x ε" [] 3 2 = .error := by decide +kernel
-- consequence on the first example: the parsed NFA accepts `x` and ε and rejects `x x`
example : ∃ A, Parse.parseNfa "initial A\nfinal B\nA B x ε".toList = .ok A ∧ A.Accepts ["x"] ∧ A.Accepts [] ∧
    ¬ A.Accepts ["x", "x"] := by
  obtain ⟨A, hA, _, hw, _⟩ := nfaLanguageWords_text_lang "initial A\nfinal B\nA B x ε" "x _" [3, 1, 2] 3 2
    (by rw [CheckText.nfaLanguageWords, exN_parse]; decide +kernel)
  refine ⟨A, hA, (hw _ (by decide +kernel)).mpr (by decide +kernel), (hw _ (by decide +kernel)).mpr (by decide +kernel), fun hc => ?_⟩
  exact absurd ((hw _ (by decide +kernel)).mp hc) (by decide +kernel)

/-- completeness, for every pop order (the enumeration cannot fail on a parser result): if the text parses, the state
    bound holds, the NFA accepts among the words of length ≤ len exactly the listed ones, and no listed word is longer,
    the verdict is `OK` -/
theorem nfaLanguageWords_text_complete (answer wordList : String) (s : Sched) (len maxStates : Nat)
    (A : NFA String String) (hp : Parse.parseNfa answer.toList = .ok A)
    (hb : maxStates = 0 ∨ A.Q.length ≤ maxStates)
    (hw : ∀ w, w.length ≤ len → (A.Accepts w ↔ w ∈ CheckText.parseWordList wordList))
    (hl : ∀ w, w ∈ CheckText.parseWordList wordList → w.length ≤ len) :
    CheckText.nfaLanguageWords answer wordList s len maxStates = .ok := by
  have pA := parsedNfa_of hp
  obtain ⟨L, hL, _⟩ := nfa_words_exact A pA.valid s len
  rw [← languageWords_nfa_eq answer wordList { sched := s } len maxStates, languageWords_text_ok_iff]
  refine ⟨_, L, C12h.langOfText_nfa_of_parse hp hL, ?_, (NFA.enum pA.valid hL).list_iff.mpr ⟨hw, hl⟩⟩
  rw [dedup_eq_self_of_nodup pA.nodupQ]
  exact (C12a.maxStatesOk_iff _ _).mpr hb

example : ∃ A, Parse.parseNfa "initial A\nfinal B\nA B x ε".toList = .ok A ∧
    (2 = 0 ∨ A.Q.length ≤ 2) ∧ ∀ w, w ∈ CheckText.parseWordList "x _" → w.length ≤ 3 :=
  ⟨_, exN_parse, by decide +kernel, by decide +kernel⟩

/-- soundness and completeness in one statement; the right-hand side does not mention the pop order -/
theorem nfaLanguageWords_text_ok_iff (answer wordList : String) (s : Sched) (len maxStates : Nat) :
    CheckText.nfaLanguageWords answer wordList s len maxStates = .ok ↔
      ∃ A, Parse.parseNfa answer.toList = .ok A ∧ (maxStates = 0 ∨ A.Q.length ≤ maxStates) ∧
        (∀ w, w.length ≤ len →
          (((∀ a, a ∈ w → a ∈ A.Sigma) ∧ A.Accepts w) ↔ w ∈ CheckText.parseWordList wordList)) ∧
        ∀ w, w ∈ CheckText.parseWordList wordList → w.length ≤ len := by
  constructor
  · intro h
    obtain ⟨A, hA, _, hb, hw, hl⟩ := nfaLanguageWords_text_sound answer wordList s len maxStates h
    exact ⟨A, hA, hb, hw, hl⟩
  · rintro ⟨A, hA, hb, hw, hl⟩
    have vA := (parsedNfa_of hA).valid
    exact nfaLanguageWords_text_complete answer wordList s len maxStates A hA hb
      (fun w hlen => (and_iff_right_of_imp (NFA.Accepts.over vA)).symm.trans (hw w hlen)) hl

/-- in particular the verdict `OK` does not depend on the pop order -/
theorem nfaLanguageWords_text_sched (answer wordList : String) (s s' : Sched) (len maxStates : Nat) :
    CheckText.nfaLanguageWords answer wordList s len maxStates = .ok ↔
      CheckText.nfaLanguageWords answer wordList s' len maxStates = .ok := by
  rw [nfaLanguageWords_text_ok_iff, nfaLanguageWords_text_ok_iff]

/-- the verdict `Error`: exactly when the text does not parse (`nfa_words_up_to_n` never raises on a parser result) -/
theorem nfaLanguageWords_text_error_iff (answer wordList : String) (s : Sched) (len maxStates : Nat) :
    CheckText.nfaLanguageWords answer wordList s len maxStates = .error ↔
      ∃ e, Parse.parseNfa answer.toList = .error e := by
  rw [← languageWords_nfa_eq answer wordList { sched := s } len maxStates, languageWords_text_error_iff]
  exact C12h.langOfText_nfa_none

/-- unconditionally: OK iff the grammar text parses (to a valid grammar with declared start variable and the aliasing
    invariant) and the enumeration `cfg_words_up_to_n` (CNF conversion + bottom-up generation) lists exactly the listed
    words -/
theorem cfgLanguageWords_text_verdicts (answer wordList : String) (len : Nat) :
    CheckText.cfgLanguageWords answer wordList len = .ok ↔
      ∃ G e, CfgText.parseSimpleCfg answer.toList = .ok (G, e) ∧ G.valid = true ∧ G.S ∈ G.V ∧ CFG.AliasOK G ∧
        ∀ w, w ∈ G.wordsUpTo len ↔ w ∈ CheckText.parseWordList wordList := by
  rw [← languageWords_cfg_eq answer wordList {} len, languageWords_text_ok_iff]
  constructor
  · rintro ⟨nQ, L, hL, _, hw⟩
    obtain ⟨G, eps, hG, _, rfl⟩ := C12h.langOfText_cfg_some hL
    obtain ⟨v, sv, al⟩ := parseSimpleCfg_ok_valid _ G eps hG
    exact ⟨G, eps, hG, v, sv, al, hw⟩
  · rintro ⟨G, e, hG, _, _, _, hw⟩
    exact ⟨_, _, C12h.langOfText_cfg_of_parse hG {} len, C12a.maxStatesOk_zero 0, hw⟩

/-- `check_cfg_language_from_words` on text: OK ⇒ the text parses to a valid grammar and — when the parsed grammar is
    in Chomsky normal form, or no terminal of it is also a variable name (nor the name `toChomsky` picks for the new
    start variable), which the text format does NOT guarantee — its words of length ≤ len are exactly the listed ones,
    and every listed word has length ≤ len.
    `S ∈ V` and `AliasOK`, the other hypotheses of `cfg_words_exact`, hold for every parser result. -/
theorem cfgLanguageWords_text_sound (answer wordList : String) (len : Nat)
    (h : CheckText.cfgLanguageWords answer wordList len = .ok) :
    ∃ G e, CfgText.parseSimpleCfg answer.toList = .ok (G, e) ∧ G.valid = true ∧
      ((G.isChomsky = true ∨ ∀ a, a ∈ G.Sigma → a ∉ G.V ∧ a ≠ CFG.freshVariable G.V "S") →
        (∀ w, w.length ≤ len → (G.Lang w ↔ w ∈ CheckText.parseWordList wordList)) ∧
        ∀ w, w ∈ CheckText.parseWordList wordList → w.length ≤ len) := by
  obtain ⟨G, e, hG, v, sv, _, hw⟩ := (cfgLanguageWords_text_verdicts _ _ _).mp h
  exact ⟨G, e, hG, v, fun hside => (Enum.list_iff (cfg_words_exact_side v sv hside len)).mp hw⟩

-- `{aⁿbⁿ}` (not in CNF: the conversion runs); up to length 4 and 5: ε, ab, aabb
example : CheckText.cfgLanguageWords "S -> aSb | ε" "ε ab aabb" 4 = .ok ∧
    CheckText.cfgLanguageWords "S -> aSb | ε" "aabb ab _ ab" 5 = .ok := by
  rw [CheckText.cfgLanguageWords, CheckText.cfgLanguageWords, C12e.exAnBn_parse]; decide +kernel
-- a CNF grammar for `{ab, a}`
example : CheckText.cfgLanguageWords "S -> AB | a\nA -> a\nB -> b" "ab a" 3 = .ok := by
  rw [CheckText.cfgLanguageWords, exG_parse]; decide +kernel
-- a missing word (`aabb` is generated but not listed) / an extra word (`ba` is listed but not generated): feedback
example : CheckText.cfgLanguageWords "S -> aSb | ε" "ε ab" 4 = .feedback := by
  rw [CheckText.cfgLanguageWords, C12e.exAnBn_parse]; dsimp only; rw [C12e.exAnBn_words4]; decide +kernel
example : CheckText.cfgLanguageWords "S -> aSb | ε" "ε ab aabb ba" 4 = .feedback := by
  rw [CheckText.cfgLanguageWords, C12e.exAnBn_parse]; dsimp only; rw [C12e.exAnBn_words4]; decide +kernel
-- a listed word longer than the bound, although generated (`aaabbb`): feedback
example : CheckText.cfgLanguageWords "S -> aSb | ε" "ε ab aabb aaabbb" 4 = .feedback := by
  rw [CheckText.cfgLanguageWords, C12e.exAnBn_parse]; dsimp only; rw [C12e.exAnBn_words4]; decide +kernel
-- a text that does not parse; a variable without rule: `Error`
example : CheckText.cfgLanguageWords "S => a" "a" 4 = .error := by decide +kernel
example : CheckText.cfgLanguageWords "S -> aT" "a" 4 = .error := by decide +kernel
-- the side condition holds for the first example, and the conclusion follows: `aabb ∈ L`, `abb ∉ L`
example : ∃ G, CfgText.parseSimpleCfg "S -> aSb | ε".toList = .ok (G, "ε") ∧
    (∀ a, a ∈ G.Sigma → a ∉ G.V ∧ a ≠ CFG.freshVariable G.V "S") ∧
    G.Lang ["a", "a", "b", "b"] ∧ ¬ G.Lang ["a", "b", "b"] := by
  obtain ⟨G, e, h1, _, hL⟩ := cfgLanguageWords_text_sound "S -> aSb | ε" "ε ab aabb" 4
    (by rw [CheckText.cfgLanguageWords, C12e.exAnBn_parse]; dsimp only; rw [C12e.exAnBn_words4]; decide +kernel)
  rw [C12e.exAnBn_parse] at h1
  cases h1
  have hd : ∀ a, a ∈ C12e.exAnBn.Sigma → a ∉ C12e.exAnBn.V ∧ a ≠ CFG.freshVariable C12e.exAnBn.V "S" := by decide +kernel
  refine ⟨_, C12e.exAnBn_parse, hd, ((hL (Or.inr hd)).1 _ (by decide +kernel)).mpr (by decide +kernel), fun hc => ?_⟩
  exact absurd (((hL (Or.inr hd)).1 _ (by decide +kernel)).mp hc) (by decide +kernel)
-- the side condition is NEEDED: `S -> a | bb`, `a -> b` parses (the lower-case `a` is a variable AND a terminal, the
-- grammar is not in CNF); `toChomsky` takes the rule `S -> a` for a unit rule and adds `S -> b`: the checker prints OK
-- for the list `a b bb` although `b` is not in the language {a, bb} of the parsed grammar, and prints feedback for
-- the right list `a bb`
example : CheckText.cfgLanguageWords "S -> a | bb\na -> b" "a b bb" 2 = .ok ∧
    CheckText.cfgLanguageWords "S -> a | bb\na -> b" "a bb" 2 = .feedback ∧
    CfgText.parseSimpleCfg "S -> a | bb\na -> b".toList = .ok (C12e.exBad, "_") ∧
    ["b"] ∈ CheckText.parseWordList "a b bb" ∧ ¬ C12e.exBad.Lang ["b"] ∧
    C12e.exBad.isChomsky = false ∧ "a" ∈ C12e.exBad.Sigma ∧ "a" ∈ C12e.exBad.V :=
  ⟨by rw [CheckText.cfgLanguageWords, C12e.exBad_parse]; decide +kernel,
    by rw [CheckText.cfgLanguageWords, C12e.exBad_parse]; decide +kernel, C12e.exBad_parse, by decide +kernel,
    C12e.exBad_not_lang_b, by decide +kernel, by decide +kernel, by decide +kernel⟩

/-- completeness: if the text parses to a grammar in CNF or in which no terminal is a variable name, its words of
    length ≤ len are exactly the listed ones and no listed word is longer, the verdict is `OK` -/
theorem cfgLanguageWords_text_complete (answer wordList : String) (len : Nat) (G : CFG) (e : String)
    (hp : CfgText.parseSimpleCfg answer.toList = .ok (G, e))
    (hside : G.isChomsky = true ∨ ∀ a, a ∈ G.Sigma → a ∉ G.V ∧ a ≠ CFG.freshVariable G.V "S")
    (hw : ∀ w, w.length ≤ len → (G.Lang w ↔ w ∈ CheckText.parseWordList wordList))
    (hl : ∀ w, w ∈ CheckText.parseWordList wordList → w.length ≤ len) :
    CheckText.cfgLanguageWords answer wordList len = .ok := by
  obtain ⟨v, sv, al⟩ := parseSimpleCfg_ok_valid _ G e hp
  exact (cfgLanguageWords_text_verdicts _ _ _).mpr
    ⟨G, e, hp, v, sv, al, (Enum.list_iff (cfg_words_exact_side v sv hside len)).mpr ⟨hw, hl⟩⟩

example : ∃ G, CfgText.parseSimpleCfg "S -> AB | a\nA -> a\nB -> b".toList = .ok (G, "_") ∧ G.isChomsky = true ∧
    (∀ a, a ∈ G.Sigma → a ∉ G.V ∧ a ≠ CFG.freshVariable G.V "S") ∧
    ∀ w, w ∈ CheckText.parseWordList "ab a" → w.length ≤ 3 :=
  ⟨_, exG_parse, by decide +kernel, by decide +kernel, by decide +kernel⟩

/-- soundness and completeness in one statement, for a parsed grammar that satisfies the side condition -/
theorem cfgLanguageWords_text_ok_iff (answer wordList : String) (len : Nat) (G : CFG) (e : String)
    (hp : CfgText.parseSimpleCfg answer.toList = .ok (G, e))
    (hside : G.isChomsky = true ∨ ∀ a, a ∈ G.Sigma → a ∉ G.V ∧ a ≠ CFG.freshVariable G.V "S") :
    CheckText.cfgLanguageWords answer wordList len = .ok ↔
      (∀ w, w.length ≤ len → (G.Lang w ↔ w ∈ CheckText.parseWordList wordList)) ∧
      ∀ w, w ∈ CheckText.parseWordList wordList → w.length ≤ len := by
  constructor
  · intro h
    obtain ⟨G', e', hG', _, hL⟩ := cfgLanguageWords_text_sound answer wordList len h
    rw [hp] at hG'; cases hG'
    exact hL hside
  · rintro ⟨hw, hl⟩
    exact cfgLanguageWords_text_complete answer wordList len G e hp hside hw hl

example : ∃ G, CfgText.parseSimpleCfg "S -> aSb | ε".toList = .ok (G, "ε") ∧
    (G.isChomsky = true ∨ ∀ a, a ∈ G.Sigma → a ∉ G.V ∧ a ≠ CFG.freshVariable G.V "S") :=
  ⟨_, C12e.exAnBn_parse, Or.inr (by decide +kernel)⟩

/-- the verdict `Error`: exactly when the text does not parse (`cfg_words_up_to_n` is total in the model) -/
theorem cfgLanguageWords_text_error_iff (answer wordList : String) (len : Nat) :
    CheckText.cfgLanguageWords answer wordList len = .error ↔ ∃ e, CfgText.parseSimpleCfg answer.toList = .error e := by
  rw [← languageWords_cfg_eq answer wordList {} len, languageWords_text_error_iff]
  exact C12h.langOfText_cfg_none

/-- the verdict `OK` is returned only if the first argument parses (the clauses of `text_ok_not_error` for the three
    checkers; word lists always parse) -/
theorem languageWords_ok_not_error :
    (∀ answer wordList len maxStates, CheckText.dfaLanguageWords answer wordList len maxStates = .ok →
      ∃ A, parseDfa answer.toList = .ok A) ∧
    (∀ answer wordList s len maxStates, CheckText.nfaLanguageWords answer wordList s len maxStates = .ok →
      ∃ A, parseNfa answer.toList = .ok A) ∧
    (∀ answer wordList len, CheckText.cfgLanguageWords answer wordList len = .ok →
      ∃ G, CfgText.parseSimpleCfg answer.toList = .ok G) := by
  refine ⟨?_, ?_, ?_⟩
  · intro answer wordList len maxStates h
    obtain ⟨A, hA, _⟩ := (dfaLanguageWords_text_verdicts _ _ _ _).mp h
    exact ⟨A, hA⟩
  · intro answer wordList s len maxStates h
    obtain ⟨A, hA, _⟩ := nfaLanguageWords_text_sound _ _ _ _ _ h
    exact ⟨A, hA⟩
  · intro answer wordList len h
    obtain ⟨G, e, hG, _⟩ := (cfgLanguageWords_text_verdicts _ _ _).mp h
    exact ⟨_, hG⟩

section
open CheckAll
/-- a transferred theorem, as an illustration: `dfaLanguageWords_text_lang` for the generic checker of C12h -/
example (a ws : String) (e : Env) (len m : Nat) (h : languageWords .dfa a ws e len m = .ok) :
    ∃ A, Parse.parseDfa a.toList = .ok A ∧ (m = 0 ∨ A.Q.length ≤ m) ∧
      (∀ w, w.length ≤ len → (A.Accepts w ↔ w ∈ CheckText.parseWordList ws)) ∧
      ∀ w, w ∈ CheckText.parseWordList ws → w.length ≤ len :=
  dfaLanguageWords_text_lang a ws len m (languageWords_dfa_eq a ws e len m ▸ h)
end

#print axioms dfaLanguageWords_text_verdicts
#print axioms dfaLanguageWords_text_sound
#print axioms dfaLanguageWords_text_lang
#print axioms dfaLanguageWords_text_complete
#print axioms dfaLanguageWords_text_ok_iff
#print axioms dfaLanguageWords_text_ok_iff_set
#print axioms dfaLanguageWords_text_error_iff
#print axioms dfaLanguageWords_text_feedback
#print axioms nfaLanguageWords_text_sound
#print axioms nfaLanguageWords_text_lang
#print axioms nfaLanguageWords_text_complete
#print axioms nfaLanguageWords_text_ok_iff
#print axioms nfaLanguageWords_text_sched
#print axioms nfaLanguageWords_text_error_iff
#print axioms cfgLanguageWords_text_verdicts
#print axioms cfgLanguageWords_text_sound
#print axioms cfgLanguageWords_text_complete
#print axioms cfgLanguageWords_text_ok_iff
#print axioms cfgLanguageWords_text_error_iff
#print axioms languageWords_ok_not_error

end Gamba
