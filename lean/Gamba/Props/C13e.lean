/-
  Gamba.Props.C13e — two END-TO-END statements about the library's answer keys
  ("the library's own answer passes the library's own checker"):

  * DFA → regular expression exercise: `dfa_to_regexp(D)` (fresh GNFA state names as picked by `dfa_to_gnfa`, any
    elimination order), printed by `print_regexp_simple`, re-parses with the parser of regexp_simple.g4, and the
    re-parsed expression passes `check_equal_languages` against `D` for every length bound — provided the symbols
    of `D` are single letters (what the simple syntax can express).
  * minimal-DFA exercise: the quotient / Hopcroft answer keys pass `check_dfa_minimal` whenever the state names of
    `D` are clean (`CleanName`, Proofs/C03n: non-empty, no comma); the naming-injectivity hypothesis of `own_minimal_*_ok` is discharged.
-/
import Gamba.Props.C03n
import Gamba.Props.C06b
import Gamba.Props.C13a
import Gamba.Props.C16d
import Gamba.Proofs.C13e
import Gamba.Proofs.C04n
namespace Gamba

/-- every expression over single letters that denotes the language of `D` passes, as TEXT, the checker of the exercise -/
theorem C13e.dfa2regexp_key {D : DFA String String} (hv : D.valid = true) {r : Regexp String} (hs : r.SimpleSyms)
    (hL : ∀ w, r.Lang w ↔ D.Accepts w) (len : Nat) :
    ∃ r', RegexpText.parseSimple (RegexpText.printSimple r) = some r' ∧
      Check.equalLanguages (r'.wordsUpTo len) (D.wordsUpTo len) = true := by
  obtain ⟨r', hr', hL', _⟩ := parseSimple_printSimple r hs
  exact ⟨r', hr', ((Regexp.enum r' len).isNone_iff (DFA.enum hv len)).mpr fun w _ => (hL' w).trans (hL w)⟩

/-- the answer key of the DFA → regexp exercise, as TEXT, passes the checker of the exercise -/
theorem own_dfa2regexp_ok (D : DFA String String) (hv : D.valid = true) (hk : (D.delta.map (·.1)).Nodup) (hQ : D.Q.Nodup)
    (hsig : ∀ a, a ∈ D.Sigma → ∃ c : Char, a = String.singleton c ∧ c.isAlpha = true)
    (order : List String) (ho : order.Nodup) (hm : ∀ q, q ∈ order ↔ q ∈ D.Q) (len : Nat) :
    ∃ r', RegexpText.parseSimple (RegexpText.printSimple (D.toRegexp (gnfaNames D.Q).1 (gnfaNames D.Q).2 order)) = some r' ∧
      Check.equalLanguages (r'.wordsUpTo len) (D.wordsUpTo len) = true := by
  obtain ⟨hs, ha, hne⟩ := C13e.gnfaNames_fresh D.Q
  exact C13e.dfa2regexp_key hv (C13e.toRegexp_simple D _ _ order fun _ he => hsig _ (DFA.valid_closed hv he).2.1)
    (toRegexp_lang D hv hk hQ _ _ hs ha hne order ho hm) len

/-- the hypotheses on the even-number-of-`a`s DFA, with both elimination orders -/
example : C06b.evenA.valid = true ∧ (C06b.evenA.delta.map (·.1)).Nodup ∧ C06b.evenA.Q.Nodup ∧
    (∀ a, a ∈ C06b.evenA.Sigma → ∃ c : Char, a = String.singleton c ∧ c.isAlpha = true) ∧
    ["q1", "q0"].Nodup ∧ (∀ q, q ∈ ["q1", "q0"] ↔ q ∈ C06b.evenA.Q) ∧
    ["q0", "q1"].Nodup ∧ (∀ q, q ∈ ["q0", "q1"] ↔ q ∈ C06b.evenA.Q) := by
  refine ⟨C06b.evenA_ok.1, C06b.evenA_ok.2.1, by decide +kernel, C13e.evenA_sig, by decide +kernel, C13e.evenA_order,
    by decide +kernel, ?_⟩
  intro q; simp [C06b.evenA]

/-- the text of the answer key and its verdict, evaluated directly (independent of the theorem) -/
example : gnfaNames C06b.evenA.Q = ("start", "accept") ∧
    RegexpText.printSimple (C06b.evenA.toRegexp (gnfaNames C06b.evenA.Q).1 (gnfaNames C06b.evenA.Q).2 ["q1", "q0"]) =
      "(ab*a+b)*" ∧
    RegexpText.parseSimple "(ab*a+b)*" =
      some (.star (.sum (.cat (.cat (.sym "a") (.star (.sym "b"))) (.sym "a")) (.sym "b"))) ∧
    Check.equalLanguages
      ((Regexp.star (.sum (.cat (.cat (.sym "a") (.star (.sym "b"))) (.sym "a")) (.sym "b"))).wordsUpTo 3)
      (C06b.evenA.wordsUpTo 3) = true := by
  refine ⟨by decide +kernel, by decide +kernel, by decide +kernel, by decide +kernel⟩

/- `C13e.exNamed`: a DFA that already has states called `start` and `accept`: the generated names are `start1`,
   `accept1`, they are fresh, and the theorem applies -/
example : gnfaNames C13e.exNamed.Q = ("start1", "accept1") := by decide +kernel

example (len : Nat) :
    ∃ r', RegexpText.parseSimple (RegexpText.printSimple
        (C13e.exNamed.toRegexp (gnfaNames C13e.exNamed.Q).1 (gnfaNames C13e.exNamed.Q).2 ["accept", "start"])) = some r' ∧
      Check.equalLanguages (r'.wordsUpTo len) (C13e.exNamed.wordsUpTo len) = true :=
  own_dfa2regexp_ok C13e.exNamed (by decide +kernel) (by decide +kernel) (by decide +kernel)
    (by
      intro a ha
      simp only [C13e.exNamed, List.mem_cons, List.not_mem_nil, or_false] at ha
      subst ha
      exact ⟨'a', by decide +kernel, by decide +kernel⟩)
    ["accept", "start"] (by decide +kernel) (by intro q; simp [C13e.exNamed]; exact Or.comm) len

/-- `hsig` cannot be dropped (`C13e.exLong`): with the two-letter symbol `ab` the printed answer key `abab*`
    re-parses as a concatenation of the symbols `a` and `b`, and the checker rejects it -/
example : C13e.exLong.valid = true ∧ (C13e.exLong.delta.map (·.1)).Nodup ∧ C13e.exLong.Q.Nodup ∧
    RegexpText.printSimple (C13e.exLong.toRegexp (gnfaNames C13e.exLong.Q).1 (gnfaNames C13e.exLong.Q).2 ["p", "q"]) =
      "abab*" ∧
    RegexpText.parseSimple "abab*" =
      some (.cat (.cat (.cat (.sym "a") (.sym "b")) (.sym "a")) (.star (.sym "b"))) ∧
    Check.equalLanguages
      ((Regexp.cat (.cat (.cat (.sym "a") (.sym "b")) (.sym "a")) (.star (.sym "b"))).wordsUpTo 2)
      (C13e.exLong.wordsUpTo 2) = false := by
  refine ⟨by decide +kernel, by decide +kernel, by decide +kernel, by decide +kernel, by decide +kernel, by decide +kernel⟩

/-- minimal-DFA exercise, quotient answer: no naming hypothesis left but cleanness of the names of `D` -/
theorem own_minimal_quotient_ok_clean (D : DFA String String) (hv : D.valid = true) (hQ : D.Q.Nodup)
    (hn : ∀ q, q ∈ D.Q → CleanName q) (len : Nat) :
    ∃ M, D.quotient = .ok M ∧ Check.minimalCheck D (M.mapStates printStateSet) len = .ok true := by
  obtain ⟨M, hM, _, _, hMN, _, _⟩ := quotient_spec D hv hQ
  exact ⟨M, hM, own_minimal_quotient_ok D hv hQ len M hM (hMN.names_inj hn)⟩

example : exC04b.valid = true ∧ exC04b.Q.Nodup ∧ (∀ q, q ∈ exC04b.Q → CleanName q) ∧
    exC04b.quotient = .ok C13a.exQuot ∧
    (C13a.exQuot.mapStates printStateSet).Q = ["{3}", "{0}", "{1,2}"] := by
  refine ⟨by decide +kernel, by decide +kernel, by decide +kernel, C13a.exQuot_eq, ?_⟩
  rw [C13a.exQuot_named]; rfl

example (len : Nat) : Check.minimalCheck exC04b (C13a.exQuot.mapStates printStateSet) len = .ok true := by
  obtain ⟨M, hM, h⟩ := own_minimal_quotient_ok_clean exC04b (by decide +kernel) (by decide +kernel) (by decide +kernel) len
  rw [C13a.exQuot_eq] at hM
  cases hM
  exact h

/-- … and the Hopcroft answer, for every pop order -/
theorem own_minimal_hopcroft_ok_clean (D : DFA String String) (hv : D.valid = true) (hQ : D.Q.Nodup)
    (hn : ∀ q, q ∈ D.Q → CleanName q) (len : Nat) (s : Sched) (M : DFA (List String) String) (hM : D.hopcroft s = .ok M) :
    Check.minimalCheck D (M.mapStates printStateSet) len = .ok true := by
  obtain ⟨_, _, hMN, _, _⟩ := hopcroft_spec D hv hQ s M hM
  exact own_minimal_hopcroft_ok D hv hQ len s M hM (hMN.names_inj hn)

example (len : Nat) : exC04b.hopcroft [2, 0, 1] = .ok C13a.exHop ∧
    Check.minimalCheck exC04b (C13a.exHop.mapStates printStateSet) len = .ok true :=
  ⟨C13a.exHop_eq, own_minimal_hopcroft_ok_clean exC04b (by decide +kernel) (by decide +kernel) (by decide +kernel) len [2, 0, 1]
    C13a.exHop C13a.exHop_eq⟩

example : C04c.exD.valid = true ∧ C04c.exD.Q.Nodup ∧ (∀ q, q ∈ C04c.exD.Q → CleanName q) ∧
    (C04c.exD.hopcroft []).toOption.map (·.Q) = some [["q3"], ["q1", "q2"], ["q0"], ["q4"]] := by
  refine ⟨by decide +kernel, by decide +kernel, by decide +kernel, by decide +kernel⟩

/-- cleanness cannot be dropped altogether: with a state named `""` … the recorded naming defect
    (`printStateSet_collision_empty_name`) makes two different blocks print alike -/
example : printStateSet [""] = printStateSet [] := printStateSet_collision_empty_name

#print axioms own_dfa2regexp_ok
#print axioms own_minimal_quotient_ok_clean
#print axioms own_minimal_hopcroft_ok_clean

end Gamba
