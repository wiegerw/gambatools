/-
  Gamba.Props.C05 — property C05: the regular-expression matcher and simplifier agree with the denotational
  semantics `Regexp.Lang`; and the regexp clause of C02: so does the bounded enumerator.
-/
import Gamba.Proofs.C05
namespace Gamba

set_option linter.unusedSectionVars false

variable {τ : Type} [DecidableEq τ]

/-- the split matcher decides membership in the denoted language (nested stars, star of nullable operands included) -/
theorem regexp_matches_iff (r : Regexp τ) (w : List τ) : r.matchesW w = true ↔ r.Lang w :=
  Regexp.matchesAux_iff r w.length w (Nat.le_refl _)

-- (`matchesAux` is defined by well-founded recursion, so `decide` cannot unfold it; `simp` evaluates it)
example : (Regexp.star (.sum (.sym 'a') .one)).matchesW ['a', 'a'] = true := by
  simp [Regexp.matchesW, Regexp.matchesAux, Regexp.splits]
example : (Regexp.star (.star (.sum (.sym 'a') .one))).matchesW ['a', 'b'] = false := by
  simp [Regexp.matchesW, Regexp.matchesAux, Regexp.splits]
example : (Regexp.star (.star (.sum (.sym 'a') .one)) : Regexp Char).Lang ['a', 'a'] :=
  (regexp_matches_iff _ _).1 (by simp [Regexp.matchesW, Regexp.matchesAux, Regexp.splits])

/-- simplification preserves the language -/
theorem regexp_simplify_lang (r : Regexp τ) (w : List τ) : r.simplify.Lang w ↔ r.Lang w :=
  Regexp.simplify_lang r w

/-- simplification never makes the expression larger (the library's `regexp_size` measure) -/
theorem regexp_simplify_size (r : Regexp τ) : r.simplify.size ≤ r.size :=
  Regexp.simplify_size r

/-- nor in number of nodes -/
theorem regexp_simplify_nodes (r : Regexp τ) : r.simplify.nodes ≤ r.nodes :=
  Regexp.simplify_nodes r

example : (Regexp.cat (.star (.star (.sym 'a'))) (.sum .zero (.cat .one (.star .zero)))).simplify
    = Regexp.star (.sym 'a') := by decide +kernel
example : (Regexp.cat (.sum (.sym 'a') .zero) (.cat (.sym 'b') .zero) : Regexp Char).simplify
    = Regexp.zero := by decide +kernel

/-- bounded enumeration is exact: `wordsUpTo r n` lists exactly the words of length ≤ n of the language -/
theorem regexp_words_exact (r : Regexp τ) (n : Nat) (w : List τ) :
    w ∈ r.wordsUpTo n ↔ w.length ≤ n ∧ r.Lang w :=
  Regexp.mem_wordsUpTo r n w

/-- hence enumeration agrees with the matcher -/
theorem regexp_words_matches (r : Regexp τ) (n : Nat) (w : List τ) :
    w ∈ r.wordsUpTo n ↔ w.length ≤ n ∧ r.matchesW w = true := by
  rw [regexp_words_exact, regexp_matches_iff]

example : (Regexp.star (.sum (.sym 'a') .one)).wordsUpTo 2 = [[], ['a', 'a'], ['a']] := by
  simp [Regexp.wordsUpTo, Regexp.starWords, sunion, sunions, Regexp.concatLang, dedup, List.range,
    List.range.loop]
example : (Regexp.cat (.star (.sym 'a')) (.sym 'b')).wordsUpTo 2 = [['b'], ['a', 'b']] := by
  simp [Regexp.wordsUpTo, Regexp.starWords, sunion, sunions, Regexp.concatLang, dedup, List.range,
    List.range.loop]

#print axioms regexp_matches_iff
#print axioms regexp_simplify_lang
#print axioms regexp_simplify_size
#print axioms regexp_simplify_nodes
#print axioms regexp_words_exact
#print axioms regexp_words_matches

end Gamba
