/-
  Gamba.Props.C12e — C12, text level: the two `check_*_accepts_rejects` checkers AS THE NOTEBOOKS CALL THEM, on text
  (`CheckText.parseWordList`, `CheckText.acceptsRejectsWith`, `CheckText.dfaAcceptsRejects`, `CheckText.cfgAcceptsRejects`).
  Soundness: the verdict `OK` is only printed when the first text parses to a valid object which accepts every word of
  the first list and none of the second; completeness: in that case `OK` IS printed.  The verdict `Error` is
  characterised as well (DFA: the text does not parse, or a listed word has a symbol outside the alphabet — `DFA.accepts`
  raises `KeyError` exactly then, it never silently rejects); this is the split between `Error` and feedback OF THE MODEL,
  which tests every listed word: the code stops at the first misclassified word (see `CheckText.acceptsRejectsWith`), so
  only `OK` / not `OK` is a statement about the code.
  For grammars the link between `CFG.accepts` and the language needs, for a grammar that is not in Chomsky normal form,
  that no terminal is also a variable name; the text format does NOT guarantee it (`S -> a | bb`, `a -> b` parses) and
  without it the checker is really wrong (see the example after `cfgAcceptsRejects_text_sound`).
-/
import Gamba.Props.C12c
import Gamba.Proofs.C12e
namespace Gamba
open Parse C12ex

/-- members of the parsed word list: the white-space separated items of the text, with ε / _ read as the empty word -/
theorem mem_parseWordList (s : String) (w : List String) :
    w ∈ CheckText.parseWordList s ↔
      ∃ t, t ∈ Text.splitWs s.toList ∧ w = (if t = ['ε'] ∨ t = ['_'] then [] else t.map String.singleton) :=
  C12e.mem_parseWordList s w

-- test vectors: their proof shape is explained in the header of Proofs/C12ex.lean
-- several blanks, a line break, both spellings of the empty word, a repeated word
example : CheckText.parseWordList "a  ba\n ε _ a" = [["b", "a"], [], ["a"]] := by decide +kernel
example : CheckText.parseWordList "" = [] ∧ CheckText.parseWordList " \n " = [] := by decide +kernel
example : ["b", "a"] ∈ CheckText.parseWordList "a  ba\n ε _ a" :=
  (mem_parseWordList _ _).mpr ⟨['b', 'a'], by decide +kernel, by decide +kernel⟩

/-- OK iff the test answers `true` on every word of the first list and `false` on every word of the second -/
theorem acceptsRejectsWith_ok_iff (acc : List String → Except Err Bool) (accepted rejected : String) :
    CheckText.acceptsRejectsWith acc accepted rejected = .ok ↔
      (∀ w, w ∈ CheckText.parseWordList accepted → acc w = .ok true) ∧
      (∀ w, w ∈ CheckText.parseWordList rejected → acc w = .ok false) := by
  unfold CheckText.acceptsRejectsWith
  constructor
  · intro h
    split at h
    · rename_i a r ha hr
      have hb := (C12c.ofBool_ok_iff _).mp h
      unfold Check.acceptsRejects at hb
      rw [Bool.and_eq_true, C12e.all_some_true, C12e.all_not_some_true] at hb
      refine ⟨fun w hw => ?_, fun w hw => ?_⟩
      · obtain ⟨b, hba, hb'⟩ := (mapM_ok_forall ha).1 w hw
        rw [hb', hb.1 b hba]
      · obtain ⟨b, hbr, hb'⟩ := (mapM_ok_forall hr).1 w hw
        rw [hb', hb.2 b hbr]
    · cases h
  · rintro ⟨h1, h2⟩
    obtain ⟨a, ha⟩ := mapM_ok_of_forall (fun w hw => ⟨true, h1 w hw⟩)
    obtain ⟨r, hr⟩ := mapM_ok_of_forall (fun w hw => ⟨false, h2 w hw⟩)
    rw [ha, hr]
    apply (C12c.ofBool_ok_iff _).mpr
    unfold Check.acceptsRejects
    rw [Bool.and_eq_true, C12e.all_some_true, C12e.all_not_some_true]
    refine ⟨fun b hb => ?_, fun b hb => ?_⟩
    · obtain ⟨w, hw, hwb⟩ := (mapM_ok_forall ha).2 b hb
      rw [h1 w hw] at hwb
      cases hwb; rfl
    · obtain ⟨w, hw, hwb⟩ := (mapM_ok_forall hr).2 b hb
      rw [h2 w hw] at hwb
      cases hwb; rfl

/-- an exception of the test on a listed word gives `Error` (never `OK`), and `Error` has no other cause -/
theorem acceptsRejectsWith_error_iff (acc : List String → Except Err Bool) (accepted rejected : String) :
    CheckText.acceptsRejectsWith acc accepted rejected = .error ↔
      ∃ w, (w ∈ CheckText.parseWordList accepted ∨ w ∈ CheckText.parseWordList rejected) ∧ ∃ e, acc w = .error e := by
  unfold CheckText.acceptsRejectsWith
  constructor
  · intro h
    split at h
    · rename_i a r ha hr
      unfold CheckText.ofBool at h
      split at h <;> cases h
    · rename_i hn
      cases ha : (CheckText.parseWordList accepted).mapM acc with
      | error e =>
        obtain ⟨w, hw, he⟩ := mapM_error_iff.mp ⟨e, ha⟩
        exact ⟨w, Or.inl hw, he⟩
      | ok a =>
        cases hr : (CheckText.parseWordList rejected).mapM acc with
        | error e =>
          obtain ⟨w, hw, he⟩ := mapM_error_iff.mp ⟨e, hr⟩
          exact ⟨w, Or.inr hw, he⟩
        | ok r => exact absurd hr (hn a r ha)
  · rintro ⟨w, hw | hw, he⟩
    · obtain ⟨e, he'⟩ := mapM_error_iff.mpr ⟨w, hw, he⟩
      rw [he']
    · obtain ⟨e, he'⟩ := mapM_error_iff.mpr ⟨w, hw, he⟩
      rw [he']
      split
      · rename_i h1 h2; cases h2
      · rfl

-- a test that accepts the words of even length and raises on words containing `x`
example : let acc : List String → Except Err Bool := fun w => if "x" ∈ w then .error .keyError else .ok (w.length % 2 == 0)
    CheckText.acceptsRejectsWith acc "ab ε" "a" = .ok ∧ CheckText.acceptsRejectsWith acc "ab a" "" = .feedback ∧
    CheckText.acceptsRejectsWith acc "ab" "a xy" = .error := by decide +kernel

/-- the object-level core `Check.acceptsRejects` (spec: `chk_acceptsRejects_sound`, C12a) is what decides between `OK`
    and feedback once every call of the test has returned -/
theorem acceptsRejectsWith_core (acc : List String → Except Err Bool) (accepted rejected : String)
    (h : CheckText.acceptsRejectsWith acc accepted rejected = .ok) :
    ∃ a r, (CheckText.parseWordList accepted).mapM acc = .ok a ∧ (CheckText.parseWordList rejected).mapM acc = .ok r ∧
      Check.acceptsRejects (a.map some) (r.map some) = true ∧
      (∀ v, v ∈ a.map some → v = some true) ∧ (∀ v, v ∈ r.map some → v ≠ some true) := by
  unfold CheckText.acceptsRejectsWith at h
  split at h
  · rename_i a r ha hr
    have hb := (ofBool_ok_iff _).mp h
    exact ⟨a, r, ha, hr, hb, chk_acceptsRejects_sound _ _ hb⟩
  · cases h

/-- once the text has parsed to `D`: `OK` says exactly that the words of the first list are accepted and those of the second
    are over the alphabet and not accepted (on a foreign symbol `DFA.accepts` raises: it never silently rejects) -/
theorem C12e.dfaAcceptsRejects_ok_iff {dfa accepted rejected : String} {D : DFA String String}
    (hp : Parse.parseDfa dfa.toList = .ok D) :
    CheckText.dfaAcceptsRejects dfa accepted rejected = .ok ↔
      (∀ w, w ∈ CheckText.parseWordList accepted → D.Accepts w) ∧
      (∀ w, w ∈ CheckText.parseWordList rejected → (∀ a, a ∈ w → a ∈ D.Sigma) ∧ ¬ D.Accepts w) := by
  rw [CheckText.dfaAcceptsRejects, hp]
  simp only [acceptsRejectsWith_ok_iff, ← DFA.Accepts_iff_accepts,
    DFA.accepts_false_iff (parsedDfa_of hp).valid]

/-- `check_dfa_accepts_rejects` on text: OK ⇒ the text parses to a valid DFA, every listed word is over its alphabet
    (otherwise `DFA.accepts` raises and the verdict is `Error`), the words of the first list are accepted and those of
    the second are not -/
theorem dfaAcceptsRejects_text_sound (dfa accepted rejected : String)
    (h : CheckText.dfaAcceptsRejects dfa accepted rejected = .ok) :
    ∃ D, Parse.parseDfa dfa.toList = .ok D ∧ D.valid = true ∧
      (∀ w, w ∈ CheckText.parseWordList accepted → (∀ a, a ∈ w → a ∈ D.Sigma) ∧ D.Accepts w) ∧
      (∀ w, w ∈ CheckText.parseWordList rejected → (∀ a, a ∈ w → a ∈ D.Sigma) ∧ ¬ D.Accepts w) := by
  obtain ⟨D, h1, _⟩ := C12e.dfaAcceptsRejects_unpack (by decide) h
  have vD := (parsedDfa_of h1).valid
  obtain ⟨ha, hr⟩ := (C12e.dfaAcceptsRejects_ok_iff h1).mp h
  exact ⟨D, h1, vD, fun w hw => ⟨DFA.Accepts.over vD (ha w hw), ha w hw⟩, hr⟩

-- words ending in `a` (states `p`, `q`)
example : CheckText.dfaAcceptsRejects "initial p\nfinal q\np q a\np p b\nq q a\nq p b" "a ba aa" "ε b ab" = .ok := by
  rw [CheckText.dfaAcceptsRejects, endsA_parse]; decide +kernel
-- nothing listed: OK
example : CheckText.dfaAcceptsRejects "initial p\nfinal q\np q a\np p b\nq q a\nq p b" "" "" = .ok := by
  rw [CheckText.dfaAcceptsRejects, endsA_parse]; decide +kernel
-- a word of the first list is rejected (`ab`) / a word of the second list is accepted (`ba`): feedback
example : CheckText.dfaAcceptsRejects "initial p\nfinal q\np q a\np p b\nq q a\nq p b" "a ab" "b" = .feedback := by
  rw [CheckText.dfaAcceptsRejects, endsA_parse]; decide +kernel
example : CheckText.dfaAcceptsRejects "initial p\nfinal q\np q a\np p b\nq q a\nq p b" "a" "b ba" = .feedback := by
  rw [CheckText.dfaAcceptsRejects, endsA_parse]; decide +kernel
-- a listed word with a symbol outside the alphabet (`c`), in either list: `Error` — also where "rejected" would be right
example : CheckText.dfaAcceptsRejects "initial p\nfinal q\np q a\np p b\nq q a\nq p b" "a ca" "b" = .error := by
  rw [CheckText.dfaAcceptsRejects, endsA_parse]; decide +kernel
example : CheckText.dfaAcceptsRejects "initial p\nfinal q\np q a\np p b\nq q a\nq p b" "a" "c" = .error := by
  rw [CheckText.dfaAcceptsRejects, endsA_parse]; decide +kernel
-- a partial transition table does not parse: `Error`
example : CheckText.dfaAcceptsRejects "initial p\nfinal q\np q a\np p b\nq q a" "a" "b" = .error := by decide +kernel
-- consequence on the first example: the parsed DFA accepts `b a` and rejects `a b`
example : ∃ D, Parse.parseDfa "initial p\nfinal q\np q a\np p b\nq q a\nq p b".toList = .ok D ∧
    D.Accepts ["b", "a"] ∧ ¬ D.Accepts ["a", "b"] := by
  obtain ⟨D, h1, _, ha, hr⟩ := dfaAcceptsRejects_text_sound
    "initial p\nfinal q\np q a\np p b\nq q a\nq p b" "a ba aa" "ε b ab"
    (by rw [CheckText.dfaAcceptsRejects, endsA_parse]; decide +kernel)
  exact ⟨D, h1, (ha _ (by decide +kernel)).2, (hr _ (by decide +kernel)).2⟩

/-- completeness: if the text parses, the words of the first list are accepted, and the words of the second list are
    over the alphabet and not accepted, the verdict is `OK` (accepted words of a valid DFA are over the alphabet anyway) -/
theorem dfaAcceptsRejects_text_complete (dfa accepted rejected : String) (D : DFA String String)
    (hp : Parse.parseDfa dfa.toList = .ok D)
    (ha : ∀ w, w ∈ CheckText.parseWordList accepted → D.Accepts w)
    (hr : ∀ w, w ∈ CheckText.parseWordList rejected → (∀ a, a ∈ w → a ∈ D.Sigma) ∧ ¬ D.Accepts w) :
    CheckText.dfaAcceptsRejects dfa accepted rejected = .ok :=
  (C12e.dfaAcceptsRejects_ok_iff hp).mpr ⟨ha, hr⟩

example : ∃ D, Parse.parseDfa "initial p\nfinal q\np q a\np p b\nq q a\nq p b".toList = .ok D ∧ D.Sigma = ["a", "b"] :=
  ⟨_, endsA_parse, rfl⟩

/-- soundness and completeness in one statement -/
theorem dfaAcceptsRejects_text_ok_iff (dfa accepted rejected : String) :
    CheckText.dfaAcceptsRejects dfa accepted rejected = .ok ↔
      ∃ D, Parse.parseDfa dfa.toList = .ok D ∧
        (∀ w, w ∈ CheckText.parseWordList accepted → D.Accepts w) ∧
        (∀ w, w ∈ CheckText.parseWordList rejected → (∀ a, a ∈ w → a ∈ D.Sigma) ∧ ¬ D.Accepts w) := by
  constructor
  · intro h
    obtain ⟨D, h1, _⟩ := C12e.dfaAcceptsRejects_unpack (by decide) h
    exact ⟨D, h1, (C12e.dfaAcceptsRejects_ok_iff h1).mp h⟩
  · rintro ⟨D, h1, h⟩
    exact (C12e.dfaAcceptsRejects_ok_iff h1).mpr h

/-- the verdict `Error` (the call raises): the text does not parse, or some listed word has a symbol outside the alphabet -/
theorem dfaAcceptsRejects_text_error_iff (dfa accepted rejected : String) :
    CheckText.dfaAcceptsRejects dfa accepted rejected = .error ↔
      (∃ e, Parse.parseDfa dfa.toList = .error e) ∨
      ∃ D, Parse.parseDfa dfa.toList = .ok D ∧
        ∃ w, (w ∈ CheckText.parseWordList accepted ∨ w ∈ CheckText.parseWordList rejected) ∧ ∃ a, a ∈ w ∧ a ∉ D.Sigma := by
  unfold CheckText.dfaAcceptsRejects
  cases hp : Parse.parseDfa dfa.toList with
  | error e =>
    constructor
    · intro _; exact Or.inl ⟨e, rfl⟩
    · intro _; rfl
  | ok D =>
    have vD := (parsedDfa_of hp).valid
    show CheckText.acceptsRejectsWith D.accepts accepted rejected = .error ↔ _
    simp only [acceptsRejectsWith_error_iff, DFA.accepts_error_iff vD, Classical.not_forall, exists_prop]
    exact ⟨fun h => Or.inr ⟨D, rfl, h⟩, fun h => h.elim (fun ⟨_, he⟩ => nomatch he) fun ⟨_, hD, h⟩ => Except.ok.inj hD ▸ h⟩

/-- hence feedback is printed only for a parsable text and word lists over the alphabet of which some word is
    classified wrongly -/
theorem dfaAcceptsRejects_text_feedback (dfa accepted rejected : String)
    (h : CheckText.dfaAcceptsRejects dfa accepted rejected = .feedback) :
    ∃ D, Parse.parseDfa dfa.toList = .ok D ∧ D.valid = true ∧
      (∀ w, w ∈ CheckText.parseWordList accepted ∨ w ∈ CheckText.parseWordList rejected → ∀ a, a ∈ w → a ∈ D.Sigma) ∧
      ((∃ w, w ∈ CheckText.parseWordList accepted ∧ ¬ D.Accepts w) ∨
       (∃ w, w ∈ CheckText.parseWordList rejected ∧ D.Accepts w)) := by
  obtain ⟨D, h1, hc⟩ := C12e.dfaAcceptsRejects_unpack (by decide) h
  have vD := (parsedDfa_of h1).valid
  have hne : CheckText.dfaAcceptsRejects dfa accepted rejected ≠ .error := by rw [h]; decide
  have hno : CheckText.dfaAcceptsRejects dfa accepted rejected ≠ .ok := by rw [h]; decide
  have hover : ∀ w, w ∈ CheckText.parseWordList accepted ∨ w ∈ CheckText.parseWordList rejected →
      ∀ a, a ∈ w → a ∈ D.Sigma := by
    intro w hw a ha
    refine Classical.byContradiction fun hna => hne ?_
    exact (dfaAcceptsRejects_text_error_iff _ _ _).mpr (Or.inr ⟨D, h1, w, hw, a, ha, hna⟩)
  refine ⟨D, h1, vD, hover, ?_⟩
  refine Classical.byContradiction fun hn => hno ?_
  refine dfaAcceptsRejects_text_complete dfa accepted rejected D h1 (fun w hw => ?_) (fun w hw => ⟨hover w (Or.inr hw), ?_⟩)
  · exact Classical.byContradiction fun hna => hn (Or.inl ⟨w, hw, hna⟩)
  · exact fun hacc => hn (Or.inr ⟨w, hw, hacc⟩)

/-- unconditionally: OK iff the grammar text parses (to a valid grammar with declared start variable and the aliasing
    invariant) and the membership test `CFG.accepts` (CNF conversion + CYK) answers `true` on the first list and `false`
    on the second -/
theorem cfgAcceptsRejects_text_verdicts (cfg accepted rejected : String) :
    CheckText.cfgAcceptsRejects cfg accepted rejected = .ok ↔
      ∃ G e, CfgText.parseSimpleCfg cfg.toList = .ok (G, e) ∧ G.valid = true ∧ G.S ∈ G.V ∧ CFG.AliasOK G ∧
        (∀ w, w ∈ CheckText.parseWordList accepted → G.accepts w = .ok true) ∧
        (∀ w, w ∈ CheckText.parseWordList rejected → G.accepts w = .ok false) := by
  constructor
  · intro h
    obtain ⟨G, e, h1, hc⟩ := C12e.cfgAcceptsRejects_unpack (by decide) h
    obtain ⟨v, sv, al⟩ := parseSimpleCfg_ok_valid _ G e h1
    exact ⟨G, e, h1, v, sv, al, (acceptsRejectsWith_ok_iff _ _ _).mp hc⟩
  · rintro ⟨G, e, h1, _, _, _, hc⟩
    unfold CheckText.cfgAcceptsRejects
    rw [h1]
    exact (acceptsRejectsWith_ok_iff _ _ _).mpr hc

/-- once the text has parsed to `G`: under the side condition (or for a CNF grammar) the membership test decides `G.Lang`,
    so `OK` says exactly that the first list is inside the language and the second outside -/
theorem C12e.cfgAcceptsRejects_ok_iff {cfg accepted rejected : String} {G : CFG} {e : String}
    (hp : CfgText.parseSimpleCfg cfg.toList = .ok (G, e))
    (hside : G.isChomsky = true ∨ ∀ a, a ∈ G.Sigma → a ∉ G.V ∧ a ≠ CFG.freshVariable G.V "S") :
    CheckText.cfgAcceptsRejects cfg accepted rejected = .ok ↔
      (∀ w, w ∈ CheckText.parseWordList accepted → G.Lang w) ∧
      (∀ w, w ∈ CheckText.parseWordList rejected → ¬ G.Lang w) := by
  obtain ⟨v, sv, _⟩ := parseSimpleCfg_ok_valid _ G e hp
  rw [CheckText.cfgAcceptsRejects, hp]
  simp only [acceptsRejectsWith_ok_iff, cfg_accepts_true_iff v sv hside, cfg_accepts_false_iff v sv hside]

/-- `check_cfg_accepts_rejects` on text: OK ⇒ the text parses to a valid grammar and — when no terminal of the parsed
    grammar is also a variable name (nor the name `toChomsky` picks for the new start variable), which the text format
    does NOT guarantee — every word of the first list is in the language and no word of the second.
    `S ∈ V` and `AliasOK`, the other hypotheses of `cfg_accepts_iff`, hold for every parser result. -/
theorem cfgAcceptsRejects_text_sound (cfg accepted rejected : String)
    (h : CheckText.cfgAcceptsRejects cfg accepted rejected = .ok) :
    ∃ G e, CfgText.parseSimpleCfg cfg.toList = .ok (G, e) ∧ G.valid = true ∧
      ((∀ a, a ∈ G.Sigma → a ∉ G.V ∧ a ≠ CFG.freshVariable G.V "S") →
        (∀ w, w ∈ CheckText.parseWordList accepted → G.Lang w) ∧
        (∀ w, w ∈ CheckText.parseWordList rejected → ¬ G.Lang w)) := by
  obtain ⟨G, e, h1, v, _⟩ := (cfgAcceptsRejects_text_verdicts _ _ _).mp h
  exact ⟨G, e, h1, v, fun hd => (C12e.cfgAcceptsRejects_ok_iff h1 (Or.inr hd)).mp h⟩

/-- … the same without side condition when the parsed grammar is in Chomsky normal form (no conversion takes place) -/
theorem cfgAcceptsRejects_text_sound_cnf (cfg accepted rejected : String)
    (h : CheckText.cfgAcceptsRejects cfg accepted rejected = .ok) :
    ∃ G e, CfgText.parseSimpleCfg cfg.toList = .ok (G, e) ∧ G.valid = true ∧
      (G.isChomsky = true →
        (∀ w, w ∈ CheckText.parseWordList accepted → G.Lang w) ∧
        (∀ w, w ∈ CheckText.parseWordList rejected → ¬ G.Lang w)) := by
  obtain ⟨G, e, h1, v, _⟩ := (cfgAcceptsRejects_text_verdicts _ _ _).mp h
  exact ⟨G, e, h1, v, fun hc => (C12e.cfgAcceptsRejects_ok_iff h1 (Or.inl hc)).mp h⟩

-- `{aⁿbⁿ}` (not in CNF: the conversion runs)
example : CheckText.cfgAcceptsRejects "S -> aSb | ε" "ε ab aabb" "a ba abb" = .ok := by
  rw [CheckText.cfgAcceptsRejects, C12e.exAnBn_parse]; decide +kernel
-- a CNF grammar for `{ab, a}`
example : CheckText.cfgAcceptsRejects "S -> AB | a\nA -> a\nB -> b" "ab a" "b _" = .ok := by
  rw [CheckText.cfgAcceptsRejects, exG_parse]; decide +kernel
-- a word of the first list is not generated (`aab`) / a word of the second list is generated (`aabb`): feedback
example : CheckText.cfgAcceptsRejects "S -> aSb | ε" "ab aab" "a" = .feedback := by
  rw [CheckText.cfgAcceptsRejects, C12e.exAnBn_parse]; decide +kernel
example : CheckText.cfgAcceptsRejects "S -> aSb | ε" "ab" "a aabb" = .feedback := by
  rw [CheckText.cfgAcceptsRejects, C12e.exAnBn_parse]; decide +kernel
-- a foreign symbol is no error for grammars (unlike DFAs): `c` is just not generated
example : CheckText.cfgAcceptsRejects "S -> aSb | ε" "ab" "c" = .ok := by
  rw [CheckText.cfgAcceptsRejects, C12e.exAnBn_parse]; decide +kernel
-- a text that does not parse; a variable without rule: `Error`
example : CheckText.cfgAcceptsRejects "S => a" "a" "b" = .error := by decide +kernel
example : CheckText.cfgAcceptsRejects "S -> aT" "a" "b" = .error := by decide +kernel
-- the side condition holds for the first example, and the conclusion follows: `aabb ∈ L`, `abb ∉ L`
example : ∃ G, CfgText.parseSimpleCfg "S -> aSb | ε".toList = .ok (G, "ε") ∧
    (∀ a, a ∈ G.Sigma → a ∉ G.V ∧ a ≠ CFG.freshVariable G.V "S") ∧
    G.Lang ["a", "a", "b", "b"] ∧ ¬ G.Lang ["a", "b", "b"] := by
  obtain ⟨G, e, h1, _, hL⟩ := cfgAcceptsRejects_text_sound "S -> aSb | ε" "ε ab aabb" "a ba abb"
    (by rw [CheckText.cfgAcceptsRejects, C12e.exAnBn_parse]; decide +kernel)
  rw [C12e.exAnBn_parse] at h1
  cases h1
  have hd : ∀ a, a ∈ C12e.exAnBn.Sigma → a ∉ C12e.exAnBn.V ∧ a ≠ CFG.freshVariable C12e.exAnBn.V "S" := by decide +kernel
  exact ⟨_, C12e.exAnBn_parse, hd, (hL hd).1 _ (by decide +kernel), (hL hd).2 _ (by decide +kernel)⟩
-- the side condition is NEEDED: `S -> a | bb`, `a -> b` parses (the lower-case `a` is a variable AND a terminal, the
-- grammar is not in CNF); `toChomsky` takes the rule `S -> a` for a unit rule and adds `S -> b`: the checker prints OK
-- for the first list `a b bb` although `b` is not in the language {a, bb} of the parsed grammar
example : CheckText.cfgAcceptsRejects "S -> a | bb\na -> b" "a b bb" "" = .ok ∧
    CfgText.parseSimpleCfg "S -> a | bb\na -> b".toList = .ok (C12e.exBad, "_") ∧
    ["b"] ∈ CheckText.parseWordList "a b bb" ∧ ¬ C12e.exBad.Lang ["b"] ∧
    C12e.exBad.isChomsky = false ∧ "a" ∈ C12e.exBad.Sigma ∧ "a" ∈ C12e.exBad.V :=
  ⟨by rw [CheckText.cfgAcceptsRejects, C12e.exBad_parse]; decide +kernel, C12e.exBad_parse, by decide +kernel,
    C12e.exBad_not_lang_b, by decide +kernel, by decide +kernel, by decide +kernel⟩

/-- completeness: if the text parses to a grammar in which no terminal is a variable name, the words of the first list
    are in its language and those of the second are not, the verdict is `OK` (in particular `CFG.accepts` raises on no word) -/
theorem cfgAcceptsRejects_text_complete (cfg accepted rejected : String) (G : CFG) (e : String)
    (hp : CfgText.parseSimpleCfg cfg.toList = .ok (G, e))
    (hd : ∀ a, a ∈ G.Sigma → a ∉ G.V ∧ a ≠ CFG.freshVariable G.V "S")
    (ha : ∀ w, w ∈ CheckText.parseWordList accepted → G.Lang w)
    (hr : ∀ w, w ∈ CheckText.parseWordList rejected → ¬ G.Lang w) :
    CheckText.cfgAcceptsRejects cfg accepted rejected = .ok :=
  (C12e.cfgAcceptsRejects_ok_iff hp (Or.inr hd)).mpr ⟨ha, hr⟩

/-- … and for a parsed grammar in Chomsky normal form, without side condition -/
theorem cfgAcceptsRejects_text_complete_cnf (cfg accepted rejected : String) (G : CFG) (e : String)
    (hp : CfgText.parseSimpleCfg cfg.toList = .ok (G, e)) (hc : G.isChomsky = true)
    (ha : ∀ w, w ∈ CheckText.parseWordList accepted → G.Lang w)
    (hr : ∀ w, w ∈ CheckText.parseWordList rejected → ¬ G.Lang w) :
    CheckText.cfgAcceptsRejects cfg accepted rejected = .ok :=
  (C12e.cfgAcceptsRejects_ok_iff hp (Or.inl hc)).mpr ⟨ha, hr⟩

example : ∃ G, CfgText.parseSimpleCfg "S -> AB | a\nA -> a\nB -> b".toList = .ok (G, "_") ∧ G.isChomsky = true ∧
    (∀ a, a ∈ G.Sigma → a ∉ G.V ∧ a ≠ CFG.freshVariable G.V "S") := ⟨_, exG_parse, by decide +kernel, by decide +kernel⟩

/-- under the side condition (or for a CNF grammar) the membership test cannot raise: no `Error` once the text parses -/
theorem cfgAcceptsRejects_text_no_error (cfg accepted rejected : String) (G : CFG) (e : String)
    (hp : CfgText.parseSimpleCfg cfg.toList = .ok (G, e))
    (hside : G.isChomsky = true ∨ ∀ a, a ∈ G.Sigma → a ∉ G.V ∧ a ≠ CFG.freshVariable G.V "S") :
    CheckText.cfgAcceptsRejects cfg accepted rejected ≠ .error := by
  obtain ⟨v, sv, _⟩ := parseSimpleCfg_ok_valid _ G e hp
  unfold CheckText.cfgAcceptsRejects
  rw [hp]
  intro herr
  obtain ⟨w, _, e', he⟩ := (acceptsRejectsWith_error_iff _ _ _).mp herr
  obtain ⟨b, hb, _⟩ := cfg_accepts_spec v sv hside w
  rw [hb] at he
  cases he

/-- the verdict `OK` is returned only if the first argument parses (the clauses of `text_ok_not_error` for the two
    checkers; word lists always parse) -/
theorem acceptsRejects_ok_not_error :
    (∀ dfa accepted rejected, CheckText.dfaAcceptsRejects dfa accepted rejected = .ok →
      ∃ D, parseDfa dfa.toList = .ok D) ∧
    (∀ cfg accepted rejected, CheckText.cfgAcceptsRejects cfg accepted rejected = .ok →
      ∃ G, CfgText.parseSimpleCfg cfg.toList = .ok G) := by
  refine ⟨?_, ?_⟩
  · intro dfa accepted rejected h
    obtain ⟨D, h1, _⟩ := C12e.dfaAcceptsRejects_unpack (by decide) h
    exact ⟨D, h1⟩
  · intro cfg accepted rejected h
    obtain ⟨G, e, h1, _⟩ := C12e.cfgAcceptsRejects_unpack (by decide) h
    exact ⟨_, h1⟩

#print axioms mem_parseWordList
#print axioms acceptsRejectsWith_ok_iff
#print axioms acceptsRejectsWith_error_iff
#print axioms acceptsRejectsWith_core
#print axioms dfaAcceptsRejects_text_sound
#print axioms dfaAcceptsRejects_text_complete
#print axioms dfaAcceptsRejects_text_ok_iff
#print axioms dfaAcceptsRejects_text_error_iff
#print axioms dfaAcceptsRejects_text_feedback
#print axioms cfgAcceptsRejects_text_verdicts
#print axioms cfgAcceptsRejects_text_sound
#print axioms cfgAcceptsRejects_text_sound_cnf
#print axioms cfgAcceptsRejects_text_complete
#print axioms cfgAcceptsRejects_text_complete_cnf
#print axioms cfgAcceptsRejects_text_no_error
#print axioms acceptsRejects_ok_not_error

end Gamba
