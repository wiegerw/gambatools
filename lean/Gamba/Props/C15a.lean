/-
  Gamba.Props.C15a — `dfa_simulate_word` and `nfa_simulate_word` (as repaired: back-pointers only on first visit)
  return genuine traces (`Gamba.Spec.Trace`), always terminate, and find a trace exactly for the accepted words.
  The clauses of C15 on the path search, `findPath_sound` / `_none` / `_total`, stand in `Gamba.Proofs.Search`; their
  axioms are audited here.
-/
import Gamba.Proofs.C15a
import Gamba.Proofs.DecEq
namespace Gamba
variable {σ τ : Type} [DecidableEq σ] [DecidableEq τ]

/-- the DFA trace: one row per configuration, a valid trace ending in the state that decides acceptance -/
theorem dfa_simulate_valid (D : DFA σ τ) (hv : D.valid = true) (w : List τ) (hw : ∀ a, a ∈ w → a ∈ D.Sigma) :
    ∃ tr, D.simulate w = .ok tr ∧ D.ValidTrace w tr ∧ tr.length = w.length + 1 ∧
      ∀ q, tr.getLast? = some (q, []) → (q ∈ D.F ↔ D.Accepts w) := by
  obtain ⟨tr, htr, ⟨hhead, hchain, hlast⟩, hlen⟩ := DFA.simulateFrom_spec hv w hw D.q0 (DFA.valid_q0 hv)
  refine ⟨tr, htr, ⟨hhead, hchain, _, hlast⟩, hlen, ?_⟩
  intro q hq
  rw [hlast] at hq
  simp only [Option.some.injEq, Prod.mk.injEq, and_true] at hq
  subst hq
  exact (DFA.Accepts_iff_runT hv hw).symm

example : C15.exDFA.valid = true ∧ (∀ a, a ∈ ["1", "0", "1", "1"] → a ∈ C15.exDFA.Sigma) ∧
    C15.exDFA.simulate ["1", "0", "1", "1"] =
      .ok [("p", ["1", "0", "1", "1"]), ("q", ["0", "1", "1"]), ("q", ["1", "1"]), ("p", ["1"]), ("q", [])] :=
  by decide +kernel

/-- whatever is returned is a genuine accepting run — every pop order -/
theorem nfa_simulate_valid (N : NFA σ τ) (hv : N.valid = true) (s : Sched) (w : List τ)
    (hw : ∀ a, a ∈ w → a ∈ N.Sigma) (tr : List (σ × List τ)) (h : N.simulate s w = .ok (some tr)) :
    N.ValidTrace w tr := by
  obtain ⟨r, hr, hvalid, _⟩ := NFA.simulate_spec hv s w hw
  rw [hr] at h
  cases h
  exact hvalid tr rfl

/-- the witness of the repaired defect (ε-cycle `b ⇄ c` on the way from `a` to `f`): a trace is found, for several pop orders -/
example : C15.exNFA.valid = true ∧ (∀ a, a ∈ ([] : List String) → a ∈ C15.exNFA.Sigma) ∧
    C15.exNFA.simulate [] [] = .ok (some [("a", []), ("b", []), ("c", []), ("f", [])]) ∧
    C15.exNFA.simulate [1, 1, 1, 1, 1, 1, 1] [] = .ok (some [("a", []), ("b", []), ("c", []), ("f", [])]) :=
  by decide +kernel

example : (∀ a, a ∈ ["x"] → a ∈ C15.exNFA.Sigma) ∧
    C15.exNFA.simulate [0, 2, 1, 3, 1, 0, 2] ["x"] =
      .ok (some [("a", ["x"]), ("b", ["x"]), ("c", ["x"]), ("f", ["x"]), ("a", []), ("b", []), ("c", []), ("f", [])]) :=
  by decide +kernel

example : C15.exNFA.ValidTrace ["x"]
    [("a", ["x"]), ("b", ["x"]), ("c", ["x"]), ("f", ["x"]), ("a", []), ("b", []), ("c", []), ("f", [])] :=
  nfa_simulate_valid C15.exNFA (by decide +kernel) [0, 2, 1, 3, 1, 0, 2] ["x"] (by decide +kernel) _ rfl

/-- a trace is always produced, in finite time (no fuel error, no lookup failure), exactly for the accepted words -/
theorem nfa_simulate_some_iff (N : NFA σ τ) (hv : N.valid = true) (s : Sched) (w : List τ)
    (hw : ∀ a, a ∈ w → a ∈ N.Sigma) :
    ∃ r, N.simulate s w = .ok r ∧ (r.isSome = true ↔ N.Accepts w) := by
  obtain ⟨r, hr, _, hiff⟩ := NFA.simulate_spec hv s w hw
  exact ⟨r, hr, hiff⟩

/-- accepted and rejected words of the example -/
example : (∀ a, a ∈ ["x", "y"] → a ∈ C15.exNFA.Sigma) ∧
    C15.exNFA.simulate [3, 1, 2] ["x", "y"] = .ok none ∧
    (C15.exNFA.simulate [3, 1, 2] ["x", "x"]).toOption.join.isSome = true :=
  by decide +kernel

example : ¬ C15.exNFA.Accepts ["x", "y"] := by
  obtain ⟨r, hr, hiff⟩ := nfa_simulate_some_iff C15.exNFA (by decide +kernel) [] ["x", "y"] (by decide +kernel)
  have h : C15.exNFA.simulate [] ["x", "y"] = .ok none := by decide +kernel
  rw [h] at hr
  cases hr
  intro ha
  exact absurd (hiff.mpr ha) (by decide +kernel)

/-- the generic search (Gamba.Proofs.Search) on a small graph: a genuine path, and `none` for an unreachable target -/
example : findPath (fun n : Nat => if n < 5 then [n + 1, n + 2] else []) 10 [3, 2, 1] [0] 5 = .ok (some [0, 1, 3, 5]) ∧
    findPath (fun n : Nat => if n < 5 then [n + 1, n + 2] else []) 10 [] [0] 9 = .ok none := by decide +kernel

#print axioms findPath_sound
#print axioms findPath_none
#print axioms findPath_total
#print axioms dfa_simulate_valid
#print axioms nfa_simulate_valid
#print axioms nfa_simulate_some_iff

end Gamba
