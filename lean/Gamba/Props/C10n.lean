/-
  Gamba.Props.C10n — the formal boundary of the hypothesis `hnames` of `pda_toCfg_lang` (Props/C10c): `pda_to_cfg` names
  the grammar variable of the state pair `(p, q)` by `p'q` (`pdaVar p q = p ++ "'" ++ q`).

  The name determines the pair as soon as the FIRST components contain no apostrophe (`pdaVar_inj`).  The hypothesis is
  needed: with the states `p` and `p'p` the pairs `(p, p'p)` and `(p'p, p)` are both named `p'p'p`
  (`pdaVar_collision`), and the grammar returned for a valid PDA with these two states generates the word `a a`,
  which the PDA does not accept (`pda2cfg_name_collision_witness`, the recorded defect
  `pda2cfg-variable-name-collision`).  Every other hypothesis of `pda_toCfg_lang` holds for the witness.

  The witness is proved WITHOUT evaluating the grammar (64 variables, 532 rules): the derivation of `a a` is given
  explicitly through the rule characterisation `C10b.hasRule_iff`, and the non-acceptance by an invariant of the PDA
  (its ε-closure is infinite — `p'p` pushes `B` for ever — so the executable `PDA.accepts` is always truncated and
  `pda_accepts_complete` does not apply).
-/
import Gamba.Model.PDA
import Gamba.Spec.PDA
import Gamba.Spec.CFG
import Gamba.Proofs.C10n
import Gamba.Proofs.C10c
namespace Gamba

/-- the variable name determines the state pair when the first components are apostrophe-free -/
theorem pdaVar_inj (p q p' q' : String) (hp : '\'' ∉ p.toList) (hp' : '\'' ∉ p'.toList)
    (h : pdaVar p q = pdaVar p' q') : p = p' ∧ q = q' :=
  C10c.pdaVar_inj hp hp' h

/-- non-vacuity: the second components are unrestricted -/
example : '\'' ∉ "p".toList ∧ '\'' ∉ "q_drain1".toList ∧ pdaVar "p" "p'p" = "p'p'p" := by
  refine ⟨?_, ?_, ?_⟩ <;> decide

/-- the hypothesis is needed: the collision that the real library exhibits -/
theorem pdaVar_collision : pdaVar "p" "p'p" = pdaVar "p'p" "p" := C10n.pdaVar_collision

/-- … between two different pairs; only the name `p'p` contains an apostrophe -/
example : (("p", "p'p") : String × String) ≠ ("p'p", "p") ∧ '\'' ∉ "p".toList ∧ '\'' ∈ "p'p".toList ∧
    pdaVar "p" "p'p" = "p'p'p" := by
  refine ⟨?_, ?_, ?_, ?_⟩ <;> decide

/-- the recorded defect `pda2cfg-variable-name-collision`, formally: a valid PDA (unique transition keys, one ε string)
    whose grammar generates a word the PDA does not accept.  `Q = {p, p'p}`, `q0 = p`, `F = Q`, `ε = ""`,
    `δ(p'p, ε, ε) = {(p'p, B)}`, `δ(p, ε, ε) = {(p'p, ε)}`, `δ(p, a, ε) = {(p'p, A)}`: the PDA reads at most one symbol
    (from `p'p` there is no way back to `p`), but since `A_{p'p, p}` and `A_{p, p'p}` are the same variable, the useless
    rule `A_{p'p, q_drain1} → A_{p'p, p} A_{p, q_drain1}` lets the grammar restart in `p` and generate `a a`. -/
theorem pda2cfg_name_collision_witness : ∃ (P : SPDA) (G : CFG) (w : List String),
    P.valid = true ∧ (P.delta.map (·.1)).Nodup ∧ P.epsG = P.eps ∧ P.toCfg = .ok G ∧ (G.Lang w ∧ ¬ P.Accepts w) :=
  ⟨C10n.badP, C10n.badG, ["a", "a"], C10n.badP_valid, C10n.badP_keys, rfl, C10n.badP_toCfg, C10n.badG_lang_aa,
    C10n.badP_not_accepts_aa⟩

/-- the witness in detail: all hypotheses of `pda_toCfg_lang` hold except `hnames`, and `hnames` fails only because of
    the name `p'p`; the word is over the alphabet; the PDA is not degenerate (it accepts ε and `a`); the variable list
    of the grammar has 64 = 8 · 8 entries, one per state pair of the normal form, but only 63 distinct names -/
example : C10n.badP.valid = true ∧ (C10n.badP.delta.map (·.1)).Nodup ∧ C10n.badP.epsG = C10n.badP.eps ∧
    freshSymbol C10n.badP.Gamma ≠ .ok C10n.badP.epsG ∧ C10n.badP.epsG ≠ "∅" ∧
    ¬ (∀ q, q ∈ C10n.badP.Q → '\'' ∉ q.toList) ∧ C10n.badP.Q = ["p", "p'p"] ∧
    (∀ a, a ∈ ["a", "a"] → a ∈ C10n.badP.Sigma) ∧
    C10n.badP.normalizeForCfg = .ok C10n.badNorm ∧ C10n.badP.toCfg = .ok C10n.badG ∧
    C10n.badG.S = "q_initial1'q_accept1" ∧ C10n.badG.V.length = 64 ∧ (dedup C10n.badG.V).length = 63 ∧
    C10n.badP.Accepts [] ∧ C10n.badP.Accepts ["a"] ∧ ¬ C10n.badP.Accepts ["a", "a"] ∧ C10n.badG.Lang ["a", "a"] := by
  refine ⟨C10n.badP_valid, C10n.badP_keys, rfl, C10n.badP_marker, by decide +kernel, fun h => ?_, rfl, by decide +kernel, C10n.badP_normalize,
    C10n.badP_toCfg, by decide +kernel, by decide +kernel, by decide +kernel, C10n.badP_accepts_nil, C10n.badP_accepts_a,
    C10n.badP_not_accepts_aa, C10n.badG_lang_aa⟩
  exact absurd (h "p'p" (by decide +kernel)) (by decide +kernel)

/-- so the conclusion of `pda_toCfg_lang` fails for the witness: `hnames` cannot be dropped from it -/
example : ¬ (∀ (P : SPDA), P.valid = true → (P.delta.map (·.1)).Nodup → P.epsG = P.eps →
    freshSymbol P.Gamma ≠ .ok P.epsG → P.epsG ≠ "∅" → ∀ G, P.toCfg = .ok G → ∀ w, G.Lang w ↔ P.Accepts w) := by
  intro h
  exact C10n.badP_not_accepts_aa
    ((h C10n.badP C10n.badP_valid C10n.badP_keys rfl C10n.badP_marker (by decide +kernel) _ C10n.badP_toCfg ["a", "a"]).mp C10n.badG_lang_aa)

#print axioms pdaVar_inj
#print axioms pdaVar_collision
#print axioms pda2cfg_name_collision_witness

end Gamba
