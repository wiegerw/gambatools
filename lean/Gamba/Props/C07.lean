/-
  Gamba.Props.C07 — the CYK table of the model is exact for grammars in Chomsky normal form.

  `isChomsky` does not imply `valid`, and the CYK loops only range over `G.V`: for a CNF grammar that uses,
  on a right-hand side, a variable not declared in `G.V`, exactness under `isChomsky` alone is false
  (`cyk_cell_exact_stmt`, `cfg_accepts_cnf_iff_stmt`, refuted by `*_stmt_false` on `C07.exBad`).  Exactness needs
  that right-hand-side variables are declared (`CFG.RhsDeclared`; `*_partial`), which `G.valid` gives
  (`CFG.rhsDeclared_of_valid`; `*_of_valid`).  Soundness (`cyk_cell_sound`, `cfg_accepts_cnf_sound`) and
  `cyk_total` hold unconditionally.
-/
import Gamba.Proofs.C07
import Gamba.Proofs.DecEq
namespace Gamba

namespace C07

/-- S → A B | a, A → a, B → b -/
def exG : CFG where
  V := ["S", "A", "B"]
  Sigma := ["a", "b"]
  S := "S"
  R := [⟨"S", 0, [.v "A", .v "B"]⟩, ⟨"S", 1, [.t "a"]⟩, ⟨"A", 2, [.t "a"]⟩, ⟨"B", 3, [.t "b"]⟩]

/-- a CNF grammar whose variables `A`, `B` are not declared in `V` -/
def exBad : CFG where
  V := ["S"]
  Sigma := ["a", "b"]
  S := "S"
  R := [⟨"S", 0, [.v "A", .v "B"]⟩, ⟨"A", 1, [.t "a"]⟩, ⟨"B", 2, [.t "b"]⟩]

theorem exBad_gen : exBad.Gen [.v "S"] ["a", "b"] := by
  refine CFG.gen_v_iff.mpr ⟨[.v "A", .v "B"], ⟨⟨"S", 0, [.v "A", .v "B"]⟩, by decide, rfl, rfl⟩, ?_⟩
  refine CFG.gen_vv_iff.mpr ⟨["a"], ["b"], rfl, ?_, ?_⟩
  · exact CFG.gen_v_iff.mpr ⟨[.t "a"], ⟨⟨"A", 1, [.t "a"]⟩, by decide, rfl, rfl⟩, CFG.gen_t_iff.mpr rfl⟩
  · exact CFG.gen_v_iff.mpr ⟨[.t "b"], ⟨⟨"B", 2, [.t "b"]⟩, by decide, rfl, rfl⟩, CFG.gen_t_iff.mpr rfl⟩

end C07

/-- the table is always produced for a CNF grammar -/
theorem cyk_total (G : CFG) (hc : G.isChomsky = true) (w : List String) : ∃ X, G.cykMatrix w = .ok X :=
  ⟨_, CFG.cykMatrix_eq hc w⟩

example : C07.exG.isChomsky = true := by decide +kernel
example : C07.exG.valid = true := by decide +kernel
example : C07.exG.cykMatrix ["a", "b"] = .ok [((0, 0), ["S", "A"]), ((1, 1), ["B"]), ((0, 1), ["S"])] := by decide +kernel
example : CFG.cykGet [((0, 0), ["S", "A"]), ((1, 1), ["B"]), ((0, 1), ["S"])] 0 1 = ["S"] := by decide +kernel
example : C07.exG.cykMatrix ["a", "a", "b"] =
    .ok [((0, 0), ["S", "A"]), ((1, 1), ["S", "A"]), ((2, 2), ["B"]), ((0, 1), []), ((1, 2), ["S"]), ((0, 2), [])] := by decide +kernel

/-- every variable in cell (i,j) is a declared variable generating w[i..j] -/
theorem cyk_cell_sound (G : CFG) (hc : G.isChomsky = true) (w : List String) (X : CFG.CykTable)
    (hX : G.cykMatrix w = .ok X) (i j : Nat) (hij : i ≤ j) (hj : j < w.length) (A : String)
    (hA : A ∈ CFG.cykGet X i j) : A ∈ G.V ∧ G.Gen [.v A] ((w.drop i).take (j - i + 1)) :=
  CFG.cykMatrix_sound hc hX hij hj hA

example : C07.exG.Gen [.v "S"] ((["a", "b"].drop 0).take (1 - 0 + 1)) :=
  (cyk_cell_sound C07.exG (by decide +kernel) ["a", "b"] _ rfl 0 1 (by decide +kernel) (by decide +kernel) "S" (by decide +kernel)).2

/-- exactness of every cell under `isChomsky` alone (false: see `cyk_cell_exact_stmt_false`) -/
def cyk_cell_exact_stmt : Prop :=
  ∀ (G : CFG) (_hc : G.isChomsky = true) (w : List String) (X : CFG.CykTable)
    (_hX : G.cykMatrix w = .ok X) (i j : Nat) (_hij : i ≤ j) (_hj : j < w.length) (A : String),
    A ∈ CFG.cykGet X i j ↔ (A ∈ G.V ∧ G.Gen [.v A] ((w.drop i).take (j - i + 1)))

/-- counterexample: `S → A B, A → a, B → b` with `V = {S}` -/
theorem cyk_cell_exact_stmt_false : ¬ cyk_cell_exact_stmt := by
  intro h
  have h' := (h C07.exBad (by decide) ["a", "b"] _ rfl 0 1 (by decide) (by decide) "S").mpr
    ⟨by decide, C07.exBad_gen⟩
  revert h'
  decide

/-- every cell (i,j), i ≤ j < |w|, of the CYK table holds exactly the variables (of G.V) generating
    w[i..j] — provided the variables occurring on right-hand sides are declared in `G.V` (`hv` is
    `CFG.RhsDeclared G`; from validity by `CFG.rhsDeclared_of_valid`) -/
theorem cyk_cell_exact_partial (G : CFG) (hc : G.isChomsky = true)
    (hv : ∀ r, r ∈ G.R → ∀ B, Sym.v B ∈ r.rhs → B ∈ G.V)
    (w : List String) (X : CFG.CykTable)
    (hX : G.cykMatrix w = .ok X) (i j : Nat) (hij : i ≤ j) (hj : j < w.length) (A : String) :
    A ∈ CFG.cykGet X i j ↔ (A ∈ G.V ∧ G.Gen [.v A] ((w.drop i).take (j - i + 1))) :=
  ⟨CFG.cykMatrix_sound hc hX hij hj, fun h => CFG.cykMatrix_complete hc hv hX hij hj h.1 h.2⟩

example : ∀ r, r ∈ C07.exG.R → ∀ B, Sym.v B ∈ r.rhs → B ∈ C07.exG.V :=
  CFG.rhsDeclared_of_valid (by decide +kernel)

/-- the same for a valid grammar (`CFG.valid`: all symbols of all rules are declared) -/
theorem cyk_cell_exact_of_valid (G : CFG) (hc : G.isChomsky = true) (hv : G.valid = true)
    (w : List String) (X : CFG.CykTable)
    (hX : G.cykMatrix w = .ok X) (i j : Nat) (hij : i ≤ j) (hj : j < w.length) (A : String) :
    A ∈ CFG.cykGet X i j ↔ (A ∈ G.V ∧ G.Gen [.v A] ((w.drop i).take (j - i + 1))) :=
  cyk_cell_exact_partial G hc (CFG.rhsDeclared_of_valid hv) w X hX i j hij hj A

-- "S" does not generate "aa" in `exG`: read off the table
example : ¬ C07.exG.Gen [.v "S"] ["a", "a"] := fun h =>
  absurd ((cyk_cell_exact_of_valid C07.exG (by decide +kernel) (by decide +kernel) ["a", "a"] _ rfl 0 1 (by decide +kernel)
    (by decide +kernel) "S").mpr ⟨by decide +kernel, h⟩) (by decide +kernel)

/-- unconditional soundness of `accepts` on a CNF grammar: it always answers, and `true` is right -/
theorem cfg_accepts_cnf_sound (G : CFG) (hc : G.isChomsky = true) (w : List String) :
    ∃ b, G.accepts w = .ok b ∧ (b = true → G.Lang w) := by
  by_cases hw : w = []
  · subst hw
    refine ⟨_, CFG.accepts_cnf_nil hc, fun h => ?_⟩
    exact (CFG.cnf_gen_v_nil_iff hc).mpr (CFG.any_eps_rule_iff.mp h)
  · obtain ⟨X, hX⟩ := cyk_total G hc w
    exact ⟨_, CFG.accepts_cnf_cons hc hw hX, fun h => CFG.lang_of_start_mem_cell hc hw hX (of_decide_eq_true h)⟩

/-- exactness of `accepts` under `isChomsky` and `S ∈ V` alone (false: see `cfg_accepts_cnf_iff_stmt_false`) -/
def cfg_accepts_cnf_iff_stmt : Prop :=
  ∀ (G : CFG) (_hc : G.isChomsky = true) (_hS : G.S ∈ G.V) (w : List String),
    ∃ b, G.accepts w = .ok b ∧ (b = true ↔ G.Lang w)

theorem cfg_accepts_cnf_iff_stmt_false : ¬ cfg_accepts_cnf_iff_stmt := by
  intro h
  obtain ⟨b, hb, hiff⟩ := h C07.exBad (by decide) (by decide) ["a", "b"]
  have hfalse : C07.exBad.accepts ["a", "b"] = .ok false := rfl
  rw [hfalse] at hb
  injection hb with hb
  subst hb
  exact absurd (hiff.mpr C07.exBad_gen) (by decide)

/-- membership for a grammar already in CNF (the start variable must be declared: S ∈ V, and so must
    the variables occurring on right-hand sides: `hv` is `CFG.RhsDeclared G`) -/
theorem cfg_accepts_cnf_iff_partial (G : CFG) (hc : G.isChomsky = true) (hS : G.S ∈ G.V)
    (hv : ∀ r, r ∈ G.R → ∀ B, Sym.v B ∈ r.rhs → B ∈ G.V) (w : List String) :
    ∃ b, G.accepts w = .ok b ∧ (b = true ↔ G.Lang w) := by
  by_cases hw : w = []
  · subst hw
    refine ⟨_, CFG.accepts_cnf_nil hc, ?_⟩
    rw [CFG.any_eps_rule_iff]
    exact (CFG.cnf_gen_v_nil_iff hc).symm
  · obtain ⟨X, hX⟩ := cyk_total G hc w
    refine ⟨_, CFG.accepts_cnf_cons hc hw hX, ?_⟩
    rw [decide_eq_true_eq]
    exact CFG.start_mem_cell_iff hc hv hS hw hX

example : C07.exG.isChomsky = true ∧ C07.exG.S ∈ C07.exG.V ∧
    (∀ r, r ∈ C07.exG.R → ∀ B, Sym.v B ∈ r.rhs → B ∈ C07.exG.V) :=
  ⟨by decide +kernel, by decide +kernel, CFG.rhsDeclared_of_valid (by decide +kernel)⟩

/-- membership for a valid grammar already in CNF -/
theorem cfg_accepts_cnf_iff_of_valid (G : CFG) (hc : G.isChomsky = true) (hS : G.S ∈ G.V)
    (hv : G.valid = true) (w : List String) :
    ∃ b, G.accepts w = .ok b ∧ (b = true ↔ G.Lang w) :=
  cfg_accepts_cnf_iff_partial G hc hS (CFG.rhsDeclared_of_valid hv) w

example : C07.exG.accepts ["a", "b"] = .ok true ∧ C07.exG.accepts ["a", "a"] = .ok false ∧
    C07.exG.accepts [] = .ok false := by decide +kernel

example : C07.exG.Lang ["a", "b"] ∧ ¬ C07.exG.Lang ["a", "a"] := by
  obtain ⟨b, hb, hiff⟩ := cfg_accepts_cnf_iff_of_valid C07.exG (by decide +kernel) (by decide +kernel) (by decide +kernel) ["a", "b"]
  obtain ⟨b', hb', hiff'⟩ := cfg_accepts_cnf_iff_of_valid C07.exG (by decide +kernel) (by decide +kernel) (by decide +kernel) ["a", "a"]
  have h : C07.exG.accepts ["a", "b"] = .ok true := rfl
  have h' : C07.exG.accepts ["a", "a"] = .ok false := rfl
  rw [h] at hb; rw [h'] at hb'
  injection hb with hb; injection hb' with hb'
  subst hb; subst hb'
  exact ⟨hiff.mp rfl, fun hl => absurd (hiff'.mpr hl) (by decide +kernel)⟩

#print axioms cyk_total
#print axioms cyk_cell_sound
#print axioms cyk_cell_exact_partial
#print axioms cyk_cell_exact_of_valid
#print axioms cyk_cell_exact_stmt_false
#print axioms cfg_accepts_cnf_sound
#print axioms cfg_accepts_cnf_iff_partial
#print axioms cfg_accepts_cnf_iff_of_valid
#print axioms cfg_accepts_cnf_iff_stmt_false

end Gamba
