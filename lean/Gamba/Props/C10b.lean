/-
  Gamba.Props.C10b — Sipser's Lemma 2.27 for the model of the triple construction of `pda_to_cfg`
  (`SPDA.tripleCfg`): for a PDA in push/pop form the variable `A_pq` (named `p'q`) generates exactly the words
  that take the PDA from `p` with the empty stack to `q` with the empty stack; hence for a push/pop PDA with one
  accepting state that accepts only with the empty stack the grammar generates exactly the PDA's language.

  Completeness needs `P.epsG = P.eps` (the two ε fields are the same Python string; `tripleRules` compares the
  stack component of a transition with `P.eps`, the semantics with `P.epsG`): without it the statement is false,
  see `tripleCfg_complete_needs_heq` below.
-/
import Gamba.Proofs.C10b
import Gamba.Proofs.C09
namespace Gamba

/-- soundness: whatever `A_pq` generates is an empty-stack-to-empty-stack computation -/
theorem tripleCfg_sound (P : SPDA) (hv : P.valid = true) (hk : (P.delta.map (·.1)).Nodup) (hpp : P.isPushPop = true)
    (hinj : P.VarInj) (qa : String) (p q : String) (hp : p ∈ P.Q) (hq : q ∈ P.Q) (w : List String)
    (h : (P.tripleCfg qa).Gen [.v (pdaVar p q)] w) : P.Run (p, []) w (q, []) :=
  (C10b.bal_of_gen P hv hk hpp hinj qa hp hq h).run []

/-- the hypotheses hold for the concrete push/pop PDA `C10b.exPDA` (`aⁿbⁿ`, `n ≥ 1`, bottom marker `$`) -/
example : C10b.exPDA.valid = true ∧ (C10b.exPDA.delta.map (·.1)).Nodup ∧ C10b.exPDA.isPushPop = true ∧
    C10b.exPDA.VarInj ∧ "q1" ∈ C10b.exPDA.Q ∧ "q2" ∈ C10b.exPDA.Q :=
  ⟨by decide +kernel, by decide +kernel, by decide +kernel, C10b.exPDA_varInj, by decide +kernel, by decide +kernel⟩

/-- … and the premise: `A_{q1 q2}` generates `a b` (rule `A_{q1 q2} → a A_{q1 q1} b`, then `A_{q1 q1} → ε`) -/
example : (C10b.exPDA.tripleCfg "q3").Gen [.v (pdaVar "q1" "q2")] ["a", "b"] :=
  CFG.gen_v_iff.mpr ⟨[.t "a", .v (pdaVar "q1" "q1"), .t "b"],
    C10b.rule_pushpop _ (by decide +kernel) _ "x" "q1" "a" "q1" "q1" "b" "q2" "" (by decide +kernel) (by decide +kernel)
      (by decide +kernel) (by decide +kernel),
    .t (.v (C10b.rule_eps _ (by decide +kernel) _ "q1" (by decide +kernel)) .nil (.t .nil))⟩

/-- completeness
    (`hinj` belongs to the wording of the property; the proof does not use it) -/
theorem tripleCfg_complete (P : SPDA) (hv : P.valid = true) (hk : (P.delta.map (·.1)).Nodup) (hpp : P.isPushPop = true)
    (hinj : P.VarInj) (heq : P.epsG = P.eps) (qa : String) (p q : String) (hp : p ∈ P.Q) (hq : q ∈ P.Q)
    (w : List String) (h : P.Run (p, []) w (q, [])) : (P.tripleCfg qa).Gen [.v (pdaVar p q)] w :=
  have _ := hinj
  C10b.complete P hv hk hpp heq qa p q hp hq w h

/-- the premise on `exPDA`: `(q1, []) --a b--> (q2, [])` (push `x` reading `a`, pop it reading `b`) -/
example : C10b.exPDA.epsG = C10b.exPDA.eps ∧ C10b.exPDA.Run ("q1", []) ["a", "b"] ("q2", []) :=
  have m1 : C10b.exPDA.Move "a" ("q1", []) ("q1", [] ++ ["x"]) :=
    C10b.move_push (by decide +kernel) (by decide +kernel) []
  have m2 : C10b.exPDA.Move "b" ("q1", [] ++ ["x"]) ("q2", []) :=
    C10b.move_pop (by decide +kernel) (by decide +kernel) []
  ⟨rfl, .sym (by decide +kernel) m1 (.sym (by decide +kernel) m2 (.nil _))⟩

/-- the completeness statement without `heq` … -/
def tripleCfg_complete_noHeq_stmt : Prop :=
  ∀ (P : SPDA), P.valid = true → (P.delta.map (·.1)).Nodup → P.isPushPop = true → P.VarInj →
    ∀ (qa p q : String), p ∈ P.Q → q ∈ P.Q → ∀ (w : List String),
      P.Run (p, []) w (q, []) → (P.tripleCfg qa).Gen [.v (pdaVar p q)] w

/-- … is false: `C10b.exBad` (`eps = "e"`, `epsG = ""`) runs `(p, []) --a b--> (p, [])` but its triple grammar has
    no terminal at all.  (Every PDA the driver builds has `epsG = eps`.) -/
theorem tripleCfg_complete_needs_heq : ¬ tripleCfg_complete_noHeq_stmt := fun h =>
  C10b.exBad_not_gen "p" (h C10b.exBad (by decide) (by decide) (by decide) C10b.exBad_varInj "p" "p" "p"
    (by decide) (by decide) _ C10b.exBad_run)

/-- hence: for a push/pop PDA with the single accepting state `qa` that accepts only with the empty stack,
    the grammar generates exactly the PDA's language -/
theorem tripleCfg_lang (P : SPDA) (hv : P.valid = true) (hk : (P.delta.map (·.1)).Nodup) (hpp : P.isPushPop = true)
    (hinj : P.VarInj) (heq : P.epsG = P.eps) (qa : String) (hF : P.F = [qa])
    (hes : ∀ w st, P.Run (P.q0, []) w (qa, st) → st = []) (w : List String) :
    (P.tripleCfg qa).Lang w ↔ P.Accepts w := by
  obtain ⟨hq0, _, _, hFQ, _⟩ := (C10a.PDA_valid_iff P).mp hv
  have hqa : qa ∈ P.F := by rw [hF]; exact List.mem_singleton.mpr rfl
  refine (C10b.gen_iff_bal P hv hk hpp hinj heq qa hq0 (hFQ qa hqa) w).trans ⟨fun b => ⟨qa, [], hqa, b.run []⟩, ?_⟩
  rintro ⟨f, st, hf, hr⟩
  rw [hF] at hf
  cases List.mem_singleton.mp hf
  cases hes w st hr
  exact C10b.Bal.of_run hv hpp hr

/-- all hypotheses hold for `exPDA` (accepting state `q3`, reached only by popping the bottom marker) -/
example : C10b.exPDA.F = ["q3"] ∧ (∀ w st, C10b.exPDA.Run (C10b.exPDA.q0, []) w ("q3", st) → st = []) :=
  ⟨by decide +kernel, C10b.exPDA_hes⟩

/-- … so the triple grammar of `exPDA` generates `a a b b` -/
example : (C10b.exPDA.tripleCfg "q3").Lang ["a", "a", "b", "b"] :=
  (tripleCfg_lang C10b.exPDA (by decide +kernel) (by decide +kernel) (by decide +kernel) C10b.exPDA_varInj rfl "q3" rfl C10b.exPDA_hes _).mpr
    (C10b.exPDA.accepts_sound (by decide +kernel) 1000 [] _ (by decide +kernel) rfl)

#print axioms tripleCfg_sound
#print axioms tripleCfg_complete
#print axioms tripleCfg_lang
#print axioms tripleCfg_complete_needs_heq

end Gamba
