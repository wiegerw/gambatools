/-
  Gamba.Props.C10a — the PDA normal-form constructions of the model (`pda_to_one_accepting_state_in_place`,
  `pda_to_accept_on_empty_stack_in_place` as repaired with the drain state, `pda_to_push_pop_in_place`)
  produce valid automata with exactly the language of the original (acceptance by final state, any stack),
  the empty-stack variant accepts only with the empty stack, and the push/pop variant has only push or pop moves.

  The String-level statements each need one hypothesis beyond validity and unique keys (counterexamples without
  them below):
  * `pda_emptyStackS_spec`: the bottom marker chosen by `fresh_symbol(Gamma, '$@#*&!?')` must differ from the
    PDA's ε (`freshSymbol P.Gamma ≠ .ok P.epsG`); a PDA whose ε is the string `$` gets the marker `$`;
  * `pda_pushPopS_spec`: the PDA's ε must not be the dummy symbol `∅` (`P.epsG ≠ "∅"`).
-/
import Gamba.Model.PDA
import Gamba.Spec.PDA
import Gamba.Proofs.C10a
namespace Gamba
variable {σ τ γ : Type} [DecidableEq σ] [DecidableEq τ] [DecidableEq γ]

open C10a

/-- single accepting state -/
theorem pda_oneAccepting_spec (P : PDA σ τ γ) (hv : P.valid = true) (hk : (P.delta.map (·.1)).Nodup) (qa : σ) (hq : qa ∉ P.Q) :
    (P.toOneAccepting qa).valid = true ∧ ((P.toOneAccepting qa).delta.map (·.1)).Nodup ∧
    ((dedup P.F).length ≠ 1 → (P.toOneAccepting qa).F = [qa]) ∧
    ∀ w, (P.toOneAccepting qa).Accepts w ↔ P.Accepts w := by
  refine ⟨oneAcc_valid P hv qa, oneAcc_nodup P hk qa, ?_, ?_⟩
  · intro hne; rw [oneAcc_eq hne]
  · intro w
    by_cases hne : (dedup P.F).length = 1
    · rw [oneAcc_id hne]
    · refine oneAcc_lang P (P.toOneAccepting qa) qa hv hq ?_ ?_ ?_ ?_ (oneAcc_adds P qa hne).dT w <;>
        rw [oneAcc_eq hne]

example : exNO.valid = true ∧ (exNO.delta.map (·.1)).Nodup ∧ "qa" ∉ exNO.Q ∧ (dedup exNO.F).length ≠ 1 :=
  by decide +kernel

example : exNO.toOneAccepting "qa" =
    { exNO with Q := ["q0", "q1", "q2", "qa"], F := ["qa"],
                delta := [(("q0", "a", "eps"), [("q1", "x"), ("q0", "eps")]), (("q1", "eps", "x"), [("q2", "y")]),
                          (("q1", "eps", "eps"), [("qa", "eps")]), (("q2", "eps", "eps"), [("qa", "eps")])] } := by
  decide +kernel

/-- a PDA that already has exactly one accepting state is returned unchanged -/
example : exNE.toOneAccepting "qa" = exNE := by decide +kernel

/-- accept on empty stack (with the drain state): same language, and every accepting computation ends with the empty stack -/
theorem pda_emptyStack_spec (P : PDA σ τ γ) (hv : P.valid = true) (hk : (P.delta.map (·.1)).Nodup)
    (bottom : γ) (qi qd qa : σ) (hb : bottom ∉ P.Gamma) (hbe : bottom ≠ P.epsG)
    (hqi : qi ∉ P.Q) (hqd : qd ∉ P.Q) (hqa : qa ∉ P.Q) (h1 : qi ≠ qd) (h2 : qi ≠ qa) (h3 : qd ≠ qa) :
    let P' := P.toAcceptOnEmptyStack bottom qi qd qa
    P'.valid = true ∧ (P'.delta.map (·.1)).Nodup ∧ P'.F = [qa] ∧
    (∀ w, P'.Accepts w ↔ P.Accepts w) ∧
    (∀ w f st, f ∈ P'.F → P'.Run (P'.q0, []) w (f, st) → st = []) :=
  ⟨es_valid P hv bottom qi qd qa hbe, (es_adds P bottom qi qd qa).nodup hk, rfl,
    es_lang P (P.toAcceptOnEmptyStack bottom qi qd qa) bottom qi qd qa hv hb hbe hqi hqd hqa h1 h2 h3
      rfl rfl rfl rfl (es_adds P bottom qi qd qa).dT⟩

example : exNE.valid = true ∧ (exNE.delta.map (·.1)).Nodup ∧ "$" ∉ exNE.Gamma ∧ "$" ≠ exNE.epsG ∧
    "i" ∉ exNE.Q ∧ "d" ∉ exNE.Q ∧ "f" ∉ exNE.Q ∧ "i" ≠ "d" ∧ "i" ≠ "f" ∧ "d" ≠ "f" :=
  by decide +kernel

/-- `exNE` accepts `a` with the stack `[x]` … -/
example : exNE.Run (exNE.q0, []) ["a"] ("q1", ["x"]) ∧ exNE.Accepts ["a"] := ⟨exNE_run, exNE_accepts⟩

/-- … and so does its empty-stack normal form, which can only do so with the empty stack -/
example : (exNE.toAcceptOnEmptyStack "$" "i" "d" "f").Accepts ["a"] :=
  ((pda_emptyStack_spec exNE exNE_valid exNE_keys "$" "i" "d" "f" (by decide +kernel) (by decide +kernel) (by decide +kernel) (by decide +kernel)
    (by decide +kernel) (by decide +kernel) (by decide +kernel) (by decide +kernel)).2.2.2.1 ["a"]).mpr exNE_accepts

/-- the String-level wrapper picks fresh names, so the generic theorem applies whenever a fresh bottom marker exists
    (and differs from the PDA's ε: hypothesis `hε`, see `exDollar` below) -/
theorem pda_emptyStackS_spec (P : SPDA) (hv : P.valid = true) (hk : (P.delta.map (·.1)).Nodup)
    (hε : freshSymbol P.Gamma ≠ .ok P.epsG) (P' : SPDA)
    (h : P.toAcceptOnEmptyStackS = .ok P') :
    P'.valid = true ∧ (∀ w, P'.Accepts w ↔ P.Accepts w) ∧
    (∀ w f st, f ∈ P'.F → P'.Run (P'.q0, []) w (f, st) → st = []) :=
  let ⟨r1, _, r3, r4⟩ := esS_spec P hv hk hε P' h
  ⟨r1, r3, r4⟩

/-- the normal form of `exNE` accepts `a` (executable acceptance test), although `exNE` itself accepts `a`
    only with a non-empty stack -/
example : ∃ P', exNE.toAcceptOnEmptyStackS = .ok P' ∧ P'.accepts 20 [] ["a"] = true ∧ P'.Accepts ["a"] := by
  refine ⟨_, exNE_emptyStackS, by decide +kernel, ?_⟩
  exact ((pda_emptyStackS_spec exNE exNE_valid exNE_keys exNE_marker _ exNE_emptyStackS).2.1 ["a"]).mpr
    exNE_accepts

/-- counterexample to the statement without `hε`: for a PDA whose ε is `$` the chosen marker is ε itself,
    and the result is not a valid PDA -/
example : exDollar.valid = true ∧ (exDollar.delta.map (·.1)).Nodup ∧
    ∃ P', exDollar.toAcceptOnEmptyStackS = .ok P' ∧ P'.valid = false :=
  ⟨by decide +kernel, by decide +kernel, _, rfl, by decide +kernel⟩

/-- push/pop form: same language, and every transition either pushes or pops exactly one symbol
    (for a PDA whose ε is not the dummy stack symbol `∅`: hypothesis `hd`, see `exEmptySet` below) -/
theorem pda_pushPopS_spec (P : SPDA) (hv : P.valid = true) (hk : (P.delta.map (·.1)).Nodup)
    (hd : P.epsG ≠ "∅") (P' : SPDA)
    (h : P.toPushPopS = .ok P') :
    P'.valid = true ∧ P'.isPushPop = true ∧ ∀ w, P'.Accepts w ↔ P.Accepts w := by
  obtain ⟨hv1, hk1, _, hl1⟩ := pda_oneAccepting_spec P hv hk (freshState P.Q "q_accept") (freshState_not_mem _ _)
  rw [toPushPopS_eq] at h
  split at h
  · cases h
  · cases h
    have hd' : "∅" ≠ P.toOneAcceptingS.epsG := by rw [(oneAcc_epsG P).1]; exact fun h => hd h.symm
    obtain ⟨r1, _, r2, _, r3⟩ := ppResult_spec P.toOneAcceptingS "∅" hv1 hk1 hd'
    exact ⟨r1, r2, fun w => (r3 w).trans (hl1 w)⟩

example : exNO.valid = true ∧ (exNO.delta.map (·.1)).Nodup ∧ exNO.epsG ≠ "∅" ∧ exNO.isPushPop = false :=
  by decide +kernel

example : ∃ P', exNO.toPushPopS = .ok P' ∧ P'.isPushPop = true ∧ P'.Accepts ["a", "a"] := by
  refine ⟨_, exNO_pushPopS, by decide +kernel, ?_⟩
  refine ((pda_pushPopS_spec exNO (by decide +kernel) (by decide +kernel) (by decide +kernel) _ exNO_pushPopS).2.2 ["a", "a"]).mpr ?_
  exact PDA.accepts_sound exNO (by decide +kernel) 20 [] ["a", "a"] (by decide +kernel) (by decide +kernel)

/-- counterexample to the statement without `hd`: for a PDA whose ε is `∅` the assertion `∅ ∉ Γ` passes
    (ε is never in Γ) and the result, with `∅ ∈ Γ`, is not a valid PDA -/
example : exEmptySet.valid = true ∧ (exEmptySet.delta.map (·.1)).Nodup ∧
    ∃ P', exEmptySet.toPushPopS = .ok P' ∧ P'.valid = false :=
  ⟨by decide +kernel, by decide +kernel, _, rfl, by decide +kernel⟩

end Gamba

#print axioms Gamba.pda_oneAccepting_spec
#print axioms Gamba.pda_emptyStack_spec
#print axioms Gamba.pda_emptyStackS_spec
#print axioms Gamba.pda_pushPopS_spec
