/-
  Gamba.Props.C06a — property C06 (first half): `regexp_to_nfa` (Thompson-style composition with the
  generated state names q0, q1, … and the generator's shared alphabet accumulator) yields a valid NFA
  with ε = "" over exactly the symbols of the expression, accepting exactly the denoted language —
  provided no symbol of the expression is the ε symbol "" itself (otherwise the NFA constructor raises).
  That proviso is `Regexp.NoEps r` (defined in Proofs/C06a): every `sym a` in `r` has `a ≠ ""`.
-/
import Gamba.Proofs.C06a
namespace Gamba

open C06a

theorem regexpToNfa_spec (r : Regexp String) (hr : r.NoEps) :
    ∃ N, regexpToNfa r = .ok N ∧ N.valid = true ∧ N.eps = "" ∧
      (∀ a, a ∈ N.Sigma ↔ a ∈ r.symbols) ∧
      ∀ w, N.Accepts w ↔ r.Lang w := by
  obtain ⟨g, st, h, inv⟩ := regexpGenerate_inv r hr { counter := 0, Sigma := [] } (by simp)
  obtain ⟨hv, hs, ht⟩ := inv.valid st (fun _ h => h) (inv.noEps hr (by simp))
  refine ⟨effN g st, regexpToNfa_eq h, hv, inv.eps, fun a => ⟨fun ha => ?_, hs a⟩, fun w => ?_⟩
  · exact ((inv.sigma a).mp (ht a ha)).resolve_left (by simp)
  · rw [effN_accepts, inv.lang]

/-- non-vacuity: the hypothesis holds on a non-degenerate expression, `a*(b + 1)` -/
example : (Regexp.cat (.star (.sym "a")) (.sum (.sym "b") .one)).NoEps := by decide +kernel

/-- the automaton built for `a*(b + 1)`: states q0 … q6, the alphabet collected by the generator -/
example : regexpToNfa (.cat (.star (.sym "a")) (.sum (.sym "b") .one)) = .ok
    { Q := ["q0", "q1", "q2", "q3", "q4", "q5", "q6"], Sigma := ["a", "b"],
      delta := [(("q0", "a"), ["q1"]), (("q1", ""), ["q0", "q6"]), (("q2", ""), ["q0", "q6"]),
                (("q3", "b"), ["q4"]), (("q6", ""), ["q3", "q5"])],
      q0 := "q2", F := ["q4", "q5"], eps := "" } := by decide +kernel

/-- the language clause at work: `aab ∈ L(a*(b + 1))` is accepted by the generated automaton -/
example : ∃ N, regexpToNfa (.cat (.star (.sym "a")) (.sum (.sym "b") .one)) = .ok N ∧
    N.Accepts ["a", "a", "b"] ∧ ¬ N.Accepts ["b", "a"] := by
  obtain ⟨N, hN, _, _, _, hL⟩ :=
    regexpToNfa_spec (.cat (.star (.sym "a")) (.sum (.sym "b") .one)) (by decide +kernel)
  refine ⟨N, hN, (hL _).mpr ?_, fun h => ?_⟩
  · exact Regexp.Lang.cat (u := ["a", "a"]) (v := ["b"])
      (Regexp.Lang.starApp (u := ["a"]) (v := ["a"]) (.sym "a")
        (Regexp.Lang.starApp (u := ["a"]) (v := []) (.sym "a") .starNil))
      (.sumL (.sym "b"))
  · have h := (hL _).mp h
    rw [Regexp.lang_cat] at h
    obtain ⟨u, v, huv, hu, hv⟩ := h
    rw [Regexp.lang_sum, Regexp.lang_sym, Regexp.lang_one] at hv
    rcases hv with rfl | rfl
    · cases u with
      | nil => simp at huv
      | cons x u => cases u with
        | nil => simp at huv
        | cons y u => simp at huv
    · rw [List.append_nil] at huv
      subst huv
      rw [Regexp.lang_star_flatten] at hu
      obtain ⟨ws, hws, hall⟩ := hu
      have : ∀ x, x ∈ ws.flatten → x = "a" := by
        intro x hx
        obtain ⟨l, hl, hxl⟩ := List.mem_flatten.mp hx
        have := Regexp.lang_sym.mp (hall l hl)
        subst this
        exact List.mem_singleton.mp hxl
      exact absurd (this "b" (hws ▸ by simp)) (by decide +kernel)

/-- the hypothesis is needed: a symbol equal to the ε symbol makes the NFA constructor fail -/
example : regexpToNfa (.sym "") = .error .assertion := by decide +kernel

#print axioms regexpToNfa_spec

end Gamba
