/-
  Gamba.Props.C06b — property C06 (second half): `dfa_to_gnfa`, `gnfa_minimize`, `dfa_to_regexp`: the GNFA built from a DFA has the
  DFA's language, ripping a state preserves it, and for EVERY elimination order the resulting regular
  expression denotes exactly the language of the DFA.
-/
import Gamba.Proofs.C06b
namespace Gamba

variable {σ τ : Type} [DecidableEq σ] [DecidableEq τ]

/-- the GNFA built from a DFA is proper and has the DFA's language -/
theorem toGnfa_spec (D : DFA σ τ) (hv : D.valid = true) (hk : (D.delta.map (·.1)).Nodup) (qs qa : σ)
    (hs : qs ∉ D.Q) (ha : qa ∉ D.Q) (hne : qs ≠ qa) :
    (D.toGnfa qs qa).Proper ∧ (∀ q, q ∈ (D.toGnfa qs qa).Q ↔ q ∈ D.Q ∨ q = qs ∨ q = qa) ∧
    ∀ w, (D.toGnfa qs qa).GLang w ↔ D.Accepts w :=
  ⟨C06b.toGnfa_proper D qs qa hv hs ha hne, C06b.toGnfa_mem_Q D qs qa hv hs ha hne,
    C06b.toGnfa_glang D qs qa hv hs ha hne hk⟩

example : C06b.evenA.valid = true ∧ (C06b.evenA.delta.map (·.1)).Nodup ∧ "start" ∉ C06b.evenA.Q ∧
    "accept" ∉ C06b.evenA.Q ∧ "start" ≠ "accept" := C06b.evenA_ok

-- the conclusion on the concrete DFA: "aba" has two `a`s, so the GNFA accepts it
example : (C06b.evenA.toGnfa "start" "accept").GLang ["a", "b", "a"] :=
  have ⟨hv, hk, hs, ha, hne⟩ := C06b.evenA_ok
  ((toGnfa_spec C06b.evenA hv hk "start" "accept" hs ha hne).2.2 _).2
    ⟨"q0", by decide +kernel,
      .cons (q' := "q1") (by decide +kernel) (.cons (q' := "q1") (by decide +kernel) (.cons (q' := "q0") (by decide +kernel) (.nil _)))⟩

/-- ripping one inner state preserves properness and the language -/
theorem rip_spec (G : GNFA σ τ) (hp : G.Proper) (q : σ) (hq : q ∈ G.Q) (hqs : q ≠ G.qStart) (hqa : q ≠ G.qAccept)
    (hnd : G.Q.Nodup) :
    (G.rip q).Proper ∧ (∀ p, p ∈ (G.rip q).Q ↔ p ∈ G.Q ∧ p ≠ q) ∧ (G.rip q).Q.Nodup ∧
    ∀ w, (G.rip q).GLang w ↔ G.GLang w :=
  ⟨C06b.rip_proper G hp q hqs hqa, C06b.rip_mem_Q G q, C06b.rip_nodup G q hnd,
    C06b.rip_glang G hp q hq hqs hqa⟩

/-- the label written by `rip` for a pair of remaining states: `L(R1)·L(R2)*·L(R3) ∪ L(R4)` -/
theorem rip_label_lang (G : GNFA σ τ) (hp : G.Proper) (q : σ) (hnd : G.Q.Nodup) (x y : σ)
    (hx : x ∈ (G.rip q).Q) (hy : y ∈ (G.rip q).Q) (w : List τ) :
    ((G.rip q).get x y).Lang w ↔
      (∃ u1 u2 u3, w = u1 ++ (u2 ++ u3) ∧ (G.get x q).Lang u1 ∧ (Regexp.star (G.get q q)).Lang u2 ∧
        (G.get q y).Lang u3) ∨ (G.get x y).Lang w :=
  have _ := hnd
  C06b.rip_get_lang G hp q x y hx hy w

-- hypotheses of `rip_spec` on the GNFA of the concrete DFA, ripping "q0"
example : (C06b.evenA.toGnfa "start" "accept").Proper :=
  have ⟨hv, hk, hs, ha, hne⟩ := C06b.evenA_ok
  (toGnfa_spec C06b.evenA hv hk "start" "accept" hs ha hne).1
example : "q0" ∈ (C06b.evenA.toGnfa "start" "accept").Q ∧ "q0" ≠ (C06b.evenA.toGnfa "start" "accept").qStart ∧
    "q0" ≠ (C06b.evenA.toGnfa "start" "accept").qAccept ∧ (C06b.evenA.toGnfa "start" "accept").Q.Nodup := by
  decide +kernel
example : ((C06b.evenA.toGnfa "start" "accept").rip "q0").Q = ["q1", "accept", "start"] := by decide +kernel
example : ((C06b.evenA.toGnfa "start" "accept").rip "q0").get "q1" "q1" =
    .sum (.cat (.sym "a") (.cat (.star (.sym "b")) (.sym "a"))) (.sym "b") := by decide +kernel
example : ((C06b.evenA.toGnfa "start" "accept").rip "q0").get "start" "accept" = .star (.sym "b") := by decide +kernel

/-- `dfa_to_regexp`, for EVERY elimination order (any duplicate-free enumeration of the DFA's states) -/
theorem toRegexp_lang (D : DFA σ τ) (hv : D.valid = true) (hk : (D.delta.map (·.1)).Nodup) (hQ : D.Q.Nodup)
    (qs qa : σ) (hs : qs ∉ D.Q) (ha : qa ∉ D.Q) (hne : qs ≠ qa)
    (order : List σ) (ho : order.Nodup) (hm : ∀ q, q ∈ order ↔ q ∈ D.Q) (w : List τ) :
    (D.toRegexp qs qa order).Lang w ↔ D.Accepts w :=
  C06b.toRegexp_lang D hv hk hQ qs qa hs ha hne order ho hm w

-- both elimination orders of the concrete DFA satisfy the hypotheses and give (different) expressions
example : C06b.evenA.Q.Nodup ∧ ["q0", "q1"].Nodup ∧ ["q1", "q0"].Nodup ∧
    (∀ q, q ∈ ["q0", "q1"] → q ∈ C06b.evenA.Q) ∧ (∀ q, q ∈ C06b.evenA.Q → q ∈ ["q1", "q0"]) := by decide +kernel
example : C06b.evenA.toRegexp "start" "accept" ["q1", "q0"] =
    .star (.sum (.cat (.sym "a") (.cat (.star (.sym "b")) (.sym "a"))) (.sym "b")) := by decide +kernel
example : C06b.evenA.toRegexp "start" "accept" ["q0", "q1"] =
    .sum (.cat (.cat (.star (.sym "b")) (.sym "a"))
      (.cat (.star (.sum (.cat (.sym "a") (.cat (.star (.sym "b")) (.sym "a"))) (.sym "b")))
        (.cat (.sym "a") (.star (.sym "b")))))
      (.star (.sym "b")) := by decide +kernel
example (w : List String) :
    (C06b.evenA.toRegexp "start" "accept" ["q0", "q1"]).Lang w ↔ C06b.evenA.Accepts w :=
  have ⟨hv, hk, hs, ha, hne⟩ := C06b.evenA_ok
  toRegexp_lang C06b.evenA hv hk (by decide +kernel) "start" "accept" hs ha hne
    ["q0", "q1"] (by decide +kernel) (by intro q; simp [C06b.evenA]) w
example (w : List String) :
    (C06b.evenA.toRegexp "start" "accept" ["q1", "q0"]).Lang w ↔ C06b.evenA.Accepts w :=
  have ⟨hv, hk, hs, ha, hne⟩ := C06b.evenA_ok
  toRegexp_lang C06b.evenA hv hk (by decide +kernel) "start" "accept" hs ha hne
    ["q1", "q0"] (by decide +kernel) (by intro q; simp [C06b.evenA]; exact Or.comm) w

#print axioms toGnfa_spec
#print axioms rip_spec
#print axioms rip_label_lang
#print axioms toRegexp_lang

end Gamba
