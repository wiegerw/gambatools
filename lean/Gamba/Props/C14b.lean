/-
  Gamba.Props.C14b — `dfa_reachable_states`, `dfa_remove_unreachable_states`, `dfa_no_extend` and
  `dfa_reverse` compute what they claim (on valid DFAs whose transition dict has unique keys, as every
  Python dict has).
-/
import Gamba.Proofs.C14b
import Gamba.Proofs.C01
import Gamba.Proofs.DecEq
namespace Gamba
variable {σ τ : Type} [DecidableEq σ] [DecidableEq τ]

open C14b

/-- `dfa_reachable_states(D, q, 0)`: exactly the states reachable from q by a (possibly empty) word over Σ;
    the fuel suffices -/
theorem reachableStates_zero (D : DFA σ τ) (hv : D.valid = true) (q : σ) (hq : q ∈ D.Q) :
    ∃ R, D.reachableStates q 0 = .ok R ∧
      ∀ r, r ∈ R ↔ ∃ w, (∀ a, a ∈ w → a ∈ D.Sigma) ∧ D.runT q w = r := by
  obtain ⟨R, hR⟩ := D.reachableStates_ok hv q hq 0
  exact ⟨R, hR, D.mem_reachableStates_zero hR⟩

example : exD.valid = true ∧ "p" ∈ exD.Q ∧ exD.reachableStates "p" 0 = .ok ["p", "q"] ∧
    exD.reachableStates "z" 0 = .ok ["z", "p", "q"] := by decide +kernel

/-- depth ≥ 1: exactly the states reachable by a NON-EMPTY word -/
theorem reachableStates_pos (D : DFA σ τ) (hv : D.valid = true) (q : σ) (hq : q ∈ D.Q) (d : Nat)
    (hd : d ≠ 0) :
    ∃ R, D.reachableStates q d = .ok R ∧
      ∀ r, r ∈ R ↔ ∃ w, w ≠ [] ∧ (∀ a, a ∈ w → a ∈ D.Sigma) ∧ D.runT q w = r :=
  DFA.reachableStates_pos D hv q hq d hd

/-- `t` is not reachable from itself by a non-empty word, `p` is -/
example : exE.valid = true ∧ "t" ∈ exE.Q ∧ exE.reachableStates "t" 1 = .ok ["d"] ∧
    exD.reachableStates "p" 1 = .ok ["q", "p"] ∧ exD.reachableStates "z" 3 = .ok ["p", "z", "q"] :=
  by decide +kernel

/-- `dfa_remove_unreachable_states`.  The hypothesis `hnd` (unique keys in `δ`) holds for every Python dict;
    in the association-list model it is needed, see the counterexample below. -/
theorem removeUnreachable_spec (D : DFA σ τ) (hv : D.valid = true)
    (hnd : (D.delta.map (·.1)).Nodup) :
    ∃ D', D.removeUnreachable = .ok D' ∧ D'.valid = true ∧ (∀ a, a ∈ D'.Sigma ↔ a ∈ D.Sigma) ∧
      (∀ r, r ∈ D'.Q ↔ D.Reachable r) ∧
      ∀ w, (∀ a, a ∈ w → a ∈ D.Sigma) → (D'.Accepts w ↔ D.Accepts w) := by
  obtain ⟨Q1, hR, hm⟩ := reachableStates_zero D hv D.q0 (DFA.valid_q0 hv)
  have hq0 : D.q0 ∈ Q1 := (hm _).mpr ⟨[], fun _ h => (by cases h), rfl⟩
  have hsub : ∀ q, q ∈ Q1 → q ∈ D.Q := by
    intro q hq
    obtain ⟨w, hw, rfl⟩ := (hm q).mp hq
    exact DFA.runT_mem hv (DFA.valid_q0 hv) hw
  have hcl : ∀ q, q ∈ Q1 → ∀ a, a ∈ D.Sigma → D.next q a ∈ Q1 := by
    intro q hq a ha
    obtain ⟨w, hw, rfl⟩ := (hm q).mp hq
    exact (hm _).mpr ⟨w ++ [a], List.forall_mem_append.mpr ⟨hw, List.forall_mem_singleton.mpr ha⟩,
      by rw [DFA.runT_append]; rfl⟩
  have hv' := DFA.restrict_valid D hv hnd Q1 hsub hq0 hcl
  refine ⟨D.restrict Q1, ?_, hv', fun a => Iff.rfl, ?_, ?_⟩
  · rw [DFA.removeUnreachable_eq D hR, DFA.checked_of_valid hv']
  · intro r
    have hQ : (D.restrict Q1).Q = Q1 := rfl
    rw [hQ, hm, DFA.Reachable_iff hv]
    exact exists_congr fun w => and_congr_right fun _ => eq_comm
  · exact fun w _ => ((D.restrict_hom hsub).accepts_iff hv' hv w).symm

example : exD.valid = true ∧ (exD.delta.map (·.1)).Nodup ∧
    (exD.removeUnreachable.map fun D' => (D'.Q, D'.F, D'.delta.length)) = .ok (["p", "q"], ["q"], 4) :=
  by decide +kernel

/-- without `hnd` the statement fails in the model: the shadowed second binding of `("p","a")` survives the
    filter and points to the removed state `z`, so the constructor's validity assertion fails -/
example : exDup.valid = true ∧
    (exDup.removeUnreachable.map fun D' => D'.Q) = .error .assertion :=
  by decide +kernel

/-- `dfa_no_extend`: keeps exactly the words of L(D) that are not a proper prefix of another word of L(D) -/
theorem noExtend_spec (D : DFA σ τ) (hv : D.valid = true) :
    ∃ D', D.noExtend = .ok D' ∧ D'.valid = true ∧
      ∀ w, (∀ a, a ∈ w → a ∈ D.Sigma) →
        (D'.Accepts w ↔
          (D.Accepts w ∧ ∀ v, v ≠ [] → (∀ a, a ∈ v → a ∈ D.Sigma) → ¬ D.Accepts (w ++ v))) := by
  have hF : ∀ f, f ∈ D.F.filter D.noExtTest → f ∈ D.Q := fun f hf => DFA.valid_F hv (List.mem_filter.mp hf).1
  have hv' := D.withF_valid hv _ hF
  refine ⟨{ D with F := D.F.filter D.noExtTest }, ?_, hv', ?_⟩
  · rw [DFA.noExtend_eq D hv, DFA.checked_of_valid hv']
  · intro w hw
    rw [D.withF_accepts_iff hv _ hF hw, DFA.Accepts_iff_runT hv hw, List.mem_filter,
      DFA.noExtTest_iff D hv _ (DFA.runT_mem hv (DFA.valid_q0 hv) hw)]
    have hiff : ∀ v, (∀ a, a ∈ v → a ∈ D.Sigma) →
        (D.Accepts (w ++ v) ↔ D.runT (D.runT D.q0 w) v ∈ D.F) := by
      intro v hvw
      rw [DFA.Accepts_iff_runT hv (List.forall_mem_append.mpr ⟨hw, hvw⟩), DFA.runT_append]
    constructor
    · rintro ⟨h1, h2⟩
      exact ⟨h1, fun v hne hvw hacc => h2 v hne hvw ((hiff v hvw).mp hacc)⟩
    · rintro ⟨h1, h2⟩
      exact ⟨h1, fun v hne hvw hF' => h2 v hne hvw ((hiff v hvw).mpr hF')⟩

/-- `exE` accepts ε and `a`; only `a` has no accepted proper extension -/
example : exE.valid = true ∧ (exE.noExtend.map fun D' => D'.F) = .ok ["t"] ∧
    (exD.noExtend.map fun D' => D'.F) = .ok [] :=
  by decide +kernel

/-- `dfa_reverse` returns a valid NFA (its language is the mirror image: `reverse_lang`) -/
theorem reverse_valid (D : DFA σ τ) (fresh : σ) (eps : τ) (hv : D.valid = true)
    (hf : fresh ∉ D.Q) (he : eps ∉ D.Sigma) : (D.reverse fresh eps).valid = true := by
  -- freshness of the new initial state is not needed for validity (only for the language)
  have _ := hf
  exact D.reverse_valid' fresh eps hv he

example : exD.valid = true ∧ "q1" ∉ exD.Q ∧ "" ∉ exD.Sigma ∧ (exD.reverse "q1" "").valid = true ∧
    (exD.reverse "q1" "").delta =
      [(("q", "a"), ["p", "q"]), (("p", "b"), ["p", "q"]), (("p", "a"), ["z"]), (("z", "b"), ["z"]),
       (("q1", ""), ["q", "z"])] := by
  decide +kernel

/-- The hypothesis `hnd` (unique keys in `δ`) holds for every Python dict; in the association-list model it
    is needed, see the counterexample below. (`hw` is not needed: both sides are false for words that are
    not over Σ.) -/
theorem reverse_lang (D : DFA σ τ) (fresh : σ) (eps : τ) (hv : D.valid = true)
    (hf : fresh ∉ D.Q) (he : eps ∉ D.Sigma) (hnd : (D.delta.map (·.1)).Nodup)
    (w : List τ) (hw : ∀ a, a ∈ w → a ∈ D.Sigma) :
    (D.reverse fresh eps).Accepts w ↔ D.Accepts w.reverse := by
  have _ := hw
  exact DFA.reverse_accepts_iff D fresh eps hv hf he hnd w

/-- `exD` accepts the words ending in `a`, its reversal those beginning with `a` -/
example : (exD.reverse "q1" "").Accepts ["a", "b"] ∧ ¬ (exD.reverse "q1" "").Accepts ["b", "a"] := by
  rw [reverse_lang exD "q1" "" exD_valid (by decide +kernel) (by decide +kernel) exD_nodup _ (by decide +kernel),
    reverse_lang exD "q1" "" exD_valid (by decide +kernel) (by decide +kernel) exD_nodup _ (by decide +kernel)]
  simp only [DFA.Accepts_iff_accepts]; decide +kernel

/-- without `hnd` the statement fails in the model: `addEdge` folds over the shadowed binding
    `(("p","a"),"z")` too, so the reversed automaton accepts `a` although `L(exDup) = ∅` -/
example : exDup.valid = true ∧ (exDup.reverse "q1" "").Accepts ["a"] ∧ ¬ exDup.Accepts ["a"] := by
  exact ⟨exDup_valid, (NFA.Accepts_iff_eval (s := []) (b := true) (by decide +kernel) (by decide +kernel)
    (by decide +kernel)).mpr rfl, by rw [DFA.Accepts_iff_accepts]; decide +kernel⟩

#print axioms reachableStates_zero
#print axioms reachableStates_pos
#print axioms removeUnreachable_spec
#print axioms noExtend_spec
#print axioms reverse_valid
#print axioms reverse_lang

end Gamba
