/-
  Gamba.Props.C12b — C12, object level: soundness of the exercise checkers with a structured answer
  (`Gamba.Check.nfaToDfaCheck`, `cykCheck`, `hasDerivation`, `derivationCheck`, `chomskyCheck`):
  the verdict `true` ("OK") is only given when the exercise criterion holds.

  * `chk_nfaToDfa_sound`: the hypothesis `hv : N.valid = true` is not used
    (the ε-closures are partial-correct for every fuel, and the check returned `.ok`, so they succeeded).
  * `chk_cyk_sound`: rows are numbered from the bottom (`rows` = the reversed list of lines); cell `j` of row `i`
    is compared with `cykGet Y j (i + j)`, i.e. the subword of length `i + 1` starting at position `j`.
-/
import Gamba.Proofs.C12b
namespace Gamba

/-- one checked step is a genuine derivation step of the required kind -/
theorem chk_hasDerivation_sound (G : CFG) (e1 e2 : List Sym) (kind : Nat)
    (h : Check.hasDerivation G e1 e2 kind = true) :
    (kind = 1 → G.LStep e1 e2) ∧ (kind = 2 → G.RStep e1 e2) ∧ G.Step e1 e2 :=
  C12b.hasDerivation_sound G e1 e2 kind h

-- S → AB | a, A → a, B → b
example : Check.hasDerivation C07.exG [.v "S"] [.v "A", .v "B"] 1 = true := by decide +kernel
example : Check.hasDerivation C07.exG [.v "A", .v "B"] [.t "a", .v "B"] 1 = true := by decide +kernel
-- rewriting `B` in `AB` is a rightmost step and a step, but not a leftmost one
example : Check.hasDerivation C07.exG [.v "A", .v "B"] [.v "A", .t "b"] 2 = true := by decide +kernel
example : Check.hasDerivation C07.exG [.v "A", .v "B"] [.v "A", .t "b"] 0 = true := by decide +kernel
example : Check.hasDerivation C07.exG [.v "A", .v "B"] [.v "A", .t "b"] 1 = false := by decide +kernel
-- not a rule of the grammar
example : Check.hasDerivation C07.exG [.v "A", .v "B"] [.t "b", .v "B"] 0 = false := by decide +kernel

example : C07.exG.RStep [.v "A", .v "B"] [.v "A", .t "b"] :=
  (chk_hasDerivation_sound C07.exG _ _ 2 (by decide +kernel)).2.1 rfl

open C12b in
/-- derivation exercise: OK ⇒ the submitted text is a derivation of the word: starts with S, every step is a
    (leftmost / rightmost / arbitrary) step of G, ends with the word; hence the word is in L(G) -/
theorem chk_derivation_sound (G : CFG) (derivation : String) (word : List String) (kind : Nat)
    (h : Check.derivationCheck G derivation word kind = true) :
    let forms := ((Text.splitArrow (Text.strip derivation.toList)).map Text.strip).map (fun w => w.map Check.parseChar)
    forms.head? = some [.v G.S] ∧ forms.getLast? = some (word.map Sym.t) ∧
    ChainOf (fun a b => (kind = 1 → G.LStep a b) ∧ (kind = 2 → G.RStep a b) ∧ G.Step a b) forms ∧
    G.Lang word := by
  obtain ⟨_, h1, hs, h2⟩ := derivationCheck_iff.mp h
  exact ⟨h1, h2, derivation_forms h1 hs h2⟩

example : Check.derivationCheck C07.exG "S => AB => aB => ab" ["a", "b"] 1 = true := by decide +kernel
example : Check.derivationCheck C07.exG "  S => AB =>aB=> ab\n" ["a", "b"] 0 = true := by decide +kernel
example : Check.derivationCheck C07.exG "S => AB => Ab => ab" ["a", "b"] 2 = true := by decide +kernel
-- a leftmost derivation is not accepted as a rightmost one
example : Check.derivationCheck C07.exG "S => AB => aB => ab" ["a", "b"] 2 = false := by decide +kernel
-- a step is skipped / the wrong word is derived / the derivation does not start with S
example : Check.derivationCheck C07.exG "S => AB => ab" ["a", "b"] 0 = false := by decide +kernel
example : Check.derivationCheck C07.exG "S => a" ["a", "b"] 0 = false := by decide +kernel
example : Check.derivationCheck C07.exG "AB => aB => ab" ["a", "b"] 0 = false := by decide +kernel

example : C07.exG.Lang ["a", "b"] :=
  (chk_derivation_sound C07.exG "S => AB => aB => ab" ["a", "b"] 1 (by decide +kernel)).2.2.2

/-- Chomsky-phase exercise: OK ⇒ the enumerations `cfg_words_up_to_n` of answer and input grammar agree, and the
    postconditions of phases 1..phase hold (agreement of the LANGUAGES up to `len` needs the side condition of
    `cfg_words_exact`: `chomsky_text_lang`, C12c) -/
theorem chk_chomsky_sound (G G1 : CFG) (phase : Nat) (start : String) (len : Nat)
    (h : Check.chomskyCheck G G1 phase start len = true) :
    (∀ w, w ∈ G1.wordsUpTo len ↔ w ∈ G.wordsUpTo len) ∧
    (1 ≤ phase → G1.S = start) ∧ (2 ≤ phase → CFG.NoEpsExceptStart G1) ∧ (3 ≤ phase → CFG.NoUnit G1) ∧
    (4 ≤ phase → CFG.RhsLe2 G1) ∧ (5 ≤ phase → CFG.AllCnfShaped G1) :=
  (C12b.chomskyCheck_iff G G1 phase start len).mp h

-- `C07.exG`: S → AB | a, A → a, B → b;  `C12b.exCnf`: S → XB | a, X → a, B → b
example : Check.chomskyCheck C07.exG C12b.exCnf 5 "S" 3 = true := by decide +kernel
-- S → a dropped: the word `a` is missing
example : Check.chomskyCheck C07.exG C12b.exCnfMissing 5 "S" 3 = false := by decide +kernel
-- wrong start variable
example : Check.chomskyCheck C07.exG C12b.exCnf 5 "T" 3 = false := by decide +kernel
-- `C12b.exG`: S → aSb | ε | T, T → c still has the unit rule S → T: not a valid answer for phase 3
example : Check.chomskyCheck C12b.exG C12b.exG 3 "S" 2 = false := by
  simp [Check.chomskyCheck, C12b.exG, CFG.isUnit]

example : CFG.AllCnfShaped C12b.exCnf :=
  (chk_chomsky_sound C07.exG C12b.exCnf 5 "S" 3 (by decide +kernel)).2.2.2.2.2 (by decide +kernel)

open C12b in
/-- CYK exercise: OK ⇒ the table has |w| rows, row i (from the bottom) has |w|-i cells, and every cell is exactly
    the set of variables deriving the corresponding subword -/
theorem chk_cyk_sound (G : CFG) (hc : G.isChomsky = true) (hv : G.valid = true) (word : List String) (answer : String)
    (h : Check.cykCheck G word answer = .ok true) :
    let rows := ((Text.splitOn '\n' (Text.strip answer.toList)).map Check.splitWs).reverse
    rows.length = word.length ∧
    ∀ i j, i + j < word.length → ∃ row cell vs, rows[i]? = some row ∧ row.length = word.length - i ∧ row[j]? = some cell ∧
      Check.parseCell cell = some vs ∧
      ∀ A, A ∈ vs ↔ (A ∈ G.V ∧ G.Gen [.v A] ((word.drop j).take (i + 1))) := by
  obtain ⟨Y, hY⟩ := cyk_total G hc word
  rw [C13c.cykCheck_eq hY, Except.ok.injEq] at h
  obtain ⟨hrows, hcore⟩ := checkLines_sound h
  refine ⟨by rw [List.length_reverse]; exact hrows, fun i j hij => ?_⟩
  obtain ⟨row, cell, vs, h1, h2, h3, h4, h5⟩ := hcore i j hij
  refine ⟨row, cell, vs, h1, h2, h3, h4, fun A => ?_⟩
  rw [h5 A, cyk_cell_exact_of_valid G hc hv word Y hY j (i + j) (by omega) (by omega) A, Nat.add_sub_cancel]

example : C07.exG.isChomsky = true ∧ C07.exG.valid = true ∧
    Check.cykCheck C07.exG ["a", "b"] "{S}\n{A,S} {B}" = .ok true := by decide +kernel
example : Check.cykCheck C07.exG ["a", "a", "b"] "{}\n{} {S}\n  {A,S}   {S,A} {B}\n" = .ok true := by decide +kernel
-- a missing row (the witness of the repaired defect: the top row, which decides membership, is absent)
example : Check.cykCheck C07.exG ["a", "b"] "{A,S} {B}" = .ok false := by decide +kernel
-- a wrong cell / a row of the wrong size / an ill-formed cell / an undeclared variable
example : Check.cykCheck C07.exG ["a", "b"] "{A}\n{A,S} {B}" = .ok false := by decide +kernel
example : Check.cykCheck C07.exG ["a", "b"] "{S} {}\n{A,S} {B}" = .ok false := by decide +kernel
example : Check.cykCheck C07.exG ["a", "b"] "{S}\n{A,S {B}" = .ok false := by decide +kernel
example : Check.cykCheck C07.exG ["a", "b"] "{S}\n{A,S} {B,C}" = .ok false := by decide +kernel

open C12b in
/-- NFA→DFA exercise: OK ⇒ the submitted automaton is, state by state, the subset construction -/
theorem chk_nfaToDfa_sound (N answer : NFA String String) (s : Sched) (hv : N.valid = true)
    (h : Check.nfaToDfaCheck N answer s = .ok true) :
    answer.Q ≠ [] ∧ (∀ a, a ∈ answer.Sigma ↔ a ∈ N.Sigma) ∧
    (∀ q, q ∈ answer.Q → ∀ x, x ∈ Check.extractSet q → x ∈ N.Q) ∧
    (∀ x, x ∈ Check.extractSet answer.q0 ↔ N.EpsReach [N.q0] x) ∧
    (∀ q, q ∈ answer.Q → (q ∈ answer.F ↔ ∃ x, x ∈ Check.extractSet q ∧ x ∈ N.F)) ∧
    (∀ q a, q ∈ answer.Q → a ∈ answer.Sigma → ∃ q1, (∀ t, t ∈ answer.succ q a ↔ t = q1) ∧
        ∀ x, x ∈ Check.extractSet q1 ↔ ∃ p y, p ∈ Check.extractSet q ∧ N.Succ p a y ∧ N.EpsReach [y] x) ∧
    (∀ e, e ∈ answer.delta → e.1.2 = answer.eps → e.2 = []) := by
  have _ := hv
  exact nfaToDfaCheck_sound N answer s h

-- `C12b.exN`: A --x--> B, A --ε--> B, F = {B};  answer: {A,B} --x--> {B} --x--> {} --x--> {}, F = {{A,B}, {B}}
example : C12b.exN.valid = true ∧ Check.nfaToDfaCheck C12b.exN C12b.exAnswer [3, 1, 2] = .ok true :=
  by decide +kernel
-- an extra ε-edge in the answer (the witness of the repaired defect)
example : Check.nfaToDfaCheck C12b.exN C12b.exAnswerEps [] = .ok false := by decide +kernel
-- a wrong target
example : Check.nfaToDfaCheck C12b.exN C12b.exAnswerWrong [] = .ok false := by decide +kernel

#print axioms chk_hasDerivation_sound
#print axioms chk_derivation_sound
#print axioms chk_chomsky_sound
#print axioms chk_cyk_sound
#print axioms chk_nfaToDfa_sound

end Gamba
