/-
  Gamba.Props.C15c — property C15 (PDA part): `pda_simulate_word` (`PDA.simulate`).
  Whatever it returns is a genuine accepting computation (for every closure limit, search fuel and pop order);
  `none` is returned exactly when the acceptance test with the same limit says no; and it never fails with a
  fuel / runtime error when the reachable configurations lie in a finite universe smaller than the search fuel
  (`pda_simulate_terminates_partial` — "partial" because termination is only claimed under that hypothesis; it is
  fully proved as stated).
-/
import Gamba.Model.PDA
import Gamba.Model.Simulate
import Gamba.Spec.PDA
import Gamba.Spec.Trace
import Gamba.Proofs.C15c
import Gamba.Proofs.DecEq
namespace Gamba
variable {σ τ γ : Type} [DecidableEq σ] [DecidableEq τ] [DecidableEq γ]

/-- whatever `pda_simulate_word` returns is a genuine accepting computation: for every closure limit, search fuel
    and pop order -/
theorem pda_simulate_valid (P : PDA σ τ γ) (hv : P.valid = true) (hk : (P.delta.map (·.1)).Nodup)
    (limit fuel : Nat) (s : Sched) (w : List τ) (hw : ∀ a, a ∈ w → a ∈ P.Sigma)
    (tr : List (σ × List τ × List γ)) (h : P.simulate limit fuel s w = .ok (some tr)) :
    P.ValidTrace w tr :=
  P.simulate_valid hk limit fuel s w (fun a ha => PDA.valid_eps hv (hw a ha)) tr h

example : C09.exPDA.simulate 1000 100 [] ["a", "b"] =
    .ok (some [("s", ["a", "b"], []), ("p", ["a", "b"], ["$"]), ("p", ["b"], ["$", "A"]),
               ("q", ["b"], ["$", "A"]), ("q", [], ["$"]), ("f", [], [])]) := by decide +kernel

example : C09.exPDA.ValidTrace ["a", "b"]
    [("s", ["a", "b"], []), ("p", ["a", "b"], ["$"]), ("p", ["b"], ["$", "A"]),
     ("q", ["b"], ["$", "A"]), ("q", [], ["$"]), ("f", [], [])] :=
  pda_simulate_valid C09.exPDA C09.exPDA_valid C09.exPDA_keys 1000 100 [] ["a", "b"] (by decide +kernel) _ rfl

/-- another pop order, longer word -/
example : C09.exPDA.ValidTrace ["a", "a", "b", "b"]
    [("s", ["a", "a", "b", "b"], []), ("p", ["a", "a", "b", "b"], ["$"]), ("p", ["a", "b", "b"], ["$", "A"]),
     ("p", ["b", "b"], ["$", "A", "A"]), ("q", ["b", "b"], ["$", "A", "A"]), ("q", ["b"], ["$", "A"]),
     ("q", [], ["$"]), ("f", [], [])] :=
  pda_simulate_valid C09.exPDA C09.exPDA_valid C09.exPDA_keys 1000 100 [3, 1, 2] _ (by decide +kernel) _ rfl

/-- validity does not need the closures to be complete: with the stack-growing ε-cycle of `exLoopPDA` every
    closure is truncated (limit 3), yet the returned trace is a genuine computation -/
example : C09.exLoopPDA.ValidTrace ["a", "a", "a"]
    [("s", ["a", "a", "a"], []), ("s", ["a", "a", "a"], ["X"]), ("s", ["a", "a", "a"], ["X", "X"]),
     ("s", ["a", "a", "a"], ["X", "X", "X"]), ("t", ["a", "a"], ["X", "X"]), ("u", ["a"], ["X"]), ("f", [], [])] :=
  pda_simulate_valid C09.exLoopPDA C09.exLoopPDA_valid C09.exLoopPDA_keys 3 100 [] _ (by decide +kernel) _ rfl

/-- hence a returned trace certifies acceptance (proved from the trace itself: a valid trace is an accepting run) -/
theorem pda_simulate_accepts (P : PDA σ τ γ) (hv : P.valid = true) (hk : (P.delta.map (·.1)).Nodup)
    (limit fuel : Nat) (s : Sched) (w : List τ) (hw : ∀ a, a ∈ w → a ∈ P.Sigma)
    (tr : List (σ × List τ × List γ)) (h : P.simulate limit fuel s w = .ok (some tr)) : P.Accepts w :=
  (pda_simulate_valid P hv hk limit fuel s w hw tr h).accepts

example : C09.exPDA.Accepts ["a", "a", "b", "b"] :=
  pda_simulate_accepts C09.exPDA C09.exPDA_valid C09.exPDA_keys 1000 100 [3, 1, 2] _ (by decide +kernel) _ rfl

/-- `none` is returned exactly when the (same-limit) acceptance test says no -/
theorem pda_simulate_none_iff (P : PDA σ τ γ) (limit fuel : Nat) (s : Sched) (w : List τ) :
    P.simulate limit fuel s w = .ok none ↔ P.accepts limit s w = false := by
  have hh := P.history_head limit s w (P.epsClosure limit s [(P.q0, [])]) [[(P.q0, [])]]
  obtain ⟨Sn, Hn, hH, _, hcase⟩ := P.simulate_cases limit fuel s w
  rw [hH, List.head?_cons, Option.some.injEq] at hh
  rw [PDA.accepts, PDA.acceptsT_eq, ← hh]
  rcases hcase with ⟨he, hn⟩ | ⟨front, hfS, hfF, hs⟩
  · refine iff_of_true hn (Bool.eq_false_iff.mpr fun hany => ?_)
    obtain ⟨c, hc, hcF⟩ := List.any_eq_true.mp hany
    have : c ∈ (P.epsClosure limit s Sn).1.filter fun r => decide (r.1 ∈ P.F) := List.mem_filter.mpr ⟨hc, hcF⟩
    rw [he] at this
    cases this
  · refine iff_of_false (fun h => ?_) (fun h => ?_)
    · rw [hs, Except.bind_eq_ok'] at h
      obtain ⟨r, _, h⟩ := h
      cases h
    · rw [List.any_eq_true.mpr ⟨front, hfS, decide_eq_true hfF⟩] at h
      cases h

example : C09.exPDA.simulate 1000 100 [] ["a", "b", "b"] = .ok none ∧
    C09.exPDA.accepts 1000 [] ["a", "b", "b"] = false := by decide +kernel

/-- with a too small limit both say no, although the word is accepted (see `Gamba.Props.C09`) -/
example : C09.exLoopPDA.simulate 2 100 [] ["a", "a", "a"] = .ok none ∧
    C09.exLoopPDA.accepts 2 [] ["a", "a", "a"] = false := by decide +kernel

/-- termination (partial clause): if all configurations ε-reachable from each history set lie in a finite list `U`
    and the search fuel exceeds its length, the simulation never fails with a fuel / runtime error -/
theorem pda_simulate_terminates_partial (P : PDA σ τ γ) (hv : P.valid = true) (hk : (P.delta.map (·.1)).Nodup)
    (limit fuel : Nat) (s : Sched) (w : List τ) (hw : ∀ a, a ∈ w → a ∈ P.Sigma)
    (U : List (PConf σ γ)) (hU : ∀ R c, (∀ r, r ∈ R → ∃ u, P.Run (P.q0, []) u r) → P.EpsReach R c → c ∈ U)
    (hf : U.length + 1 ≤ fuel) : ∃ r, P.simulate limit fuel s w = .ok r :=
  P.simulate_total hk limit fuel s w (fun a ha => PDA.valid_eps hv (hw a ha)) U hU hf

/-- non-vacuity: `exFin` (language `{ab}`, bounded stack) has exactly five reachable configurations, so a search
    fuel of 6 suffices for every word, closure limit and pop order -/
example (limit : Nat) (s : Sched) (w : List String) (hw : ∀ a, a ∈ w → a ∈ C15c.exFin.Sigma) :
    ∃ r, C15c.exFin.simulate limit 6 s w = .ok r :=
  pda_simulate_terminates_partial C15c.exFin (by decide +kernel) (by decide +kernel) limit 6 s w hw
    C15c.exFinU C15c.exFin_universe (by decide +kernel)

example : C15c.exFin.simulate 10 6 [] ["a", "b"] =
    .ok (some [("s", ["a", "b"], []), ("t", ["a", "b"], ["$"]), ("p", ["b"], ["$", "A"]), ("q", [], ["$"]),
               ("f", [], [])]) ∧
    C15c.exFin.simulate 10 6 [] ["a", "a"] = .ok none := ⟨by decide +kernel, by decide +kernel⟩

/-- the fuel hypothesis cannot be dropped: with no search fuel the simulation of an accepted word fails -/
example : C09.exPDA.simulate 1000 0 [] ["a", "b"] = .error .fuel := by decide +kernel

#print axioms pda_simulate_valid
#print axioms pda_simulate_accepts
#print axioms pda_simulate_none_iff
#print axioms pda_simulate_terminates_partial

end Gamba
