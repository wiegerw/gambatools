/-
  Gamba.Props.C12c — C12, text level: soundness of the exercise checkers AS THE NOTEBOOKS CALL THEM, on text
  (Model/CheckText.lean): the verdict `OK` is only printed when every argument parses, the parsed objects satisfy
  their class invariants, and the criterion of the exercise holds for them.  No hypothesis other than
  "the verdict is OK": the side conditions of the object-level theorems (C12a, C12b) — validity, no repeated
  state, no repeated transition key — are established for the parser results; Chomsky normal form follows from the
  verdict (the CYK check raises otherwise).
-/
import Gamba.Props.C12a
import Gamba.Props.C12b
import Gamba.Props.C02cfg
import Gamba.Proofs.C12c
import Gamba.Proofs.C12ex
import Gamba.Proofs.C16b
namespace Gamba
open Parse C12ex

theorem ofBool_ok_iff (b : Bool) : CheckText.ofBool b = .ok ↔ b = true := C12c.ofBool_ok_iff b

theorem ofExcept_ok_iff (e : Except Err Bool) : CheckText.ofExcept e = .ok ↔ e = .ok true := C12c.ofExcept_ok_iff e

example : CheckText.ofBool true = .ok ∧ CheckText.ofBool false = .feedback ∧
    CheckText.ofExcept (.ok true) = .ok ∧ CheckText.ofExcept (.ok false) = .feedback ∧
    CheckText.ofExcept (.error .fuel) = .error := by decide +kernel

/-- the verdict `OK` is returned only if every argument parses (one clause per checker) -/
theorem text_ok_not_error :
    (∀ answer dfa1, CheckText.complement answer dfa1 = .ok →
      (∃ D, parseDfa dfa1.toList = .ok D) ∧ ∃ A, parseDfa answer.toList = .ok A) ∧
    (∀ t answer dfa1 dfa2 len, CheckText.product t answer dfa1 dfa2 len = .ok →
      (∃ D, parseDfa dfa1.toList = .ok D) ∧ (∃ D, parseDfa dfa2.toList = .ok D) ∧
      ∃ A, parseDfa answer.toList CheckText.productStateOk = .ok A) ∧
    (∀ dfa answer s len, CheckText.reverse dfa answer s len = .ok →
      (∃ D, parseDfa dfa.toList = .ok D) ∧ ∃ A, parseNfa answer.toList = .ok A) ∧
    (∀ dfa answer len, CheckText.minimal dfa answer len = .ok →
      (∃ D, parseDfa dfa.toList = .ok D) ∧ ∃ A, parseDfa answer.toList CheckText.wordOrSetStateOk = .ok A) ∧
    (∀ nfa answer s, CheckText.nfa2dfa nfa answer s = .ok →
      (∃ N, parseNfa nfa.toList = .ok N) ∧ ∃ A, parseNfa answer.toList CheckText.setStateOk = .ok A) ∧
    (∀ dfa answer len, CheckText.dfa2regexp dfa answer len = .ok →
      (∃ D, parseDfa dfa.toList = .ok D) ∧ ∃ r, RegexpText.parseSimple answer = some r) ∧
    (∀ cfg word answer, CheckText.cyk cfg word answer = .ok → ∃ G, CfgText.parseSimpleCfg cfg.toList = .ok G) ∧
    (∀ cfg deriv word kind, CheckText.derivation cfg deriv word kind = .ok →
      ∃ G, CfgText.parseSimpleCfg cfg.toList = .ok G) ∧
    (∀ cfg answer phase start len, CheckText.chomsky cfg answer phase start len = .ok →
      (∃ G, CfgText.parseSimpleCfg cfg.toList = .ok G) ∧ ∃ G1, CfgText.parseSimpleCfg answer.toList = .ok G1) := by
  refine ⟨?_, ?_, ?_, ?_, ?_, ?_, ?_, ?_, ?_⟩
  · intro answer dfa1 h
    obtain ⟨D1, A, h1, h2, _⟩ := C12c.complement_unpack h
    exact ⟨⟨D1, h1⟩, A, h2⟩
  · intro t answer dfa1 dfa2 len h
    obtain ⟨D1, D2, A, h1, h2, h3, _⟩ := C12c.product_unpack h
    exact ⟨⟨D1, h1⟩, ⟨D2, h2⟩, A, h3⟩
  · intro dfa answer s len h
    obtain ⟨D, A, h1, h2, _⟩ := C12c.reverse_unpack h
    exact ⟨⟨D, h1⟩, A, h2⟩
  · intro dfa answer len h
    obtain ⟨D, A, h1, h2, _⟩ := C12c.minimal_unpack h
    exact ⟨⟨D, h1⟩, A, h2⟩
  · intro nfa answer s h
    obtain ⟨N, A, h1, h2, _⟩ := C12c.nfa2dfa_unpack h
    exact ⟨⟨N, h1⟩, A, h2⟩
  · intro dfa answer len h
    obtain ⟨D, r, h1, h2, _⟩ := C12c.dfa2regexp_unpack h
    exact ⟨⟨D, h1⟩, r, h2⟩
  · intro cfg word answer h
    obtain ⟨G, eps, h1, _⟩ := C12c.cyk_unpack h
    exact ⟨_, h1⟩
  · intro cfg deriv word kind h
    obtain ⟨G, eps, h1, _⟩ := C12c.derivation_unpack h
    exact ⟨_, h1⟩
  · intro cfg answer phase start len h
    obtain ⟨G, eps, G1, eps1, h1, h2, _⟩ := C12c.chomsky_unpack h
    exact ⟨⟨_, h1⟩, _, h2⟩

/-- `parseDfa_ok_valid` (C16a) for an arbitrary state-label predicate, together with the two facts the object-level
    theorems assume of Python sets and dicts: no repeated state, no repeated transition key -/
theorem parseDfa_ok_valid_gen (text : List Char) (stateOk : Word → Bool) (D : DFA String String)
    (h : Parse.parseDfa text stateOk = .ok D) :
    D.valid = true ∧ D.Q.Nodup ∧ (D.delta.map (·.1)).Nodup ∧ ∀ q, q ∈ D.Q → stateOk q.toList = true :=
  have p := parsedDfa_of h
  ⟨p.valid, p.nodupQ, p.keys, p.names⟩

theorem parseNfa_ok_valid_gen (text : List Char) (stateOk : Word → Bool) (N : NFA String String)
    (h : Parse.parseNfa text stateOk = .ok N) :
    N.valid = true ∧ N.Q.Nodup ∧ ∀ q, q ∈ N.Q → stateOk q.toList = true :=
  have p := parsedNfa_of h
  ⟨p.valid, p.nodupQ, p.names⟩

/-- the grammar parser only returns valid grammars with a declared start variable and pairwise distinct rule identities -/
theorem parseSimpleCfg_ok_valid (text : List Char) (G : CFG) (eps : String)
    (h : CfgText.parseSimpleCfg text = .ok (G, eps)) : G.valid = true ∧ G.S ∈ G.V ∧ CFG.AliasOK G :=
  have p := CfgText.parsedCfg_of h
  ⟨p.valid, p.start, p.alias⟩

-- test vectors: their proof shape is explained in the header of Proofs/C12ex.lean
example : ∃ D, Parse.parseDfa "initial {0}\nfinal {1,2}\n{0} {1,2} a\n{1,2} {1,2} a".toList CheckText.wordOrSetStateOk = .ok D ∧
    D.Q = ["{0}", "{1,2}"] :=
  ⟨{ Q := ["{0}", "{1,2}"], Sigma := ["a"], delta := [(("{0}", "a"), "{1,2}"), (("{1,2}", "a"), "{1,2}")], q0 := "{0}",
     F := ["{1,2}"] }, by rw [String.toList_ofList]; decide +kernel, rfl⟩
example : ∃ G, CfgText.parseSimpleCfg "S -> AB | a\nA -> a\nB -> b".toList = .ok (G, "_") ∧ G.V = ["S", "A", "B"] :=
  ⟨_, exG_parse, rfl⟩

/-- `check_dfa_complement` on text: OK ⇒ both texts parse to valid DFAs, the answer has the alphabet, states,
    initial state and transitions of the given DFA and the complemented accepting set; hence its language is the
    complement, for words of every length -/
theorem complement_text_sound (answer dfa1 : String) (h : CheckText.complement answer dfa1 = .ok) :
    ∃ D1 A, Parse.parseDfa dfa1.toList = .ok D1 ∧ Parse.parseDfa answer.toList = .ok A ∧ D1.valid = true ∧ A.valid = true ∧
      (∀ a, a ∈ A.Sigma ↔ a ∈ D1.Sigma) ∧ (∀ q, q ∈ A.Q ↔ q ∈ D1.Q) ∧ A.q0 = D1.q0 ∧
      (∀ q, q ∈ A.F ↔ (q ∈ D1.Q ∧ q ∉ D1.F)) ∧
      ∀ w, (∀ a, a ∈ w → a ∈ D1.Sigma) → (A.Accepts w ↔ ¬ D1.Accepts w) := by
  obtain ⟨D1, A, h1, h2, hc⟩ := C12c.complement_unpack h
  have p1 := parsedDfa_of h1
  have pA := parsedDfa_of h2
  obtain ⟨c1, c2, c3, _, c5, c6⟩ := chk_complement_sound D1 A p1.valid pA.keys p1.keys hc
  exact ⟨D1, A, h1, h2, p1.valid, pA.valid, c1, c2, c3, c5, c6⟩

-- `p -a-> q -a-> q`, accepting `q`; the answer accepts `p` instead (declarations in another order, a comment)
example : CheckText.complement "initial p\nfinal p\np q a\nq q a" "initial p\nfinal q\np q a\nq q a" = .ok := by
  rw [CheckText.complement, aPlus_parse]; decide +kernel
example : CheckText.complement "states p q\ninput_symbols a\ninitial p\nfinal p\n% swapped\nq q a\np q a"
    "initial p\nfinal q\np q a\nq q a" = .ok := by rw [CheckText.complement, aPlus_parse]; decide +kernel
-- the given DFA handed in unchanged: feedback
example : CheckText.complement "initial p\nfinal q\np q a\nq q a" "initial p\nfinal q\np q a\nq q a" = .feedback := by
  rw [CheckText.complement, aPlus_parse]; decide +kernel
-- a partial transition table does not parse: `Error`
example : CheckText.complement "initial p\nfinal p\np q a" "initial p\nfinal q\np q a\nq q a" = .error := by
  rw [CheckText.complement, aPlus_parse]; decide +kernel
-- consequence on the example: the answer accepts ε and rejects `a`
example : ∃ A, Parse.parseDfa "initial p\nfinal p\np q a\nq q a".toList = .ok A ∧ A.Accepts [] ∧ ¬ A.Accepts ["a"] := by
  refine ⟨{ aPlus with F := ["p"] }, by rw [String.toList_ofList]; decide +kernel, ⟨"p", by decide +kernel, DFA.Run.nil _⟩, ?_⟩
  rintro ⟨f, hf, hr⟩
  cases hr with
  | cons hl hr' =>
    cases hl
    cases hr'
    revert hf; decide

/-- … and the transition tables agree key by key -/
theorem complement_text_delta (answer dfa1 : String) (h : CheckText.complement answer dfa1 = .ok) :
    ∃ D1 A, Parse.parseDfa dfa1.toList = .ok D1 ∧ Parse.parseDfa answer.toList = .ok A ∧
      ∀ k, A.delta.lookup k = D1.delta.lookup k := by
  obtain ⟨D1, A, h1, h2, hc⟩ := C12c.complement_unpack h
  have p1 := parsedDfa_of h1
  exact ⟨D1, A, h1, h2, (chk_complement_sound D1 A p1.valid (parsedDfa_of h2).keys p1.keys hc).2.2.2.1⟩

open Classical in
/-- `check_dfa_union / _intersection / _symmetric_difference` on text -/
theorem product_text_sound (t : ProductType) (answer dfa1 dfa2 : String) (len : Nat)
    (h : CheckText.product t answer dfa1 dfa2 len = .ok) :
    ∃ D1 D2 A, Parse.parseDfa dfa1.toList = .ok D1 ∧ Parse.parseDfa dfa2.toList = .ok D2 ∧
      Parse.parseDfa answer.toList CheckText.productStateOk = .ok A ∧
      D1.valid = true ∧ D2.valid = true ∧ A.valid = true ∧
      (∀ a, a ∈ D1.Sigma ↔ a ∈ D2.Sigma) ∧
      (∀ q, q ∈ A.Q → ∃ p r, Check.extractPair q = some (p, r) ∧ p ∈ D1.Q ∧ r ∈ D2.Q) ∧
      (∀ a, a ∈ A.Sigma ↔ a ∈ D1.Sigma) ∧
      A.q0 = productName (D1.q0, D2.q0) ∧
      (∀ q, q ∈ A.F ↔ q ∈ ((D1.product D2 t).mapStates productName).F) ∧
      (∀ k r v, A.delta.lookup k = some v →
        ((D1.product D2 t).mapStates productName).delta.lookup k = some r → v = r) ∧
      ∀ w, w.length ≤ len → (∀ a, a ∈ w → a ∈ D1.Sigma) →
        (A.Accepts w ↔ t.accept (decide (D1.Accepts w)) (decide (D2.Accepts w)) = true) := by
  obtain ⟨D1, D2, A, h1, h2, h3, hc⟩ := C12c.product_unpack h
  have v1 := (parsedDfa_of h1).valid
  have v2 := (parsedDfa_of h2).valid
  have vA := (parsedDfa_of h3).valid
  exact ⟨D1, D2, A, h1, h2, h3, v1, v2, vA, chk_product_sound t D1 D2 A len v1 v2 vA hc⟩

-- `D1`: words ending in `a`; `D2`: words of even length; the product automaton with states `(p,e)` …
example : CheckText.product .union
    "initial (p,e)\nfinal (q,o) (q,e) (p,e)\n(p,e) (q,o) a\n(p,e) (p,o) b\n(p,o) (q,e) a\n(p,o) (p,e) b\n(q,e) (q,o) a\n(q,e) (p,o) b\n(q,o) (q,e) a\n(q,o) (p,e) b"
    "initial p\nfinal q\np q a\np p b\nq q a\nq p b" "initial e\nfinal e\ne o a b\no e a b" 3 = .ok := by
  rw [CheckText.product, endsA_parse, evenLen_parse, unionAns_parse]; decide +kernel
-- the same answer for the intersection exercise (wrong accepting states): feedback
example : CheckText.product .intersection
    "initial (p,e)\nfinal (q,o) (q,e) (p,e)\n(p,e) (q,o) a\n(p,e) (p,o) b\n(p,o) (q,e) a\n(p,o) (p,e) b\n(q,e) (q,o) a\n(q,e) (p,o) b\n(q,o) (q,e) a\n(q,o) (p,e) b"
    "initial p\nfinal q\np q a\np p b\nq q a\nq p b" "initial e\nfinal e\ne o a b\no e a b" 3 = .feedback := by
  rw [CheckText.product, endsA_parse, evenLen_parse, unionAns_parse]; decide +kernel
-- states named `pe`, `po`, …: the answer does not parse (state labels must look like `(x,y)`): `Error`
example : CheckText.product .union
    "initial pe\nfinal qo qe pe\npe qo a\npe po b\npo qe a\npo pe b\nqe qo a\nqe po b\nqo qe a\nqo pe b"
    "initial p\nfinal q\np q a\np p b\nq q a\nq p b" "initial e\nfinal e\ne o a b\no e a b" 3 = .error := by
  rw [CheckText.product, endsA_parse, evenLen_parse]; decide +kernel

/-- `check_dfa_reverse` on text (the answer is an NFA) -/
theorem reverse_text_sound (dfa answer : String) (s : Sched) (len : Nat)
    (h : CheckText.reverse dfa answer s len = .ok) :
    ∃ D A, Parse.parseDfa dfa.toList = .ok D ∧ Parse.parseNfa answer.toList = .ok A ∧ D.valid = true ∧ A.valid = true ∧
      (∀ a, a ∈ A.Sigma ↔ a ∈ D.Sigma) ∧ (∀ q, q ∈ D.Q → q ∈ A.Q) ∧ A.q0 ∉ D.Q ∧
      (∀ q, q ∈ A.F ↔ q = D.q0) ∧
      (∀ e, e ∈ D.delta → e.1.1 ∈ A.succ e.2 e.1.2) ∧
      ∀ w, w.length ≤ len → (∀ a, a ∈ w → a ∈ D.Sigma) → (A.Accepts w ↔ D.Accepts w.reverse) := by
  obtain ⟨D, A, h1, h2, hc⟩ := C12c.reverse_unpack h
  have vD := (parsedDfa_of h1).valid
  have vA := (parsedNfa_of h2).valid
  exact ⟨D, A, h1, h2, vD, vA, chk_reverse_sound D A s len vD vA hc⟩

-- `D`: words containing an `a`; the reversal with the fresh initial state `s`
example : CheckText.reverse "initial p\nfinal q\np q a\np p b\nq q a b"
    "initial s\nfinal p\ns q ε\nq p a\np p b\nq q a b" [] 3 = .ok := by
  rw [CheckText.reverse, hasA_parse, revAns_parse]; decide +kernel
-- the reversed loop `p -b-> p` missing: feedback
example : CheckText.reverse "initial p\nfinal q\np q a\np p b\nq q a b"
    "initial s\nfinal p\ns q ε\nq p a\nq q a b" [] 3 = .feedback := by
  rw [CheckText.reverse, hasA_parse, revAnsNoLoop_parse]; decide +kernel
-- two initial states: `Error`
example : CheckText.reverse "initial p\nfinal q\np q a\np p b\nq q a b"
    "initial s t\nfinal p\ns q ε\nq p a\nq q a b" [] 3 = .error := by rw [CheckText.reverse, hasA_parse]; decide +kernel

/-- `check_dfa_minimal` on text: the needed `D.Q.Nodup` holds for every parser result -/
theorem minimal_text_sound (dfa answer : String) (len : Nat) (h : CheckText.minimal dfa answer len = .ok) :
    ∃ D A, Parse.parseDfa dfa.toList = .ok D ∧ Parse.parseDfa answer.toList CheckText.wordOrSetStateOk = .ok A ∧
      D.valid = true ∧ A.valid = true ∧ D.Q.Nodup ∧ A.Q.Nodup ∧
      (∀ a, a ∈ A.Sigma ↔ a ∈ D.Sigma) ∧
      (∃ blocks, D.IsNerode blocks ∧ (dedup blocks).length = A.Q.length) ∧
      ∀ w, w.length ≤ len → (∀ a, a ∈ w → a ∈ D.Sigma) → (A.Accepts w ↔ D.Accepts w) := by
  obtain ⟨D, A, h1, h2, hc⟩ := C12c.minimal_unpack h
  have pD := parsedDfa_of h1
  have pA := parsedDfa_of h2
  obtain ⟨c1, ⟨blocks, hb, hlen⟩, c3⟩ := chk_minimal_sound D A len pD.valid pD.nodupQ pA.valid hc
  rw [dedup_eq_self_of_nodup pA.nodupQ] at hlen
  exact ⟨D, A, h1, h2, pD.valid, pA.valid, pD.nodupQ, pA.nodupQ, c1, ⟨blocks, hb, hlen⟩, c3⟩

-- the 4-state DFA of C04b (states `1` and `2` equivalent) and its 3-state quotient with set-labelled states
example : CheckText.minimal "initial 0\nfinal 3\n0 1 a\n0 2 b\n1 3 a\n1 0 b\n2 3 a\n2 0 b\n3 3 a b"
    "initial {0}\nfinal {3}\n{0} {1,2} a b\n{1,2} {3} a\n{1,2} {0} b\n{3} {3} a b" 4 = .ok := by
  rw [CheckText.minimal, fourStates_parse, minAns_parse]; decide +kernel
-- the input itself (4 states): feedback
example : CheckText.minimal "initial 0\nfinal 3\n0 1 a\n0 2 b\n1 3 a\n1 0 b\n2 3 a\n2 0 b\n3 3 a b"
    "initial 0\nfinal 3\n0 1 a\n0 2 b\n1 3 a\n1 0 b\n2 3 a\n2 0 b\n3 3 a b" 4 = .feedback := by
  rw [CheckText.minimal, fourStates_parse]; decide +kernel
-- state labels `(0)`, `(1,2)`: neither words nor `{…}`: `Error`
example : CheckText.minimal "initial 0\nfinal 3\n0 1 a\n0 2 b\n1 3 a\n1 0 b\n2 3 a\n2 0 b\n3 3 a b"
    "initial (0)\nfinal (3)\n(0) (1,2) a b\n(1,2) (3) a\n(1,2) (0) b\n(3) (3) a b" 4 = .error := by
  rw [CheckText.minimal, fourStates_parse]; decide +kernel

/-- `check_nfa2dfa` on text: the submitted automaton is, state by state, the subset construction; hence (last clause,
    not part of the object-level theorem of C12b) it accepts exactly the language of the given NFA -/
theorem nfa2dfa_text_sound (nfa answer : String) (s : Sched) (h : CheckText.nfa2dfa nfa answer s = .ok) :
    ∃ N A, Parse.parseNfa nfa.toList = .ok N ∧ Parse.parseNfa answer.toList CheckText.setStateOk = .ok A ∧
      N.valid = true ∧ A.valid = true ∧
      A.Q ≠ [] ∧ (∀ a, a ∈ A.Sigma ↔ a ∈ N.Sigma) ∧
      (∀ q, q ∈ A.Q → ∀ x, x ∈ Check.extractSet q → x ∈ N.Q) ∧
      (∀ x, x ∈ Check.extractSet A.q0 ↔ N.EpsReach [N.q0] x) ∧
      (∀ q, q ∈ A.Q → (q ∈ A.F ↔ ∃ x, x ∈ Check.extractSet q ∧ x ∈ N.F)) ∧
      (∀ q a, q ∈ A.Q → a ∈ A.Sigma → ∃ q1, (∀ t, t ∈ A.succ q a ↔ t = q1) ∧
          ∀ x, x ∈ Check.extractSet q1 ↔ ∃ p y, p ∈ Check.extractSet q ∧ N.Succ p a y ∧ N.EpsReach [y] x) ∧
      (∀ e, e ∈ A.delta → e.1.2 = A.eps → e.2 = []) ∧
      ∀ w, A.Accepts w ↔ N.Accepts w := by
  obtain ⟨N, A, h1, h2, hc⟩ := C12c.nfa2dfa_unpack h
  have vN := (parsedNfa_of h1).valid
  have vA := (parsedNfa_of h2).valid
  obtain ⟨c1, c2, c3, c4, c5, c6, c7⟩ := chk_nfaToDfa_sound N A s vN hc
  exact ⟨N, A, h1, h2, vN, vA, c1, c2, c3, c4, c5, c6, c7,
    C12b.subset_answer_lang vN vA c2 c4 c5 c6 c7⟩

-- `A -x-> B`, `A -ε-> B`, `F = {B}`; answer `{A,B} -x-> {B} -x-> {} -x-> {}`, accepting `{A,B}` and `{B}`
example : CheckText.nfa2dfa "initial A\nfinal B\nA B x ε"
    "initial {A,B}\nfinal {A,B} {B}\n{A,B} {B} x\n{B} {} x\n{} {} x" [3, 1, 2] = .ok := by
  rw [CheckText.nfa2dfa, exN_parse]; decide +kernel
-- a wrong target (`{B} -x-> {B}`): feedback
example : CheckText.nfa2dfa "initial A\nfinal B\nA B x ε"
    "initial {A,B}\nfinal {A,B} {B}\n{A,B} {B} x\n{B} {B} x\n{} {} x" [] = .feedback := by
  rw [CheckText.nfa2dfa, exN_parse]; decide +kernel
-- states not written as sets: the answer does not parse: `Error`
example : CheckText.nfa2dfa "initial A\nfinal B\nA B x ε" "initial AB\nfinal AB B\nAB B x\nB E x\nE E x" [] = .error := by
  rw [CheckText.nfa2dfa, exN_parse]; decide +kernel

/-- `check_dfa2regexp` on text: OK ⇒ on ALL words of length ≤ len the expression denotes exactly what the DFA accepts.
    No restriction to words over `D.Sigma` is needed: `Regexp.wordsUpTo` has no alphabet restriction while `DFA.wordsUpTo`
    only lists words over `D.Sigma`, so equal word lists force every short word of the expression to be over `D.Sigma`
    (third clause), and a valid DFA accepts no word with a foreign symbol.  The second clause is the first one restricted to words over `D.Sigma`. -/
theorem dfa2regexp_text_sound (dfa answer : String) (len : Nat) (h : CheckText.dfa2regexp dfa answer len = .ok) :
    ∃ D r, Parse.parseDfa dfa.toList = .ok D ∧ RegexpText.parseSimple answer = some r ∧ D.valid = true ∧
      (∀ w, w.length ≤ len → (r.Lang w ↔ D.Accepts w)) ∧
      (∀ w, w.length ≤ len → (∀ a, a ∈ w → a ∈ D.Sigma) → (r.Lang w ↔ D.Accepts w)) ∧
      (∀ w, w.length ≤ len → r.Lang w → ∀ a, a ∈ w → a ∈ D.Sigma) := by
  obtain ⟨D, r, h1, h2, hc⟩ := C12c.dfa2regexp_unpack h
  have vD := (parsedDfa_of h1).valid
  have key := ((r.enum len).isNone_iff (DFA.enum vD len)).mp hc
  exact ⟨D, r, h1, h2, vD, key, fun w hl _ => key w hl, fun w hl hr => DFA.Accepts.over vD ((key w hl).mp hr)⟩

-- words ending in `a`
example : CheckText.dfa2regexp "initial p\nfinal q\np q a\np p b\nq q a\nq p b" "(a+b)*a" 2 = .ok := by
  rw [CheckText.dfa2regexp, endsA_parse]; decide +kernel
example : CheckText.dfa2regexp "initial p\nfinal q\np q a\np p b\nq q a\nq p b" "(a+b)*" 2 = .feedback := by
  rw [CheckText.dfa2regexp, endsA_parse]; decide +kernel
-- unbalanced parenthesis: `Error`
example : CheckText.dfa2regexp "initial p\nfinal q\np q a\np p b\nq q a\nq p b" "(a+b" 2 = .error := by
  rw [CheckText.dfa2regexp, endsA_parse]; decide +kernel
-- an expression with a symbol the DFA does not know: the word `c` is enumerated for the expression only: feedback
example : CheckText.dfa2regexp "initial p\nfinal q\np q a\np p b\nq q a\nq p b" "(a+b)*a+c" 2 = .feedback := by
  rw [CheckText.dfa2regexp, endsA_parse]; decide +kernel

/-- `check_cyk_matrix` on text: OK ⇒ the grammar text parses to a valid grammar IN CHOMSKY NORMAL FORM (the check
    raises — verdict `Error` — otherwise), and the table is the CYK table of the word, cell by cell -/
theorem cyk_text_sound (cfg word answer : String) (h : CheckText.cyk cfg word answer = .ok) :
    ∃ G eps, CfgText.parseSimpleCfg cfg.toList = .ok (G, eps) ∧ G.valid = true ∧ G.isChomsky = true ∧
      let w := word.toList.map String.singleton
      let rows := ((Text.splitOn '\n' (Text.strip answer.toList)).map Check.splitWs).reverse
      rows.length = w.length ∧
      ∀ i j, i + j < w.length → ∃ row cell vs, rows[i]? = some row ∧ row.length = w.length - i ∧ row[j]? = some cell ∧
        Check.parseCell cell = some vs ∧
        ∀ A, A ∈ vs ↔ (A ∈ G.V ∧ G.Gen [.v A] ((w.drop j).take (i + 1))) := by
  obtain ⟨G, eps, h1, hc⟩ := C12c.cyk_unpack h
  have vG := C12c.parseSimpleCfg_ok_valid h1
  have cG := C12b.cykCheck_ok_isChomsky hc
  exact ⟨G, eps, h1, vG, cG, chk_cyk_sound G cG vG _ answer hc⟩

-- S → AB | a, A → a, B → b
example : CheckText.cyk "S -> AB | a\nA -> a\nB -> b" "ab" "{S}\n{A,S} {B}" = .ok := by
  rw [CheckText.cyk, exG_parse]; decide +kernel
-- the top row missing: feedback
example : CheckText.cyk "S -> AB | a\nA -> a\nB -> b" "ab" "{A,S} {B}" = .feedback := by
  rw [CheckText.cyk, exG_parse]; decide +kernel
-- a grammar that is not in Chomsky normal form / that does not parse: `Error`
example : CheckText.cyk "S -> aSb | ε" "ab" "{S}\n{} {}" = .error := by decide +kernel
example : CheckText.cyk "S => a" "a" "{S}" = .error := by decide +kernel

/-- `check_cfg_derivation` on text: OK ⇒ the submitted text is a derivation of the word in the parsed grammar -/
theorem derivation_text_sound (cfg deriv word : String) (kind : Nat)
    (h : CheckText.derivation cfg deriv word kind = .ok) :
    ∃ G eps, CfgText.parseSimpleCfg cfg.toList = .ok (G, eps) ∧ G.valid = true ∧
      let w := word.toList.map String.singleton
      let forms := ((Text.splitArrow (Text.strip deriv.toList)).map Text.strip).map (fun w => w.map Check.parseChar)
      forms.head? = some [.v G.S] ∧ forms.getLast? = some (w.map Sym.t) ∧
      ChainOf (fun a b => (kind = 1 → G.LStep a b) ∧ (kind = 2 → G.RStep a b) ∧ G.Step a b) forms ∧
      G.Lang w := by
  obtain ⟨G, eps, h1, hc⟩ := C12c.derivation_unpack h
  exact ⟨G, eps, h1, C12c.parseSimpleCfg_ok_valid h1, chk_derivation_sound G deriv _ kind hc⟩

example : CheckText.derivation "S -> AB | a\nA -> a\nB -> b" "S => AB => aB => ab" "ab" 1 = .ok := by
  rw [CheckText.derivation, exG_parse]; decide +kernel
-- a leftmost derivation handed in as a rightmost one: feedback
example : CheckText.derivation "S -> AB | a\nA -> a\nB -> b" "S => AB => aB => ab" "ab" 2 = .feedback := by
  rw [CheckText.derivation, exG_parse]; decide +kernel
-- `T` has no rule, the grammar is rejected by the constructor check: `Error`
example : CheckText.derivation "S -> aT" "S => aT" "a" 0 = .error := by decide +kernel
-- consequence on the example: `ab` is in the language of the parsed grammar
example : ∃ G, CfgText.parseSimpleCfg "S -> AB | a\nA -> a\nB -> b".toList = .ok (G, "_") ∧ G.Lang ["a", "b"] := by
  obtain ⟨G, eps, h1, _, h2⟩ := derivation_text_sound "S -> AB | a\nA -> a\nB -> b" "S => AB => aB => ab" "ab" 1
    (by rw [CheckText.derivation, exG_parse]; decide +kernel)
  rw [exG_parse] at h1
  cases h1
  exact ⟨_, exG_parse, h2.2.2.2⟩

/-- `cfg_check_chomsky` on text -/
theorem chomsky_text_sound (cfg answer : String) (phase : Nat) (start : String) (len : Nat)
    (h : CheckText.chomsky cfg answer phase start len = .ok) :
    ∃ G eps G1 eps1, CfgText.parseSimpleCfg cfg.toList = .ok (G, eps) ∧
      CfgText.parseSimpleCfg answer.toList = .ok (G1, eps1) ∧ G.valid = true ∧ G1.valid = true ∧
      (∀ w, w ∈ G1.wordsUpTo len ↔ w ∈ G.wordsUpTo len) ∧
      (1 ≤ phase → G1.S = start) ∧ (2 ≤ phase → CFG.NoEpsExceptStart G1) ∧ (3 ≤ phase → CFG.NoUnit G1) ∧
      (4 ≤ phase → CFG.RhsLe2 G1) ∧ (5 ≤ phase → CFG.AllCnfShaped G1) := by
  obtain ⟨G, eps, G1, eps1, h1, h2, hc⟩ := C12c.chomsky_unpack h
  exact ⟨G, eps, G1, eps1, h1, h2, C12c.parseSimpleCfg_ok_valid h1, C12c.parseSimpleCfg_ok_valid h2,
    chk_chomsky_sound G G1 phase start len hc⟩

/-- … and, when in both parsed grammars no terminal is also a variable name (nor the name `toChomsky` would pick for a
    new start variable) — which the text format does NOT guarantee, a left-hand side may be any `\\w+` word, e.g. `a` —
    the two languages agree on all words of length ≤ len -/
theorem chomsky_text_lang (cfg answer : String) (phase : Nat) (start : String) (len : Nat)
    (h : CheckText.chomsky cfg answer phase start len = .ok) :
    ∃ G eps G1 eps1, CfgText.parseSimpleCfg cfg.toList = .ok (G, eps) ∧
      CfgText.parseSimpleCfg answer.toList = .ok (G1, eps1) ∧
      ((∀ a, a ∈ G.Sigma → a ∉ G.V ∧ a ≠ CFG.freshVariable G.V "S") →
       (∀ a, a ∈ G1.Sigma → a ∉ G1.V ∧ a ≠ CFG.freshVariable G1.V "S") →
       ∀ w, w.length ≤ len → (G1.Lang w ↔ G.Lang w)) := by
  obtain ⟨G, eps, G1, eps1, h1, h2, hc⟩ := C12c.chomsky_unpack h
  obtain ⟨v, sv, al⟩ := parseSimpleCfg_ok_valid _ _ _ h1
  obtain ⟨v1, sv1, al1⟩ := parseSimpleCfg_ok_valid _ _ _ h2
  refine ⟨G, eps, G1, eps1, h1, h2, ?_⟩
  intro hd hd1
  exact (Enum.same_iff (cfg_words_exact G1 v1 sv1 al1 hd1 len) (cfg_words_exact G v sv al hd len)).mp
    (chk_chomsky_sound G G1 phase start len hc).1

-- S → AB | a, A → a, B → b  and the CNF answer  S → XB | a, X → a, B → b
example : CheckText.chomsky "S -> AB | a\nA -> a\nB -> b" "S -> XB | a\nX -> a\nB -> b" 5 "S" 3 = .ok := by
  rw [CheckText.chomsky, exG_parse]; decide +kernel
-- `S → a` dropped: feedback
example : CheckText.chomsky "S -> AB | a\nA -> a\nB -> b" "S -> XB\nX -> a\nB -> b" 5 "S" 3 = .feedback := by
  rw [CheckText.chomsky, exG_parse]; decide +kernel
-- `B` has no rule in the answer: `Error`
example : CheckText.chomsky "S -> AB | a\nA -> a\nB -> b" "S -> XB | a\nX -> a" 5 "S" 3 = .error := by
  rw [CheckText.chomsky, exG_parse]; decide +kernel
-- a parsed grammar in which `a` is both a variable and a terminal (the side condition of `chomsky_text_lang` fails)
example : ∃ G, CfgText.parseSimpleCfg "S -> a\na -> b".toList = .ok (G, "_") ∧ "a" ∈ G.Sigma ∧ "a" ∈ G.V :=
  ⟨_, rfl, by decide +kernel, by decide +kernel⟩

#print axioms ofBool_ok_iff
#print axioms ofExcept_ok_iff
#print axioms text_ok_not_error
#print axioms parseDfa_ok_valid_gen
#print axioms parseNfa_ok_valid_gen
#print axioms parseSimpleCfg_ok_valid
#print axioms complement_text_sound
#print axioms complement_text_delta
#print axioms product_text_sound
#print axioms reverse_text_sound
#print axioms minimal_text_sound
#print axioms nfa2dfa_text_sound
#print axioms dfa2regexp_text_sound
#print axioms cyk_text_sound
#print axioms derivation_text_sound
#print axioms chomsky_text_sound
#print axioms chomsky_text_lang

end Gamba
