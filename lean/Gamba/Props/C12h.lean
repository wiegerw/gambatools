/-
  Gamba.Props.C12h — property C12 for the remaining checkers (`Gamba.Model.CheckAll`):
  `check_<kind>_language_from_words` and `check_<kind>_language_from_file` for kind ∈ dfa, nfa, pda, tm, cfg, regexp (reference
  file of any kind), `check_number_of_nfa_states`, `check_cfg_accepts`, `check_cfg_rejects`.
  * the verdict `OK` is only printed when the texts parse and the enumerated languages agree as sets (with the word list /
    with each other); the enumerations are the semantic languages up to the length bound (`CheckAll.Sem`) — always for DFA,
    NFA, TM (budgeted acceptance), regular expressions; for PDAs always soundly and exactly when no ε-closure was truncated;
    for grammars under the side condition of `cfg_words_exact`;
  * a reported counterexample word is genuine, has the right polarity and minimal length; `OK` ⇒ nothing is reported;
  * the generic model agrees with the kind-specific models of `CheckText` / `CheckCex` (`languageWords_dfa_eq` …
    `languageFileLangs_nfa_nfa_eq`): theorems transfer in both directions; C12d, C12f and the word-list / file parts of C12g
    are this file's theorems read at dfa, nfa, cfg.
  Vocabulary: the statements use four predicates of namespace `CheckAll` that are NOT in Model/CheckAll.lean but defined at
  the top of Proofs/C12h.lean:
  * `Sem k text e len w` — the text parses as kind `k`, `|w| ≤ len`, and the parsed object accepts / generates / matches `w`
    (TM: `w` over the input alphabet and accepted within the budget `e.tmBudget`);
  * `PdaUntruncated text e len` — no ε-closure of the PDA enumeration up to `len` hit the iteration limit;
  * `CfgSide text` — the parsed grammar is in Chomsky normal form or none of its terminals is a variable name;
  * `Exact k text e len` — the condition under which the enumeration of kind `k` is exact: `PdaUntruncated` for pda,
    `CfgSide` for cfg, `True` otherwise.
-/
import Gamba.Proofs.C12h
import Gamba.Proofs.C12g
import Gamba.Props.C16a
namespace Gamba
open Parse CheckAll C12ex

theorem langOfText_dfa_exact (text : String) (e : Env) (len nQ : Nat) (L : CheckCex.Lang)
    (h : langOfText .dfa text e len = some (nQ, L)) : ∀ w, w ∈ L ↔ Sem .dfa text e len w :=
  C12h.langOfText_exact h True.intro

-- test vectors: their proof shape is explained in the header of Proofs/C12ex.lean
example : langOfText .dfa "initial p\nfinal q\np q a\np p b\nq q a\nq p b" {} 2 = some (2, [["a"], ["a", "a"], ["b", "a"]]) :=
  C12h.exDfa_lang

theorem langOfText_nfa_exact (text : String) (e : Env) (len nQ : Nat) (L : CheckCex.Lang)
    (h : langOfText .nfa text e len = some (nQ, L)) : ∀ w, w ∈ L ↔ Sem .nfa text e len w :=
  C12h.langOfText_exact h True.intro

example : langOfText .nfa "initial A\nfinal B\nA B x ε" {} 1 = some (2, [[], ["x"]]) := by
  rw [langOfText, exN_parse]; decide +kernel

/-- PDA, soundness, for every iteration limit and pop order: every enumerated word is accepted -/
theorem langOfText_pda_sound (text : String) (e : Env) (len nQ : Nat) (L : CheckCex.Lang)
    (h : langOfText .pda text e len = some (nQ, L)) : ∀ w, w ∈ L → Sem .pda text e len w :=
  C12h.langOfText_pda_sound h

/-- PDA, exactness when no ε-closure of the enumeration was truncated -/
theorem langOfText_pda_exact (text : String) (e : Env) (len nQ : Nat) (L : CheckCex.Lang)
    (h : langOfText .pda text e len = some (nQ, L))
    (ht : ∀ P, parsePda text.toList = .ok P → (P.wordsUpTo e.pdaLimit e.sched len).2 = false) :
    ∀ w, w ∈ L ↔ Sem .pda text e len w :=
  C12h.langOfText_exact h ht

-- `p -a,ε→A-> p`, `p -b,A→ε-> q`, accepting `q` (acceptance by final state, any stack): `aⁱb` with i ≥ 1
example : langOfText .pda "initial p\nfinal q\np p a,εA\np q b,Aε" {} 3 = some (2, [["a", "b"], ["a", "a", "b"]]) :=
  C12h.exPda_lang
example : ∃ P, parsePda "initial p\nfinal q\np p a,εA\np q b,Aε".toList = .ok P ∧
    (P.wordsUpTo ({} : Env).pdaLimit ({} : Env).sched 3).2 = false := ⟨_, C12h.exPda_parse, by decide +kernel⟩

/-- TM: the words over the input alphabet accepted within the step budget -/
theorem langOfText_tm_exact (text : String) (e : Env) (len nQ : Nat) (L : CheckCex.Lang)
    (h : langOfText .tm text e len = some (nQ, L)) : ∀ w, w ∈ L ↔ Sem .tm text e len w :=
  C12h.langOfText_exact h True.intro

/-- … the TM predicate of `Sem` in terms of the Spec (`TM.HaltsAt`, C11): the machine first halts after `i ≤ budget` steps,
    in its accepting state -/
theorem sem_tm_iff_halts (text : String) (e : Env) (len : Nat) (w : List String) :
    Sem .tm text e len w ↔ ∃ T, parseTm text.toList = .ok T ∧ T.valid = true ∧ w.length ≤ len ∧
      (∀ a, a ∈ w → a ∈ T.Sigma) ∧ ∃ i, i ≤ e.tmBudget ∧ T.HaltsAt w i T.qAccept := by
  constructor
  · rintro ⟨T, hp, h1, h2, h3⟩
    have vT := parseTm_ok_valid _ T hp
    exact ⟨T, hp, vT, h1, h2, (tm_accepts_true_iff T (TM.valid_ne vT) w e.tmBudget).mp h3⟩
  · rintro ⟨T, hp, vT, h1, h2, h3⟩
    exact ⟨T, hp, h1, h2, (tm_accepts_true_iff T (TM.valid_ne vT) w e.tmBudget).mpr h3⟩

-- the machine that runs right over `a`s and accepts on the first blank: `a*`
example : langOfText .tm "initial p\np p aa,R\np accept __,R" {} 2 = some (3, [[], ["a"], ["a", "a"]]) := by
  rw [langOfText, C12h.exTm_parse]; decide +kernel
-- with a budget of 2 steps `aa` is not accepted in time
example : langOfText .tm "initial p\np p aa,R\np accept __,R" { tmBudget := 2 } 2 = some (3, [[], ["a"]]) := by
  rw [langOfText, C12h.exTm_parse]; decide +kernel

/-- grammar: unconditionally in terms of the enumeration `cfg_words_up_to_n` of the parsed grammar; in terms of the language
    under the side condition of `cfg_words_exact` (Chomsky normal form, or no terminal is a variable name) -/
theorem langOfText_cfg_exact (text : String) (e : Env) (len nQ : Nat) (L : CheckCex.Lang)
    (h : langOfText .cfg text e len = some (nQ, L)) :
    (∃ G eps, CfgText.parseSimpleCfg text.toList = .ok (G, eps) ∧ G.valid = true ∧ nQ = 0 ∧ L = G.wordsUpTo len) ∧
    ((∀ G eps, CfgText.parseSimpleCfg text.toList = .ok (G, eps) →
        G.isChomsky = true ∨ ∀ a, a ∈ G.Sigma → a ∉ G.V ∧ a ≠ CFG.freshVariable G.V "S") →
      ∀ w, w ∈ L ↔ Sem .cfg text e len w) := by
  refine ⟨?_, fun hs => C12h.langOfText_exact h hs⟩
  obtain ⟨G, eps, hp, h1, h2⟩ := C12h.langOfText_cfg_some h
  exact ⟨G, eps, hp, (parseSimpleCfg_ok_valid _ G eps hp).1, h1, h2⟩

example : langOfText .cfg "S -> aSb | ε" {} 4 = some (0, [[], ["a", "b"], ["a", "a", "b", "b"]]) := by
  rw [langOfText, C12e.exAnBn_parse]; dsimp only; rw [C12e.exAnBn_words4]
example : CfgSide "S -> aSb | ε" := C12h.exAnBn_side
-- hence `aabb` is generated and `abab` is not
example : Sem .cfg "S -> aSb | ε" {} 4 ["a", "a", "b", "b"] ∧ ¬ Sem .cfg "S -> aSb | ε" {} 4 ["a", "b", "a", "b"] := by
  have h := (langOfText_cfg_exact "S -> aSb | ε" {} 4 0 [[], ["a", "b"], ["a", "a", "b", "b"]]
    (by rw [langOfText, C12e.exAnBn_parse]; dsimp only; rw [C12e.exAnBn_words4])).2 C12h.exAnBn_side
  exact ⟨(h _).mp (by decide +kernel), fun hc => absurd ((h _).mpr hc) (by decide +kernel)⟩

theorem langOfText_regexp_exact (text : String) (e : Env) (len nQ : Nat) (L : CheckCex.Lang)
    (h : langOfText .regexp text e len = some (nQ, L)) : ∀ w, w ∈ L ↔ Sem .regexp text e len w :=
  C12h.langOfText_exact h True.intro

example : langOfText .regexp "(a+b)*a" {} 2 = some (0, [["a"], ["a", "a"], ["b", "a"]]) := by decide +kernel

/-- all kinds in one statement: `Exact k text e len` is `True` for dfa / nfa / tm / regexp, "not truncated" for pda and the
    grammar side condition for cfg -/
theorem langOfText_exact (k : CheckAll.Kind) (text : String) (e : Env) (len nQ : Nat) (L : CheckCex.Lang)
    (h : langOfText k text e len = some (nQ, L)) (hx : Exact k text e len) : ∀ w, w ∈ L ↔ Sem k text e len w :=
  C12h.langOfText_exact h hx

example : Exact .tm "initial p\np p aa,R\np accept __,R" {} 2 ∧ Exact .dfa "x" {} 0 ∧
    Exact .pda "initial p\nfinal q\np p a,εA\np q b,Aε" {} 3 ∧ Exact .cfg "S -> aSb | ε" {} 4 :=
  ⟨True.intro, True.intro, C12h.exPda_untruncated, C12h.exAnBn_side⟩
-- hence the PDA accepts `aab` and does not accept `abb`
example : Sem .pda "initial p\nfinal q\np p a,εA\np q b,Aε" {} 3 ["a", "a", "b"] ∧
    ¬ Sem .pda "initial p\nfinal q\np p a,εA\np q b,Aε" {} 3 ["a", "b", "b"] := by
  have h := langOfText_exact .pda "initial p\nfinal q\np p a,εA\np q b,Aε" {} 3 2 [["a", "b"], ["a", "a", "b"]]
    C12h.exPda_lang C12h.exPda_untruncated
  exact ⟨(h _).mp (by decide +kernel), fun hc => absurd ((h _).mpr hc) (by decide +kernel)⟩

/-- the verdict `OK` is printed exactly when the answer parses (and its enumeration does not raise), the state bound holds
    and the enumerated language is exactly the word list -/
theorem languageWords_text_ok_iff (k : CheckAll.Kind) (answer wordList : String) (e : Env) (len maxStates : Nat) :
    languageWords k answer wordList e len maxStates = .ok ↔
      ∃ nQ L, langOfText k answer e len = some (nQ, L) ∧ Check.maxStatesOk nQ maxStates = true ∧
        ∀ w, w ∈ L ↔ w ∈ CheckText.parseWordList wordList := by
  unfold languageWords
  cases h : langOfText k answer e len with
  | none =>
    constructor
    · intro h'; cases h'
    · rintro ⟨_, _, h', _⟩; cases h'
  | some p =>
    obtain ⟨nQ, L⟩ := p
    show CheckText.ofBool _ = .ok ↔ _
    rw [C12c.ofBool_ok_iff]
    unfold Check.languageFromWords
    rw [Bool.and_eq_true, C12a.compare_isNone_iff]
    constructor
    · rintro ⟨h1, h2⟩; exact ⟨nQ, L, rfl, h1, h2⟩
    · rintro ⟨nQ', L', h', h1, h2⟩; cases h'; exact ⟨h1, h2⟩

theorem languageWords_text_sound (k : CheckAll.Kind) (answer wordList : String) (e : Env) (len maxStates : Nat)
    (h : languageWords k answer wordList e len maxStates = .ok) :
    ∃ nQ L, langOfText k answer e len = some (nQ, L) ∧ Check.maxStatesOk nQ maxStates = true ∧
      ∀ w, w ∈ L ↔ w ∈ CheckText.parseWordList wordList :=
  (languageWords_text_ok_iff k answer wordList e len maxStates).mp h

example : languageWords .dfa "initial p\nfinal q\np q a\np p b\nq q a\nq p b" "ba a  aa\na" {} 2 2 = .ok := by
  rw [languageWords, langOfText, endsA_parse]; decide +kernel

/-- `Error: …` exactly when the parser or the enumerator raises -/
theorem languageWords_text_error_iff (k : CheckAll.Kind) (answer wordList : String) (e : Env) (len maxStates : Nat) :
    languageWords k answer wordList e len maxStates = .error ↔ langOfText k answer e len = none := by
  unfold languageWords
  cases h : langOfText k answer e len with
  | none => exact ⟨fun _ => rfl, fun _ => rfl⟩
  | some p =>
    obtain ⟨nQ, L⟩ := p
    show CheckText.ofBool _ = .error ↔ _
    constructor
    · intro h'; exact absurd h' (C12c.ofBool_error _)
    · intro h'; cases h'

/-- semantic form, every kind: under the exactness condition of the kind, the listed words are exactly the words of length
    ≤ `len` of the answer's language -/
theorem languageWords_text_sound_sem (k : CheckAll.Kind) (answer wordList : String) (e : Env) (len maxStates : Nat)
    (h : languageWords k answer wordList e len maxStates = .ok) (hx : Exact k answer e len) :
    ∃ nQ L, langOfText k answer e len = some (nQ, L) ∧ (maxStates = 0 ∨ nQ ≤ maxStates) ∧
      (∀ w, Sem k answer e len w ↔ w ∈ CheckText.parseWordList wordList) ∧
      ∀ w, w ∈ CheckText.parseWordList wordList → w.length ≤ len := by
  obtain ⟨nQ, L, hL, hb, hw⟩ := languageWords_text_sound k answer wordList e len maxStates h
  have key : ∀ w, Sem k answer e len w ↔ w ∈ CheckText.parseWordList wordList := fun w => by
    rw [← hw w, C12h.langOfText_exact hL hx w]
  exact ⟨nQ, L, hL, (C12a.maxStatesOk_iff _ _).mp hb, key, fun w hm => C12h.Sem.length_le ((key w).mpr hm)⟩

-- the PDA `aⁱb` (i ≥ 1), bound 3, at most 2 states: the listed words are exactly its words of length ≤ 3
example : ∀ w, Sem .pda "initial p\nfinal q\np p a,εA\np q b,Aε" {} 3 w ↔ w ∈ CheckText.parseWordList "ab aab" := by
  obtain ⟨_, _, _, _, h, _⟩ := languageWords_text_sound_sem .pda "initial p\nfinal q\np p a,εA\np q b,Aε" "ab aab" {} 3 2
    (by rw [languageWords, C12h.exPda_lang]; decide +kernel) C12h.exPda_untruncated
  exact h

/-- `check_pda_language_from_words`: every listed word is accepted (and within the bound), for every limit and pop order; if no
    ε-closure was truncated, the listed words are exactly the accepted words of length ≤ `len` -/
theorem pda_language_words_text_sound (answer wordList : String) (e : Env) (len maxStates : Nat)
    (h : languageWords .pda answer wordList e len maxStates = .ok) :
    ∃ P, parsePda answer.toList = .ok P ∧ P.valid = true ∧ (maxStates = 0 ∨ (dedup P.Q).length ≤ maxStates) ∧
      (∀ w, w ∈ CheckText.parseWordList wordList → w.length ≤ len ∧ (∀ a, a ∈ w → a ∈ P.Sigma) ∧ P.Accepts w) ∧
      ((P.wordsUpTo e.pdaLimit e.sched len).2 = false →
        ∀ w, w.length ≤ len → (P.Accepts w ↔ w ∈ CheckText.parseWordList wordList)) := by
  obtain ⟨nQ, L, hL, hb, hw⟩ := languageWords_text_sound .pda answer wordList e len maxStates h
  obtain ⟨P, hp, rfl, rfl⟩ := C12h.langOfText_pda_some hL
  obtain ⟨vP, kP⟩ := parsedPda_of hp
  exact ⟨P, hp, vP, (C12a.maxStatesOk_iff _ _).mp hb,
    fun w hm => pda_words_sound P kP vP e.pdaLimit e.sched len w ((hw w).mpr hm),
    fun ht => ((PDA.enum kP vP ht).list_iff.mp hw).1⟩

example : languageWords .pda "initial p\nfinal q\np p a,εA\np q b,Aε" "ab aab" {} 3 2 = .ok := by
  rw [languageWords, C12h.exPda_lang]; decide +kernel

/-- `check_tm_language_from_words`: the listed words are exactly the words over the input alphabet, of length ≤ `len`, that
    the machine accepts within the step budget -/
theorem tm_language_words_text_sound (answer wordList : String) (e : Env) (len maxStates : Nat)
    (h : languageWords .tm answer wordList e len maxStates = .ok) :
    ∃ T, parseTm answer.toList = .ok T ∧ T.valid = true ∧ (maxStates = 0 ∨ (dedup T.Q).length ≤ maxStates) ∧
      (∀ w, w.length ≤ len → (((∀ a, a ∈ w → a ∈ T.Sigma) ∧ T.accepts w e.tmBudget = some true) ↔
        w ∈ CheckText.parseWordList wordList)) ∧
      ∀ w, w ∈ CheckText.parseWordList wordList → w.length ≤ len := by
  obtain ⟨nQ, L, hL, hb, hw⟩ := languageWords_text_sound .tm answer wordList e len maxStates h
  obtain ⟨T, hp, rfl, rfl⟩ := C12h.langOfText_tm_some hL
  exact ⟨T, hp, parseTm_ok_valid _ T hp, (C12a.maxStatesOk_iff _ _).mp hb,
    (Enum.list_iff (tm_words_exact T len e.tmBudget)).mp hw⟩

example : languageWords .tm "initial p\np p aa,R\np accept __,R" "ε a aa" {} 2 3 = .ok := by
  rw [languageWords, langOfText, C12h.exTm_parse]; decide +kernel

/-- `check_regexp_language_from_words` (no state bound) -/
theorem regexp_language_words_text_sound (answer wordList : String) (e : Env) (len maxStates : Nat)
    (h : languageWords .regexp answer wordList e len maxStates = .ok) :
    ∃ r, RegexpText.parseSimple answer = some r ∧
      (∀ w, w.length ≤ len → (r.Lang w ↔ w ∈ CheckText.parseWordList wordList)) ∧
      ∀ w, w ∈ CheckText.parseWordList wordList → w.length ≤ len := by
  obtain ⟨nQ, L, hL, _, hw⟩ := languageWords_text_sound .regexp answer wordList e len maxStates h
  obtain ⟨r, hp, rfl, rfl⟩ := C12h.langOfText_regexp_some hL
  exact ⟨r, hp, (r.enum len).list_iff.mp hw⟩

example : languageWords .regexp "(a+b)*a" "a aa ba" {} 2 0 = .ok := by decide +kernel

/-- the verdict `OK` is printed exactly when both texts parse and the two enumerated languages are equal as sets -/
theorem languageFile_text_ok_iff (k rk : CheckAll.Kind) (answer refText : String) (e : Env) (len : Nat) :
    languageFile k rk answer refText e len = .ok ↔
      ∃ n1 L1 n2 L2, langOfText k answer e len = some (n1, L1) ∧ langOfText rk refText e len = some (n2, L2) ∧
        ∀ w, w ∈ L1 ↔ w ∈ L2 := by
  unfold languageFile
  cases h1 : langOfText k answer e len with
  | none =>
    constructor
    · intro h'; cases h'
    · rintro ⟨_, _, _, _, h', _⟩; cases h'
  | some p1 =>
    obtain ⟨n1, L1⟩ := p1
    cases h2 : langOfText rk refText e len with
    | none =>
      constructor
      · intro h'; cases h'
      · rintro ⟨_, _, _, _, _, h', _⟩; cases h'
    | some p2 =>
      obtain ⟨n2, L2⟩ := p2
      show CheckText.ofBool _ = .ok ↔ _
      rw [C12c.ofBool_ok_iff, C12a.equalLanguages_iff]
      constructor
      · intro hc; exact ⟨n1, L1, n2, L2, rfl, rfl, hc⟩
      · rintro ⟨_, _, _, _, h1', h2', hc⟩; cases h1'; cases h2'; exact hc

theorem languageFile_text_sound (k rk : CheckAll.Kind) (answer refText : String) (e : Env) (len : Nat)
    (h : languageFile k rk answer refText e len = .ok) :
    ∃ n1 L1 n2 L2, langOfText k answer e len = some (n1, L1) ∧ langOfText rk refText e len = some (n2, L2) ∧
      ∀ w, w ∈ L1 ↔ w ∈ L2 :=
  (languageFile_text_ok_iff k rk answer refText e len).mp h

theorem languageFile_text_error_iff (k rk : CheckAll.Kind) (answer refText : String) (e : Env) (len : Nat) :
    languageFile k rk answer refText e len = .error ↔
      langOfText k answer e len = none ∨ langOfText rk refText e len = none := by
  unfold languageFile
  cases h1 : langOfText k answer e len with
  | none => exact ⟨fun _ => Or.inl rfl, fun _ => rfl⟩
  | some p1 =>
    obtain ⟨n1, L1⟩ := p1
    cases h2 : langOfText rk refText e len with
    | none => exact ⟨fun _ => Or.inr rfl, fun _ => rfl⟩
    | some p2 =>
      obtain ⟨n2, L2⟩ := p2
      show CheckText.ofBool _ = .error ↔ _
      constructor
      · intro h'; exact absurd h' (C12c.ofBool_error _)
      · rintro (h' | h') <;> cases h'

/-- semantic form, any two kinds, under the exactness condition of each side -/
theorem languageFile_text_sound_exact (k rk : CheckAll.Kind) (answer refText : String) (e : Env) (len : Nat)
    (h : languageFile k rk answer refText e len = .ok) (hx : Exact k answer e len) (hr : Exact rk refText e len) :
    ∀ w, Sem k answer e len w ↔ Sem rk refText e len w := by
  obtain ⟨n1, L1, n2, L2, h1, h2, hw⟩ := languageFile_text_sound k rk answer refText e len h
  intro w
  rw [← C12h.langOfText_exact h1 hx w, ← C12h.langOfText_exact h2 hr w]
  exact hw w

/-- semantic form for dfa / nfa / regexp / tm on both sides: answer and reference have the same words of length ≤ `len`.
    How a pda / cfg side weakens it: a cfg side needs `CfgSide` of its text (`languageFile_text_sound_exact`); a pda side
    needs `PdaUntruncated`, and WITHOUT it only one inclusion survives (`languageFile_text_sound_half`): the enumeration of a
    truncated PDA may miss accepted words, so an answer PDA is only known to accept every reference word, and an answer
    checked against a reference PDA is only known to stay inside the reference language. -/
theorem languageFile_text_sound_sem (k rk : CheckAll.Kind) (answer refText : String) (e : Env) (len : Nat)
    (h : languageFile k rk answer refText e len = .ok)
    (hk : k ≠ .pda ∧ k ≠ .cfg ∧ rk ≠ .pda ∧ rk ≠ .cfg) :
    ∀ w, Sem k answer e len w ↔ Sem rk refText e len w :=
  languageFile_text_sound_exact k rk answer refText e len h (C12h.exact_of_ne hk.1 hk.2.1 _ _ _)
    (C12h.exact_of_ne hk.2.2.1 hk.2.2.2 _ _ _)

example : languageFile .regexp .dfa "(a+b)*a" "initial p\nfinal q\np q a\np p b\nq q a\nq p b" {} 2 = .ok := by
  rw [languageFile, langOfText, endsA_parse]; decide +kernel
example : languageFile .tm .regexp "initial p\np p aa,R\np accept __,R" "a*" {} 2 = .ok := by
  rw [languageFile, langOfText, C12h.exTm_parse]; decide +kernel

/-- one inclusion needs exactness of ONE side only (and no grammar on the other side) -/
theorem languageFile_text_sound_half (k rk : CheckAll.Kind) (answer refText : String) (e : Env) (len : Nat)
    (h : languageFile k rk answer refText e len = .ok) :
    (Exact rk refText e len → k ≠ .cfg → ∀ w, Sem rk refText e len w → Sem k answer e len w) ∧
    (Exact k answer e len → rk ≠ .cfg → ∀ w, Sem k answer e len w → Sem rk refText e len w) := by
  obtain ⟨n1, L1, n2, L2, h1, h2, hw⟩ := languageFile_text_sound k rk answer refText e len h
  refine ⟨fun hr hk w hs => ?_, fun hx hk w hs => ?_⟩
  · exact C12h.langOfText_sound hk h1 w ((hw w).mpr ((C12h.langOfText_exact h2 hr w).mpr hs))
  · exact C12h.langOfText_sound hk h2 w ((hw w).mp ((C12h.langOfText_exact h1 hx w).mpr hs))

-- a PDA answer against a regular expression: `aⁱb` (i ≥ 1) up to length 3
example : languageFile .pda .regexp "initial p\nfinal q\np p a,εA\np q b,Aε" "ab+aab" {} 3 = .ok := by
  rw [languageFile, C12h.exPda_lang]; decide +kernel

theorem languageWords_dfa_eq (a ws : String) (e : Env) (len m : Nat) :
    languageWords .dfa a ws e len m = CheckText.dfaLanguageWords a ws len m :=
  C12h.languageWords_dfa_eq a ws e len m

theorem languageWords_nfa_eq (a ws : String) (e : Env) (len m : Nat) :
    languageWords .nfa a ws e len m = CheckText.nfaLanguageWords a ws e.sched len m := by
  unfold languageWords langOfText CheckText.nfaLanguageWords
  cases parseNfa a.toList with
  | error _ => rfl
  | ok A => cases hL : A.wordsUpTo e.sched len <;> simp only [hL]

/-- for every `max_states`: the grammar checker has no state bound -/
theorem languageWords_cfg_eq_any (a ws : String) (e : Env) (len m : Nat) :
    languageWords .cfg a ws e len m = CheckText.cfgLanguageWords a ws len := by
  unfold languageWords langOfText CheckText.cfgLanguageWords
  cases CfgText.parseSimpleCfg a.toList with
  | error _ => rfl
  | ok Ge =>
    obtain ⟨G, eps⟩ := Ge
    show CheckText.ofBool (Check.languageFromWords 0 m _ _) = CheckText.ofBool (Check.equalLanguages _ _)
    unfold Check.languageFromWords Check.equalLanguages
    rw [C12a.maxStatesOk_zero, Bool.true_and]

theorem languageWords_cfg_eq (a ws : String) (e : Env) (len : Nat) :
    languageWords .cfg a ws e len 0 = CheckText.cfgLanguageWords a ws len :=
  languageWords_cfg_eq_any a ws e len 0

theorem languageFile_dfa_dfa_eq (a r : String) (e : Env) (len : Nat) :
    languageFile .dfa .dfa a r e len = CheckText.dfaLanguageFile a r len := by
  unfold languageFile langOfText CheckText.dfaLanguageFile
  cases parseDfa a.toList <;> cases parseDfa r.toList <;> rfl

theorem languageFile_nfa_nfa_eq (a r : String) (e : Env) (len : Nat) :
    languageFile .nfa .nfa a r e len = CheckText.nfaLanguageFile a r e.sched len := by
  unfold languageFile langOfText CheckText.nfaLanguageFile
  cases parseNfa a.toList with
  | error _ =>
    cases parseNfa r.toList with
    | error _ => rfl
    | ok N => cases N.wordsUpTo e.sched len <;> rfl
  | ok A =>
    cases parseNfa r.toList with
    | error _ => cases hL : A.wordsUpTo e.sched len <;> simp only [hL]
    | ok N =>
      cases hL : A.wordsUpTo e.sched len <;> cases hL' : N.wordsUpTo e.sched len <;> simp only [hL, hL']

theorem languageWordsLangs_dfa_eq (a ws : String) (e : Env) (len : Nat) :
    languageWordsLangs .dfa a ws e len = CheckCex.dfaLanguageWordsLangs a ws len := by
  unfold languageWordsLangs langOfText CheckCex.dfaLanguageWordsLangs
  cases parseDfa a.toList <;> rfl

theorem languageWordsLangs_nfa_eq (a ws : String) (e : Env) (len : Nat) :
    languageWordsLangs .nfa a ws e len = CheckCex.nfaLanguageWordsLangs a ws e.sched len := by
  unfold languageWordsLangs langOfText CheckCex.nfaLanguageWordsLangs
  cases parseNfa a.toList with
  | error _ => rfl
  | ok A => cases hL : A.wordsUpTo e.sched len <;> simp only [hL]

theorem languageWordsLangs_cfg_eq (a ws : String) (e : Env) (len : Nat) :
    languageWordsLangs .cfg a ws e len = CheckCex.cfgLanguageWordsLangs a ws len := by
  unfold languageWordsLangs langOfText CheckCex.cfgLanguageWordsLangs
  cases CfgText.parseSimpleCfg a.toList with
  | error _ => rfl
  | ok Ge => obtain ⟨G, eps⟩ := Ge; rfl

theorem languageFileLangs_dfa_dfa_eq (a r : String) (e : Env) (len : Nat) :
    languageFileLangs .dfa .dfa a r e len = CheckCex.dfaLanguageFileLangs a r len := by
  unfold languageFileLangs langOfText CheckCex.dfaLanguageFileLangs
  cases parseDfa a.toList <;> cases parseDfa r.toList <;> rfl

theorem languageFileLangs_nfa_nfa_eq (a r : String) (e : Env) (len : Nat) :
    languageFileLangs .nfa .nfa a r e len = CheckCex.nfaLanguageFileLangs a r e.sched len := by
  unfold languageFileLangs langOfText CheckCex.nfaLanguageFileLangs
  cases parseNfa a.toList with
  | error _ =>
    cases parseNfa r.toList with
    | error _ => rfl
    | ok N => cases N.wordsUpTo e.sched len <;> rfl
  | ok A =>
    cases parseNfa r.toList with
    | error _ => cases hL : A.wordsUpTo e.sched len <;> simp only [hL]
    | ok N =>
      cases hL : A.wordsUpTo e.sched len <;> cases hL' : N.wordsUpTo e.sched len <;> simp only [hL, hL']

/-- `check_<kind>_language_from_words`, list level, every kind: the reported word is in exactly one of the two lists
    (enumeration of the answer: "should not be accepted"; word list only: "should be accepted"), of minimal length among
    such words, and "should be accepted" is only reported when every enumerated word is listed -/
theorem languageWords_cex_genuine (k : CheckAll.Kind) (answer wordList : String) (e : Env) (len : Nat) (w : List String)
    (b : Bool) (h : CheckCex.report (languageWordsLangs k answer wordList e len) = some (w, b)) :
    ∃ nQ L, langOfText k answer e len = some (nQ, L) ∧
      (b = true → w ∈ L ∧ w ∉ CheckText.parseWordList wordList ∧
        ∀ v, v ∈ L → v ∉ CheckText.parseWordList wordList → w.length ≤ v.length) ∧
      (b = false → w ∈ CheckText.parseWordList wordList ∧ w ∉ L ∧
        (∀ v, v ∈ CheckText.parseWordList wordList → v ∉ L → w.length ≤ v.length) ∧
        ∀ v, v ∈ L → v ∈ CheckText.parseWordList wordList) := by
  obtain ⟨A1, A2, hP, hc⟩ := C12g.report_some h
  obtain ⟨nQ, hL, rfl⟩ := C12h.languageWordsLangs_some hP
  exact ⟨nQ, A1, hL, C12h.genuine_lists hc⟩

/-- … semantically, under the exactness condition of the kind (none for dfa / nfa / tm / regexp) -/
theorem languageWords_cex_genuine_sem (k : CheckAll.Kind) (answer wordList : String) (e : Env) (len : Nat)
    (w : List String) (b : Bool) (h : CheckCex.report (languageWordsLangs k answer wordList e len) = some (w, b))
    (hx : Exact k answer e len) :
    (b = true → Sem k answer e len w ∧ w ∉ CheckText.parseWordList wordList ∧
      ∀ v, Sem k answer e len v → v ∉ CheckText.parseWordList wordList → w.length ≤ v.length) ∧
    (b = false → w ∈ CheckText.parseWordList wordList ∧ ¬ Sem k answer e len w ∧
      (∀ v, v ∈ CheckText.parseWordList wordList → ¬ Sem k answer e len v → w.length ≤ v.length) ∧
      ∀ v, Sem k answer e len v → v ∈ CheckText.parseWordList wordList) := by
  obtain ⟨A1, A2, hP, hc⟩ := C12g.report_some h
  obtain ⟨nQ, hL, rfl⟩ := C12h.languageWordsLangs_some hP
  simpa only [C12h.langOfText_exact hL hx] using C12h.genuine_lists hc

-- PDA `aⁱb` (i ≥ 1), bound 2: the listed `a` is not accepted; TM `a*`, bound 2: the accepted `aa` is not listed
example : CheckCex.report (languageWordsLangs .pda "initial p\nfinal q\np p a,εA\np q b,Aε" "ab a" {} 2)
    = some (["a"], false) := by
  rw [languageWordsLangs, langOfText, C12h.exPda_parse]; decide +kernel
example : languageWords .pda "initial p\nfinal q\np p a,εA\np q b,Aε" "ab a" {} 2 0 = .feedback := by
  rw [languageWords, langOfText, C12h.exPda_parse]; decide +kernel
example : CheckCex.report (languageWordsLangs .tm "initial p\np p aa,R\np accept __,R" "ε a" {} 2)
    = some (["a", "a"], true) := by
  rw [languageWordsLangs, langOfText, C12h.exTm_parse]; decide +kernel
example : languageWords .tm "initial p\np p aa,R\np accept __,R" "ε a" {} 2 0 = .feedback := by
  rw [languageWords, langOfText, C12h.exTm_parse]; decide +kernel

/-- `check_<kind>_language_from_file`, list level, any two kinds -/
theorem languageFile_cex_genuine (k rk : CheckAll.Kind) (answer refText : String) (e : Env) (len : Nat) (w : List String)
    (b : Bool) (h : CheckCex.report (languageFileLangs k rk answer refText e len) = some (w, b)) :
    ∃ n1 L1 n2 L2, langOfText k answer e len = some (n1, L1) ∧ langOfText rk refText e len = some (n2, L2) ∧
      (b = true → w ∈ L1 ∧ w ∉ L2 ∧ ∀ v, v ∈ L1 → v ∉ L2 → w.length ≤ v.length) ∧
      (b = false → w ∈ L2 ∧ w ∉ L1 ∧ (∀ v, v ∈ L2 → v ∉ L1 → w.length ≤ v.length) ∧ ∀ v, v ∈ L1 → v ∈ L2) := by
  obtain ⟨A1, A2, hP, hc⟩ := C12g.report_some h
  obtain ⟨n1, n2, h1, h2⟩ := C12h.languageFileLangs_some hP
  exact ⟨n1, A1, n2, A2, h1, h2, C12h.genuine_lists hc⟩

/-- … semantically: the reported word is at most `len` long, in exactly one of the two languages, with the right polarity
    and of minimal length -/
theorem languageFile_cex_genuine_sem (k rk : CheckAll.Kind) (answer refText : String) (e : Env) (len : Nat)
    (w : List String) (b : Bool) (h : CheckCex.report (languageFileLangs k rk answer refText e len) = some (w, b))
    (hx : Exact k answer e len) (hr : Exact rk refText e len) :
    w.length ≤ len ∧
    (b = true → Sem k answer e len w ∧ ¬ Sem rk refText e len w ∧
      ∀ v, Sem k answer e len v → ¬ Sem rk refText e len v → w.length ≤ v.length) ∧
    (b = false → Sem rk refText e len w ∧ ¬ Sem k answer e len w ∧
      (∀ v, Sem rk refText e len v → ¬ Sem k answer e len v → w.length ≤ v.length) ∧
      ∀ v, Sem k answer e len v → Sem rk refText e len v) := by
  obtain ⟨A1, A2, hP, hc⟩ := C12g.report_some h
  obtain ⟨n1, n2, h1, h2⟩ := C12h.languageFileLangs_some hP
  have hg := C12h.genuine_lists hc
  simp only [C12h.langOfText_exact h1 hx, C12h.langOfText_exact h2 hr] at hg
  refine ⟨?_, hg⟩
  cases b
  · exact C12h.Sem.length_le (hg.2 rfl).1
  · exact C12h.Sem.length_le (hg.1 rfl).1

-- `(a+b)*` against the DFA "words ending in `a`": ε should not be accepted; `a` alone misses `aa`
example : CheckCex.report (languageFileLangs .regexp .dfa "(a+b)*" "initial p\nfinal q\np q a\np p b\nq q a\nq p b" {} 2)
    = some ([], true) := by
  rw [languageFileLangs, langOfText, endsA_parse]; decide +kernel
example : CheckCex.report (languageFileLangs .regexp .dfa "a" "initial p\nfinal q\np q a\np p b\nq q a\nq p b" {} 2)
    = some (["a", "a"], false) := by
  rw [languageFileLangs, langOfText, endsA_parse]; decide +kernel

/-- verdict `OK` ⇒ no word is reported -/
theorem languageWords_ok_no_report (k : CheckAll.Kind) (answer wordList : String) (e : Env) (len maxStates : Nat)
    (h : languageWords k answer wordList e len maxStates = .ok) :
    CheckCex.report (languageWordsLangs k answer wordList e len) = none := by
  refine C12g.report_none_of fun A1 A2 hP => ?_
  obtain ⟨nQ, L, hL, _, hw⟩ := languageWords_text_sound k answer wordList e len maxStates h
  obtain ⟨nQ', hL', rfl⟩ := C12h.languageWordsLangs_some hP
  rw [hL] at hL'
  cases hL'
  exact hw

example : CheckCex.report (languageWordsLangs .tm "initial p\np p aa,R\np accept __,R" "ε a aa" {} 2) = none :=
  languageWords_ok_no_report .tm _ _ {} 2 3 (by rw [languageWords, langOfText, C12h.exTm_parse]; decide +kernel)

theorem languageFile_ok_no_report (k rk : CheckAll.Kind) (answer refText : String) (e : Env) (len : Nat)
    (h : languageFile k rk answer refText e len = .ok) :
    CheckCex.report (languageFileLangs k rk answer refText e len) = none := by
  refine C12g.report_none_of fun A1 A2 hP => ?_
  obtain ⟨n1, L1, n2, L2, h1, h2, hw⟩ := languageFile_text_sound k rk answer refText e len h
  obtain ⟨n1', n2', h1', h2'⟩ := C12h.languageFileLangs_some hP
  rw [h1] at h1'
  rw [h2] at h2'
  cases h1'
  cases h2'
  exact hw

example : CheckCex.report (languageFileLangs .regexp .dfa "(a+b)*a" "initial p\nfinal q\np q a\np p b\nq q a\nq p b" {} 2)
    = none :=
  languageFile_ok_no_report .regexp .dfa _ _ {} 2 (by rw [languageFile, langOfText, langOfText, endsA_parse]; decide +kernel)

theorem numberOfNfaStates_ok_iff (nfa : String) (count : Nat) :
    numberOfNfaStates nfa count = .ok ↔ ∃ N, parseNfa nfa.toList = .ok N ∧ (dedup N.Q).length = count := by
  unfold numberOfNfaStates
  cases h : parseNfa nfa.toList with
  | error e =>
    constructor
    · intro h'; cases h'
    · rintro ⟨N, hN, _⟩; cases hN
  | ok N =>
    show CheckText.ofBool _ = .ok ↔ _
    rw [C12c.ofBool_ok_iff, decide_eq_true_eq]
    constructor
    · intro hc; exact ⟨N, rfl, hc⟩
    · rintro ⟨N', hN', hc⟩; cases hN'; exact hc

/-- nothing is printed (no `OK` line) exactly for a parsable text with another number of states -/
theorem numberOfNfaStates_feedback_iff (nfa : String) (count : Nat) :
    numberOfNfaStates nfa count = .feedback ↔ ∃ N, parseNfa nfa.toList = .ok N ∧ (dedup N.Q).length ≠ count := by
  unfold numberOfNfaStates
  cases h : parseNfa nfa.toList with
  | error e =>
    constructor
    · intro h'; cases h'
    · rintro ⟨N, hN, _⟩; cases hN
  | ok N =>
    show CheckText.ofBool _ = .feedback ↔ _
    rw [C12c.ofBool_feedback_iff, decide_eq_false_iff_not]
    constructor
    · intro hc; exact ⟨N, rfl, hc⟩
    · rintro ⟨N', hN', hc⟩; cases hN'; exact hc

theorem numberOfNfaStates_error_iff (nfa : String) (count : Nat) :
    numberOfNfaStates nfa count = .error ↔ ∃ e, parseNfa nfa.toList = .error e := by
  unfold numberOfNfaStates
  cases h : parseNfa nfa.toList with
  | error e => exact ⟨fun _ => ⟨e, rfl⟩, fun _ => rfl⟩
  | ok N =>
    show CheckText.ofBool _ = .error ↔ _
    constructor
    · intro hc; exact absurd hc (C12c.ofBool_error _)
    · rintro ⟨e, he⟩; cases he

example : numberOfNfaStates "initial A\nfinal B\nA B x ε" 2 = .ok ∧
    numberOfNfaStates "initial A\nfinal B\nA B x ε" 3 = .feedback ∧
    numberOfNfaStates "initial A B\nfinal B\nA B x ε" 2 = .error := by
  rw [numberOfNfaStates, numberOfNfaStates, exN_parse]; decide +kernel

/-- `check_cfg_accepts`: OK iff the grammar parses and the membership test answers `True` on every listed word -/
theorem cfgAccepts_ok_iff (cfg ws : String) :
    (cfgAccepts cfg ws).1 = .ok ↔ ∃ G eps, CfgText.parseSimpleCfg cfg.toList = .ok (G, eps) ∧
      ∀ w, w ∈ CheckText.parseWordList ws → G.accepts w = .ok true := by
  rw [C12h.cfgAccepts_eq_check]
  exact C12h.cfgCheck_ok_iff false cfg ws

/-- every word of the printed failure set is listed and rejected by the membership test -/
theorem cfgAccepts_failures_genuine (cfg ws : String) (w : List String) (h : w ∈ (cfgAccepts cfg ws).2) :
    ∃ G eps, CfgText.parseSimpleCfg cfg.toList = .ok (G, eps) ∧ w ∈ CheckText.parseWordList ws ∧
      G.accepts w = .ok false := by
  rw [C12h.cfgAccepts_eq_check] at h
  exact ((C12h.cfgCheck_failures_iff false cfg ws w).mp h).2

/-- … and the failure set is complete: unless the checker raises, every listed word that is rejected is printed -/
theorem cfgAccepts_failures_iff (cfg ws : String) (w : List String) :
    w ∈ (cfgAccepts cfg ws).2 ↔ (cfgAccepts cfg ws).1 ≠ .error ∧
      ∃ G eps, CfgText.parseSimpleCfg cfg.toList = .ok (G, eps) ∧ w ∈ CheckText.parseWordList ws ∧
        G.accepts w = .ok false := by
  rw [C12h.cfgAccepts_eq_check]
  exact C12h.cfgCheck_failures_iff false cfg ws w

example : cfgAccepts "S -> aSb | ε" "ab aabb ε" = (.ok, []) := by
  rw [cfgAccepts, C12e.exAnBn_parse]; decide +kernel
example : cfgAccepts "S -> aSb | ε" "ab aab ba" = (.feedback, [["a", "a", "b"], ["b", "a"]]) := by
  rw [cfgAccepts, C12e.exAnBn_parse]; decide +kernel
example : cfgAccepts "S -> " "ab" = (.error, []) := by decide +kernel

/-- `check_cfg_rejects`: OK iff the grammar parses and the membership test answers `False` on every listed word -/
theorem cfgRejects_ok_iff (cfg ws : String) :
    (cfgRejects cfg ws).1 = .ok ↔ ∃ G eps, CfgText.parseSimpleCfg cfg.toList = .ok (G, eps) ∧
      ∀ w, w ∈ CheckText.parseWordList ws → G.accepts w = .ok false := by
  rw [C12h.cfgRejects_eq_check]
  exact C12h.cfgCheck_ok_iff true cfg ws

theorem cfgRejects_failures_genuine (cfg ws : String) (w : List String) (h : w ∈ (cfgRejects cfg ws).2) :
    ∃ G eps, CfgText.parseSimpleCfg cfg.toList = .ok (G, eps) ∧ w ∈ CheckText.parseWordList ws ∧
      G.accepts w = .ok true := by
  rw [C12h.cfgRejects_eq_check] at h
  exact ((C12h.cfgCheck_failures_iff true cfg ws w).mp h).2

theorem cfgRejects_failures_iff (cfg ws : String) (w : List String) :
    w ∈ (cfgRejects cfg ws).2 ↔ (cfgRejects cfg ws).1 ≠ .error ∧
      ∃ G eps, CfgText.parseSimpleCfg cfg.toList = .ok (G, eps) ∧ w ∈ CheckText.parseWordList ws ∧
        G.accepts w = .ok true := by
  rw [C12h.cfgRejects_eq_check]
  exact C12h.cfgCheck_failures_iff true cfg ws w

example : cfgRejects "S -> aSb | ε" "a ba" = (.ok, []) := by
  rw [cfgRejects, C12e.exAnBn_parse]; decide +kernel
example : cfgRejects "S -> aSb | ε" "a ab" = (.feedback, [["a", "b"]]) := by
  rw [cfgRejects, C12e.exAnBn_parse]; decide +kernel

/-- the verdict and the failure set are consistent: `OK` iff the checker does not raise and nothing is printed -/
theorem cfgAccepts_ok_iff_no_failures (cfg ws : String) :
    (cfgAccepts cfg ws).1 = .ok ↔ (cfgAccepts cfg ws).1 ≠ .error ∧ (cfgAccepts cfg ws).2 = [] := by
  rw [C12h.cfgAccepts_eq_check]
  exact C12h.cfgCheck_ok_iff_nil false cfg ws

theorem cfgRejects_ok_iff_no_failures (cfg ws : String) :
    (cfgRejects cfg ws).1 = .ok ↔ (cfgRejects cfg ws).1 ≠ .error ∧ (cfgRejects cfg ws).2 = [] := by
  rw [C12h.cfgRejects_eq_check]
  exact C12h.cfgCheck_ok_iff_nil true cfg ws

/-- `Error: …` (for `check_cfg_rejects`: the call raises) exactly when the grammar does not parse or the membership test
    raises on a listed word -/
theorem cfgAccepts_error_iff (cfg ws : String) :
    (cfgAccepts cfg ws).1 = .error ↔ (∃ e, CfgText.parseSimpleCfg cfg.toList = .error e) ∨
      ∃ G eps, CfgText.parseSimpleCfg cfg.toList = .ok (G, eps) ∧
        ∃ w, w ∈ CheckText.parseWordList ws ∧ ∃ e, G.accepts w = .error e := by
  rw [C12h.cfgAccepts_eq_check]
  exact C12h.cfgCheck_error_iff false cfg ws

theorem cfgRejects_error_iff (cfg ws : String) :
    (cfgRejects cfg ws).1 = .error ↔ (∃ e, CfgText.parseSimpleCfg cfg.toList = .error e) ∨
      ∃ G eps, CfgText.parseSimpleCfg cfg.toList = .ok (G, eps) ∧
        ∃ w, w ∈ CheckText.parseWordList ws ∧ ∃ e, G.accepts w = .error e := by
  rw [C12h.cfgRejects_eq_check]
  exact C12h.cfgCheck_error_iff true cfg ws

/-- in terms of the language, under the side condition of `cfgAcceptsRejects_text_sound` (the membership test is then
    total and decides `G.Lang`): OK ⇒ every listed word is generated / no listed word is generated -/
theorem cfgAccepts_ok_lang (cfg ws : String) (h : (cfgAccepts cfg ws).1 = .ok) (hs : CfgSide cfg) :
    ∃ G eps, CfgText.parseSimpleCfg cfg.toList = .ok (G, eps) ∧ ∀ w, w ∈ CheckText.parseWordList ws → G.Lang w := by
  obtain ⟨G, eps, hp, hall⟩ := (cfgAccepts_ok_iff cfg ws).mp h
  obtain ⟨v, sv, _⟩ := parseSimpleCfg_ok_valid _ G eps hp
  exact ⟨G, eps, hp, fun w hw => (cfg_accepts_true_iff v sv (hs G eps hp) w).mp (hall w hw)⟩

theorem cfgRejects_ok_lang (cfg ws : String) (h : (cfgRejects cfg ws).1 = .ok) (hs : CfgSide cfg) :
    ∃ G eps, CfgText.parseSimpleCfg cfg.toList = .ok (G, eps) ∧ ∀ w, w ∈ CheckText.parseWordList ws → ¬ G.Lang w := by
  obtain ⟨G, eps, hp, hall⟩ := (cfgRejects_ok_iff cfg ws).mp h
  obtain ⟨v, sv, _⟩ := parseSimpleCfg_ok_valid _ G eps hp
  exact ⟨G, eps, hp, fun w hw => (cfg_accepts_false_iff v sv (hs G eps hp) w).mp (hall w hw)⟩

-- `S → aSb | ε`: the listed words are generated / not generated
example : ∃ G eps, CfgText.parseSimpleCfg "S -> aSb | ε".toList = .ok (G, eps) ∧ G.Lang ["a", "a", "b", "b"] ∧
    ¬ G.Lang ["b", "a"] := by
  obtain ⟨G, eps, hp, h1⟩ := cfgAccepts_ok_lang "S -> aSb | ε" "ab aabb ε"
    (by rw [cfgAccepts, C12e.exAnBn_parse]; decide +kernel) C12h.exAnBn_side
  obtain ⟨G', eps', hp', h2⟩ := cfgRejects_ok_lang "S -> aSb | ε" "a ba"
    (by rw [cfgRejects, C12e.exAnBn_parse]; decide +kernel) C12h.exAnBn_side
  rw [hp] at hp'
  cases hp'
  exact ⟨G, eps, hp, h1 _ (by decide +kernel), h2 _ (by decide +kernel)⟩

#print axioms langOfText_dfa_exact
#print axioms langOfText_nfa_exact
#print axioms langOfText_pda_sound
#print axioms langOfText_pda_exact
#print axioms langOfText_tm_exact
#print axioms sem_tm_iff_halts
#print axioms langOfText_cfg_exact
#print axioms langOfText_regexp_exact
#print axioms langOfText_exact
#print axioms languageWords_text_sound
#print axioms languageWords_text_ok_iff
#print axioms languageWords_text_error_iff
#print axioms languageWords_text_sound_sem
#print axioms pda_language_words_text_sound
#print axioms tm_language_words_text_sound
#print axioms regexp_language_words_text_sound
#print axioms languageFile_text_sound
#print axioms languageFile_text_ok_iff
#print axioms languageFile_text_error_iff
#print axioms languageFile_text_sound_exact
#print axioms languageFile_text_sound_sem
#print axioms languageFile_text_sound_half
#print axioms languageWords_dfa_eq
#print axioms languageWords_nfa_eq
#print axioms languageWords_cfg_eq
#print axioms languageWords_cfg_eq_any
#print axioms languageFile_dfa_dfa_eq
#print axioms languageFile_nfa_nfa_eq
#print axioms languageWordsLangs_dfa_eq
#print axioms languageWordsLangs_nfa_eq
#print axioms languageWordsLangs_cfg_eq
#print axioms languageFileLangs_dfa_dfa_eq
#print axioms languageFileLangs_nfa_nfa_eq
#print axioms languageWords_cex_genuine
#print axioms languageWords_cex_genuine_sem
#print axioms languageFile_cex_genuine
#print axioms languageFile_cex_genuine_sem
#print axioms languageWords_ok_no_report
#print axioms languageFile_ok_no_report
#print axioms numberOfNfaStates_ok_iff
#print axioms numberOfNfaStates_feedback_iff
#print axioms numberOfNfaStates_error_iff
#print axioms cfgAccepts_ok_iff
#print axioms cfgAccepts_failures_genuine
#print axioms cfgAccepts_failures_iff
#print axioms cfgRejects_ok_iff
#print axioms cfgRejects_failures_genuine
#print axioms cfgRejects_failures_iff
#print axioms cfgAccepts_ok_iff_no_failures
#print axioms cfgRejects_ok_iff_no_failures
#print axioms cfgAccepts_error_iff
#print axioms cfgRejects_error_iff
#print axioms cfgAccepts_ok_lang
#print axioms cfgRejects_ok_lang

end Gamba
