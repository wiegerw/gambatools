/-
  Gamba.Props.C04n — property C04 for the automata the three minimisers REALLY return, i.e. with every
  Myhill–Nerode class named by `print_state_set` (`M.named = M.mapStates printStateSet`).

  For a DFA whose state names are CLEAN (non-empty, no comma) the naming is injective on the classes, so the
  named automaton is valid, has the same alphabet and language, pairwise distinguishable states, and as many
  states as there are classes (`minimize_named_clean`, `quotient_named_clean`, `hopcroft_named_clean`).

  The hypothesis on the names is needed: with states `a ≡ b` and a third state called `"a,b"` the classes
  `{a, b}` and `{"a,b"}` are both named `"{a,b}"`, and the returned automaton accepts a different language
  (`minimize_name_collision_witness`, the recorded defect `minimize-class-name-collision`).
-/
import Gamba.Proofs.C04n
import Gamba.Props.C04a
import Gamba.Props.C04b
import Gamba.Props.C04c
namespace Gamba

/-- `dfa_minimize` with `print_state_set` names, clean state names -/
theorem minimize_named_clean (D : DFA String String) (hv : D.valid = true) (hQ : D.Q.Nodup)
    (hn : ∀ q, q ∈ D.Q → CleanName q) :
    ∃ M, D.minimizeTable = .ok M ∧ M.named.valid = true ∧ M.named.Sigma = D.Sigma ∧
      (∀ w, (∀ a, a ∈ w → a ∈ D.Sigma) → (M.named.Accepts w ↔ D.Accepts w)) ∧
      (∀ p q, p ∈ M.named.Q → q ∈ M.named.Q → p ≠ q → M.named.Dist p q) ∧
      (dedup M.named.Q).length = (dedup M.Q).length := by
  obtain ⟨M, hM, hMv, hS, hN, hL, hD⟩ := minimizeTable_spec D hv hQ
  exact ⟨M, hM, D.named_of_nerode hn M hMv hS hN hL hD⟩

/-- non-vacuity: `exC04` has clean names; its named minimal automaton has three states -/
example : exC04.valid = true ∧ exC04.Q.Nodup ∧ (∀ q, q ∈ exC04.Q → CleanName q) :=
  ⟨exC04_valid, exC04_nodup, by decide +kernel⟩

example : ∃ M, exC04.minimizeTable = .ok M ∧ M.named.Q = ["{q0}", "{q1,q2}", "{q3}"] ∧
    M.named.q0 = "{q0}" ∧ M.named.F = ["{q3}"] ∧ M.named.valid = true ∧
    (M.named.Accepts ["a", "b"] ↔ exC04.Accepts ["a", "b"]) := by
  obtain ⟨M, h1, h2, _, h4, _⟩ := minimize_named_clean exC04 exC04_valid exC04_nodup (by decide +kernel)
  have hM : exC04.minimizeTable = .ok (exC04.ofBlocks [["q0"], ["q1", "q2"], ["q3"]]) := by decide +kernel
  rw [h1] at hM
  cases hM
  refine ⟨_, h1, ?_, ?_, ?_, h2, h4 _ (by decide +kernel)⟩ <;> rw [DFA.named, printStateSet_eq_isort] <;> decide +kernel

/-- `dfa_quotient` with `print_state_set` names, clean state names -/
theorem quotient_named_clean (D : DFA String String) (hv : D.valid = true) (hQ : D.Q.Nodup)
    (hn : ∀ q, q ∈ D.Q → CleanName q) :
    ∃ M, D.quotient = .ok M ∧ M.named.valid = true ∧ M.named.Sigma = D.Sigma ∧
      (∀ w, (∀ a, a ∈ w → a ∈ D.Sigma) → (M.named.Accepts w ↔ D.Accepts w)) ∧
      (∀ p q, p ∈ M.named.Q → q ∈ M.named.Q → p ≠ q → M.named.Dist p q) ∧
      (dedup M.named.Q).length = (dedup M.Q).length := by
  obtain ⟨M, hM, hMv, hS, hN, hL, hD⟩ := quotient_spec D hv hQ
  exact ⟨M, hM, D.named_of_nerode hn M hMv hS hN hL hD⟩

example : exC04b.valid = true ∧ exC04b.Q.Nodup ∧ (∀ q, q ∈ exC04b.Q → CleanName q) :=
  by decide +kernel

example : exC04bNoF.valid = true ∧ exC04bNoF.Q.Nodup ∧ (∀ q, q ∈ exC04bNoF.Q → CleanName q) :=
  by decide +kernel

/-- the conclusion instantiated on `exC04b`: three named states, none merged -/
example : ∃ M, exC04b.quotient = .ok M ∧ M.named.valid = true ∧ (dedup M.named.Q).length = 3 := by
  obtain ⟨M, h1, h2, _, _, _, h6⟩ := quotient_named_clean exC04b (by decide +kernel) (by decide +kernel) (by decide +kernel)
  have hM : exC04b.quotient = .ok (exC04b.ofBlocks [["3"], ["0"], ["1", "2"]]) := by decide +kernel
  rw [h1] at hM
  cases hM
  exact ⟨_, h1, h2, h6.trans (by decide +kernel)⟩

/-- `dfa_hopfcroft` with `print_state_set` names, clean state names; every pop order -/
theorem hopcroft_named_clean (D : DFA String String) (hv : D.valid = true) (hQ : D.Q.Nodup)
    (hn : ∀ q, q ∈ D.Q → CleanName q) (s : Sched) (M : DFA (List String) String) (hM : D.hopcroft s = .ok M) :
    M.named.valid = true ∧ M.named.Sigma = D.Sigma ∧
      (∀ w, (∀ a, a ∈ w → a ∈ D.Sigma) → (M.named.Accepts w ↔ D.Accepts w)) ∧
      (∀ p q, p ∈ M.named.Q → q ∈ M.named.Q → p ≠ q → M.named.Dist p q) ∧
      (dedup M.named.Q).length = (dedup M.Q).length := by
  obtain ⟨hMv, hS, hN, hL, hD⟩ := hopcroft_spec D hv hQ s M hM
  exact D.named_of_nerode hn M hMv hS hN hL hD

example : C04c.exD.valid = true ∧ C04c.exD.Q.Nodup ∧ (∀ q, q ∈ C04c.exD.Q → CleanName q) :=
  by decide +kernel

/-- the hypothesis `D.hopcroft s = .ok M` is satisfiable for every pop order, and the conclusion then applies -/
example (s : Sched) : ∃ M, C04c.exD.hopcroft s = .ok M ∧ M.named.valid = true ∧
    (∀ w, (∀ a, a ∈ w → a ∈ C04c.exD.Sigma) → (M.named.Accepts w ↔ C04c.exD.Accepts w)) := by
  obtain ⟨M, hM⟩ := hopcroft_terminates C04c.exD (by decide +kernel) (by decide +kernel) s
  obtain ⟨h1, _, h3, _⟩ := hopcroft_named_clean C04c.exD (by decide +kernel) (by decide +kernel) (by decide +kernel) s M hM
  exact ⟨M, hM, h1, h3⟩

/-- the recorded defect `minimize-class-name-collision`, formally: a valid DFA with states `a`, `b` (equivalent),
    `"a,b"` and `c` whose NAMED minimal automaton is not equivalent.  The classes `{a, b}` and `{"a,b"}` are both
    named `"{a,b}"`; the word `b a` leads `D` to the rejecting state `a`, but the named automaton stays in the
    accepting state `"{a,b}"`. -/
theorem minimize_name_collision_witness :
    ∃ (D : DFA String String) (M : DFA (List String) String) (w : List String),
      D.valid = true ∧ D.Q.Nodup ∧ D.quotient = .ok M ∧ (∀ a, a ∈ w → a ∈ D.Sigma) ∧
      ¬ (M.named.Accepts w ↔ D.Accepts w) := by
  refine ⟨C04n.badD, C04n.badM, ["b", "a"], C04n.badD_valid, C04n.badD_nodup, C04n.badD_quotient, by decide, ?_⟩
  rw [C04n.badM_named]
  simp only [DFA.Accepts_iff_accepts]
  decide +kernel

/-- the witness in detail: only the name `"a,b"` is not clean; the structured quotient is the correct minimal
    automaton (three classes), two of its classes print alike, and the named automaton — still a valid DFA — has
    two distinct states only -/
example : ¬ (∀ q, q ∈ C04n.badD.Q → CleanName q) ∧ CleanName "a" ∧ CleanName "b" ∧ CleanName "c" ∧
    C04n.badM.Q = [["a,b"], ["a", "b"], ["c"]] ∧ C04n.badM.valid = true ∧
    printStateSet ["a,b"] = printStateSet ["a", "b"] ∧
    ¬ (∀ B C, B ∈ C04n.badM.Q → C ∈ C04n.badM.Q → printStateSet B = printStateSet C → B = C) ∧
    C04n.badM.named.Q = ["{a,b}", "{a,b}", "{c}"] ∧ C04n.badM.named.valid = true ∧
    (dedup C04n.badM.named.Q).length = 2 ∧ (dedup C04n.badM.Q).length = 3 ∧
    C04n.badM.named.accepts ["b", "a"] = .ok true ∧ C04n.badD.accepts ["b", "a"] = .ok false := by
  have hnames : printStateSet ["a,b"] = printStateSet ["a", "b"] := by rw [printStateSet_eq_isort]; decide +kernel
  rw [C04n.badM_named]
  refine ⟨fun h => ?_, by decide +kernel, by decide +kernel, by decide +kernel, rfl, by decide +kernel, hnames, fun h => ?_, rfl,
    C04n.badNamed_valid, by decide +kernel, by decide +kernel, by decide +kernel, by decide +kernel⟩
  · exact absurd (h "a,b" (by decide +kernel)) (by decide +kernel)
  · exact absurd (h ["a,b"] ["a", "b"] (by decide +kernel) (by decide +kernel) hnames) (by decide +kernel)

/-- the other two minimisers find the same three classes on the witness (in another order), so their named
    results merge `{a, b}` and `{"a,b"}` in the same way -/
example : (C04n.badD.minimizeTable).toOption.map (·.Q) = some [["a", "b"], ["a,b"], ["c"]] ∧
    (C04n.badD.hopcroft []).toOption.map (·.Q) = some [["a,b"], ["c"], ["a", "b"]] := by decide +kernel

#print axioms minimize_named_clean
#print axioms quotient_named_clean
#print axioms hopcroft_named_clean
#print axioms minimize_name_collision_witness

end Gamba
