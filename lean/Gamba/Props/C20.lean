/-
  Gamba.Props.C20 — the two DFA isomorphism tests `dfa_isomorphic1` (worklist with a matching and its
  inverse) and `dfa_isomorphic` (matching matrix), as repaired, terminate within their fuel and answer
  `True` exactly when the reachable parts of the two (valid, same-alphabet) DFAs are isomorphic —
  for every exploration order (`Sched`).  Consequences: symmetry, language equality, invariance under
  injective renaming, agreement of the two routines.
-/
import Gamba.Proofs.C20
import Gamba.Proofs.DecEq
import Gamba.Proofs.C14a
namespace Gamba
variable {σ σ₂ τ : Type} [DecidableEq σ] [DecidableEq σ₂] [DecidableEq τ]

open C20

/-- `dfa_isomorphic1` terminates (no fuel error) and decides isomorphism of the reachable parts -/
theorem isomorphic1_iff (D1 : DFA σ τ) (D2 : DFA σ₂ τ) (h1 : D1.valid = true) (h2 : D2.valid = true)
    (hS : ∀ a, a ∈ D1.Sigma ↔ a ∈ D2.Sigma) (s : Sched) :
    ∃ b, D1.isomorphic1 D2 s = .ok b ∧ (b = true ↔ D1.Iso D2) := by
  obtain ⟨b, hb, hiff⟩ := DFA.isomorphic1_RChar D1 D2 h1 h2 hS s
  exact ⟨b, hb, hiff.trans (DFA.Iso_iff_RChar D1 D2 h1 h2 hS).symm⟩

/-- hypotheses hold on concrete automata; both answers occur, under different exploration orders -/
example : exA.valid = true ∧ exB.valid = true ∧ (∀ a, a ∈ exA.Sigma ↔ a ∈ exB.Sigma) ∧
    exA.isomorphic1 exB [] = .ok true ∧ exA.isomorphic1 exB [1, 0, 1] = .ok true ∧
    exCyc.valid = true ∧ exOne.valid = true ∧ (∀ a, a ∈ exCyc.Sigma ↔ a ∈ exOne.Sigma) ∧
    exCyc.isomorphic1 exOne [] = .ok false ∧ exOne.isomorphic1 exCyc [3] = .ok false :=
  ⟨exA_valid, exB_valid, exAB_sigma, by decide +kernel, by decide +kernel, exCyc_valid, exOne_valid, exCycOne_sigma, by decide +kernel, by decide +kernel⟩

/-- `dfa_isomorphic` terminates (no fuel error) and decides isomorphism of the reachable parts -/
theorem isomorphic_iff (D1 : DFA σ τ) (D2 : DFA σ₂ τ) (h1 : D1.valid = true) (h2 : D2.valid = true)
    (hS : ∀ a, a ∈ D1.Sigma ↔ a ∈ D2.Sigma) (s : Sched) :
    ∃ b, D1.isomorphic D2 s = .ok b ∧ (b = true ↔ D1.Iso D2) := by
  obtain ⟨b, hb, hiff⟩ := DFA.isomorphic_RChar D1 D2 h1 h2 hS s
  exact ⟨b, hb, hiff.trans (DFA.Iso_iff_RChar D1 D2 h1 h2 hS).symm⟩

example : exA.valid = true ∧ exB.valid = true ∧ (∀ a, a ∈ exA.Sigma ↔ a ∈ exB.Sigma) ∧
    exA.isomorphic exB [] = .ok true ∧ exB.isomorphic exA [2, 1] = .ok true ∧
    exCyc.valid = true ∧ exOne.valid = true ∧ (∀ a, a ∈ exCyc.Sigma ↔ a ∈ exOne.Sigma) ∧
    exCyc.isomorphic exOne [] = .ok false ∧ exOne.isomorphic exCyc [1] = .ok false :=
  ⟨exA_valid, exB_valid, exAB_sigma, by decide +kernel, by decide +kernel, exCyc_valid, exOne_valid, exCycOne_sigma, by decide +kernel, by decide +kernel⟩

/-- equal languages (both accept `a*`) do not make the 2-cycle and the 1-loop isomorphic (`exCycOne_not_iso`) -/
example (w : List String) (hw : ∀ a, a ∈ w → a ∈ exCyc.Sigma) : exCyc.Accepts w ∧ exOne.Accepts w :=
  ⟨(DFA.Accepts_iff_runT exCyc_valid hw).mpr (DFA.runT_mem exCyc_valid (DFA.valid_q0 exCyc_valid) hw),
   (DFA.Accepts_iff_runT exOne_valid hw).mpr (DFA.runT_mem exOne_valid (DFA.valid_q0 exOne_valid) hw)⟩

theorem iso_symm (D1 : DFA σ τ) (D2 : DFA σ₂ τ) (h1 : D1.valid = true) (h2 : D2.valid = true)
    (hS : ∀ a, a ∈ D1.Sigma ↔ a ∈ D2.Sigma) : D1.Iso D2 ↔ D2.Iso D1 := by
  have hS' : ∀ a, a ∈ D2.Sigma ↔ a ∈ D1.Sigma := fun a => (hS a).symm
  rw [DFA.Iso_iff_RChar D1 D2 h1 h2 hS, DFA.Iso_iff_RChar D2 D1 h2 h1 hS']
  exact ⟨DFA.RChar_symm hS, DFA.RChar_symm hS'⟩

example : exA.valid = true ∧ exB.valid = true ∧ (∀ a, a ∈ exA.Sigma ↔ a ∈ exB.Sigma) ∧
    exA.Iso exB ∧ exB.Iso exA ∧ ¬ exCyc.Iso exOne ∧ ¬ exOne.Iso exCyc :=
  ⟨exA_valid, exB_valid, exAB_sigma, exAB_iso,
   (iso_symm exA exB exA_valid exB_valid exAB_sigma).mp exAB_iso, exCycOne_not_iso,
   fun h => exCycOne_not_iso ((iso_symm exCyc exOne exCyc_valid exOne_valid exCycOne_sigma).mpr h)⟩

theorem iso_lang (D1 : DFA σ τ) (D2 : DFA σ₂ τ) (h1 : D1.valid = true) (h2 : D2.valid = true)
    (hS : ∀ a, a ∈ D1.Sigma ↔ a ∈ D2.Sigma) (h : D1.Iso D2) (w : List τ) (hw : ∀ a, a ∈ w → a ∈ D1.Sigma) :
    D1.Accepts w ↔ D2.Accepts w := by
  have hR := (DFA.Iso_iff_RChar D1 D2 h1 h2 hS).mp h
  rw [DFA.Accepts_iff_runT h1 hw, DFA.Accepts_iff_runT h2 (fun a ha => (hS a).mp (hw a ha))]
  exact hR.2.2 _ _ ⟨w, hw, rfl, rfl⟩

example : exA.valid = true ∧ exB.valid = true ∧ (∀ a, a ∈ exA.Sigma ↔ a ∈ exB.Sigma) ∧ exA.Iso exB ∧
    (∀ a, a ∈ ["b", "a", "a"] → a ∈ exA.Sigma) ∧ exA.acceptsT ["b", "a", "a"] = true ∧
    exB.acceptsT ["b", "a", "a"] = true :=
  ⟨exA_valid, exB_valid, exAB_sigma, exAB_iso, by decide +kernel, by decide +kernel, by decide +kernel⟩

/-- a DFA is isomorphic to any injectively renamed copy of itself -/
theorem iso_rename {σ' : Type} [DecidableEq σ'] (f : σ → σ') (D : DFA σ τ) (h : D.valid = true)
    (hf : ∀ p q, p ∈ D.Q → q ∈ D.Q → f p = f q → p = q) : D.Iso (D.mapStates f) := by
  have hv' := DFA.mapStates_valid' f D h hf
  have hS : ∀ a, a ∈ D.Sigma ↔ a ∈ (D.mapStates f).Sigma := fun _ => Iff.rfl
  rw [DFA.Iso_iff_RChar D _ h hv' hS]
  have key : ∀ p q, D.JR (D.mapStates f) p q → q = f p ∧ p ∈ D.Q := by
    rintro p q ⟨w, hw, rfl, rfl⟩
    exact ⟨DFA.mapStates_runT f D h hf (DFA.valid_q0 h) w hw, DFA.runT_mem h (DFA.valid_q0 h) hw⟩
  refine ⟨?_, ?_, ?_⟩
  · intro p q q' hq hq'
    rw [(key p q hq).1, (key p q' hq').1]
  · intro p p' q hp hp'
    apply hf p p' (key p q hp).2 (key p' q hp').2
    rw [← (key p q hp).1, ← (key p' q hp').1]
  · intro p q hp
    obtain ⟨rfl, hpQ⟩ := key p q hp
    exact (DFA.mapStates_mem_F f D h hf hpQ).symm

example : exA.valid = true ∧
    (∀ p q : String, p ∈ exA.Q → q ∈ exA.Q → p ++ "'" = q ++ "'" → p = q) ∧
    (exA.mapStates (· ++ "'")).Q = ["p'", "q'"] ∧
    exA.isomorphic1 (exA.mapStates (· ++ "'")) [] = .ok true :=
  ⟨exA_valid, exRename_inj, by decide +kernel, by decide +kernel⟩

/-- the two routines agree with each other and do not depend on the exploration order or the argument order -/
theorem isomorphic_agree (D1 : DFA σ τ) (D2 : DFA σ₂ τ) (h1 : D1.valid = true) (h2 : D2.valid = true)
    (hS : ∀ a, a ∈ D1.Sigma ↔ a ∈ D2.Sigma) (s s' : Sched) :
    ∃ b, D1.isomorphic1 D2 s = .ok b ∧ D1.isomorphic D2 s' = .ok b ∧ D2.isomorphic1 D1 s' = .ok b ∧ D2.isomorphic D1 s = .ok b := by
  have hS' : ∀ a, a ∈ D2.Sigma ↔ a ∈ D1.Sigma := fun a => (hS a).symm
  have hsym := iso_symm D1 D2 h1 h2 hS
  obtain ⟨b1, e1, i1⟩ := isomorphic1_iff D1 D2 h1 h2 hS s
  obtain ⟨b2, e2, i2⟩ := isomorphic_iff D1 D2 h1 h2 hS s'
  obtain ⟨b3, e3, i3⟩ := isomorphic1_iff D2 D1 h2 h1 hS' s'
  obtain ⟨b4, e4, i4⟩ := isomorphic_iff D2 D1 h2 h1 hS' s
  have h12 : b2 = b1 := Bool.eq_iff_iff.mpr (i2.trans i1.symm)
  have h13 : b3 = b1 := Bool.eq_iff_iff.mpr (i3.trans (hsym.symm.trans i1.symm))
  have h14 : b4 = b1 := Bool.eq_iff_iff.mpr (i4.trans (hsym.symm.trans i1.symm))
  subst h12 h13 h14
  exact ⟨_, e1, e2, e3, e4⟩

example : exA.valid = true ∧ exB.valid = true ∧ (∀ a, a ∈ exA.Sigma ↔ a ∈ exB.Sigma) ∧
    exA.isomorphic1 exB [0, 1] = .ok true ∧ exA.isomorphic exB [4] = .ok true ∧
    exB.isomorphic1 exA [4] = .ok true ∧ exB.isomorphic exA [0, 1] = .ok true :=
  ⟨exA_valid, exB_valid, exAB_sigma, by decide +kernel, by decide +kernel, by decide +kernel, by decide +kernel⟩

#print axioms isomorphic1_iff
#print axioms isomorphic_iff
#print axioms iso_symm
#print axioms iso_lang
#print axioms iso_rename
#print axioms isomorphic_agree

end Gamba
