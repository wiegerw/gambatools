/-
  Gamba.Props.C18b — property C18 without the restriction `N2.eps = N1.eps`:
  `nfa_union` and `nfa_concatenation` of operands whose ε symbols may differ.  The result uses the FIRST
  operand's ε; the second operand's ε-transitions are re-keyed to it (`N2.rekey N1.eps`).  The only
  requirement is that the first operand's ε is not an ordinary symbol of the second operand
  (`N1.eps ∉ N2.Sigma`); when it is, the constructor's validity check fails (`…_eps_clash`).

  As in `Gamba.Props.C18` the hypotheses `(N.delta.map (·.1)).Nodup` ("δ is a Python dict") are needed for
  the language clauses.
-/
import Gamba.Proofs.C18b
import Gamba.Props.C18
namespace Gamba
variable {σ τ : Type} [DecidableEq σ] [DecidableEq τ]

open C18

theorem nfa_union_spec_eps (N1 N2 : NFA σ τ) (q0 : σ) (h1 : N1.valid = true) (h2 : N2.valid = true)
    (hk1 : (N1.delta.map (·.1)).Nodup) (hk2 : (N2.delta.map (·.1)).Nodup)
    (hd : ∀ q, q ∈ N1.Q → q ∉ N2.Q) (hq1 : q0 ∉ N1.Q) (hq2 : q0 ∉ N2.Q) (he : N1.eps ∉ N2.Sigma) :
    ∃ N, N1.union N2 q0 = .ok N ∧ N.valid = true ∧ N.eps = N1.eps ∧
      (∀ a, a ∈ N.Sigma ↔ a ∈ N1.Sigma ∨ a ∈ N2.Sigma) ∧
      ∀ w, N.Accepts w ↔ (N1.Accepts w ∨ N2.Accepts w) := by
  obtain ⟨N, hN, hv, hε, hS, hL⟩ := nfa_union_spec N1 (N2.withEps N1.eps) q0 h1
    (NFA.withEps_valid h2 he) hk1 (NFA.withEps_keys_nodup h2 he hk2) hd hq1 hq2 rfl
  rw [NFA.union_withEps] at hN
  exact ⟨N, hN, hv, hε, hS, fun w => (hL w).trans (or_congr Iff.rfl (NFA.withEps_Accepts h2 he w))⟩

/-- `nfa_union_spec` is the case of equal ε symbols: they satisfy `N1.eps ∉ N2.Sigma` by validity -/
theorem nfa_union_spec_of_eq (N1 N2 : NFA σ τ) (q0 : σ) (h1 : N1.valid = true) (h2 : N2.valid = true)
    (hk1 : (N1.delta.map (·.1)).Nodup) (hk2 : (N2.delta.map (·.1)).Nodup)
    (hd : ∀ q, q ∈ N1.Q → q ∉ N2.Q) (hq1 : q0 ∉ N1.Q) (hq2 : q0 ∉ N2.Q) (he : N2.eps = N1.eps) :
    ∃ N, N1.union N2 q0 = .ok N ∧ N.valid = true ∧ N.eps = N1.eps ∧
      (∀ a, a ∈ N.Sigma ↔ a ∈ N1.Sigma ∨ a ∈ N2.Sigma) ∧
      ∀ w, N.Accepts w ↔ (N1.Accepts w ∨ N2.Accepts w) :=
  nfa_union_spec_eps N1 N2 q0 h1 h2 hk1 hk2 hd hq1 hq2 (he ▸ NFA.valid_eps h2)

/-- the hypotheses hold for two concrete operands with DIFFERENT ε symbols (`"eps"` / `"lambda"`),
    the second one having an ε-move -/
example : exA.valid = true ∧ exC.valid = true ∧ (exA.delta.map (·.1)).Nodup ∧ (exC.delta.map (·.1)).Nodup ∧
    (∀ q, q ∈ exA.Q → q ∉ exC.Q) ∧ "s" ∉ exA.Q ∧ "s" ∉ exC.Q ∧ exA.eps ∉ exC.Sigma ∧ exC.eps ≠ exA.eps ∧
    exC.Succ "c1" exC.eps "c0" :=
  ⟨by decide +kernel, by decide +kernel, by decide +kernel, by decide +kernel, sdisjoint_iff.mp (by decide +kernel), by decide +kernel, by decide +kernel, by decide +kernel,
   by decide +kernel, ⟨["c0"], by decide +kernel, by decide +kernel⟩⟩

example : exA.union exC "s" = .ok
    { Q := ["a0", "a1", "c0", "c1", "s"], Sigma := ["a", "c"],
      delta := [(("a0", "a"), ["a1"]), (("c0", "c"), ["c1"]), (("c1", "eps"), ["c0"]),
                (("s", "eps"), ["a0", "c0"])],
      q0 := "s", F := ["a1", "c1"], eps := "eps" } := by decide +kernel

/-- the operands swapped: the result carries the ε symbol of the first operand -/
example : exC.union exA "s" = .ok
    { Q := ["c0", "c1", "a0", "a1", "s"], Sigma := ["c", "a"],
      delta := [(("c0", "c"), ["c1"]), (("c1", "lambda"), ["c0"]), (("a0", "a"), ["a1"]),
                (("s", "lambda"), ["c0", "a0"])],
      q0 := "s", F := ["c1", "a1"], eps := "lambda" } := by decide +kernel

example : ∃ N, exA.union exC "s" = .ok N ∧ N.Accepts ["c", "c"] ∧ N.Accepts ["a"] := by
  obtain ⟨N, hN, _, _, _, hL⟩ := nfa_union_spec_eps exA exC "s" (by decide +kernel) (by decide +kernel) (by decide +kernel)
    (by decide +kernel) (sdisjoint_iff.mp (by decide +kernel)) (by decide +kernel) (by decide +kernel) (by decide +kernel)
  exact ⟨N, hN, (hL _).mpr (Or.inr exC_accepts), (hL _).mpr (Or.inl exA_accepts)⟩

theorem nfa_concat_spec_eps (N1 N2 : NFA σ τ) (h1 : N1.valid = true) (h2 : N2.valid = true)
    (hk1 : (N1.delta.map (·.1)).Nodup) (hk2 : (N2.delta.map (·.1)).Nodup)
    (hd : ∀ q, q ∈ N1.Q → q ∉ N2.Q) (he : N1.eps ∉ N2.Sigma) :
    ∃ N, N1.concat N2 = .ok N ∧ N.valid = true ∧ N.eps = N1.eps ∧
      (∀ a, a ∈ N.Sigma ↔ a ∈ N1.Sigma ∨ a ∈ N2.Sigma) ∧
      ∀ w, N.Accepts w ↔ ∃ u v, w = u ++ v ∧ N1.Accepts u ∧ N2.Accepts v := by
  obtain ⟨N, hN, hv, hε, hS, hL⟩ := nfa_concat_spec N1 (N2.withEps N1.eps) h1
    (NFA.withEps_valid h2 he) hk1 (NFA.withEps_keys_nodup h2 he hk2) hd rfl
  rw [NFA.concat_withEps] at hN
  refine ⟨N, hN, hv, hε, hS, fun w => (hL w).trans ?_⟩
  constructor
  · rintro ⟨u, v, hw, hu, hv'⟩; exact ⟨u, v, hw, hu, (NFA.withEps_Accepts h2 he v).mp hv'⟩
  · rintro ⟨u, v, hw, hu, hv'⟩; exact ⟨u, v, hw, hu, (NFA.withEps_Accepts h2 he v).mpr hv'⟩

theorem nfa_concat_spec_of_eq (N1 N2 : NFA σ τ) (h1 : N1.valid = true) (h2 : N2.valid = true)
    (hk1 : (N1.delta.map (·.1)).Nodup) (hk2 : (N2.delta.map (·.1)).Nodup)
    (hd : ∀ q, q ∈ N1.Q → q ∉ N2.Q) (he : N2.eps = N1.eps) :
    ∃ N, N1.concat N2 = .ok N ∧ N.valid = true ∧ N.eps = N1.eps ∧
      (∀ a, a ∈ N.Sigma ↔ a ∈ N1.Sigma ∨ a ∈ N2.Sigma) ∧
      ∀ w, N.Accepts w ↔ ∃ u v, w = u ++ v ∧ N1.Accepts u ∧ N2.Accepts v :=
  nfa_concat_spec_eps N1 N2 h1 h2 hk1 hk2 hd (he ▸ NFA.valid_eps h2)

example : exA.valid = true ∧ exC.valid = true ∧ (exA.delta.map (·.1)).Nodup ∧ (exC.delta.map (·.1)).Nodup ∧
    (∀ q, q ∈ exA.Q → q ∉ exC.Q) ∧ exA.eps ∉ exC.Sigma ∧ exC.eps ≠ exA.eps :=
  ⟨by decide +kernel, by decide +kernel, by decide +kernel, by decide +kernel, sdisjoint_iff.mp (by decide +kernel), by decide +kernel, by decide +kernel⟩

example : exA.concat exC = .ok
    { Q := ["a0", "a1", "c0", "c1"], Sigma := ["a", "c"],
      delta := [(("a0", "a"), ["a1"]), (("c0", "c"), ["c1"]), (("c1", "eps"), ["c0"]),
                (("a1", "eps"), ["c0"])],
      q0 := "a0", F := ["c1"], eps := "eps" } := by decide +kernel

/-- first operand with the ε-move: its ε-transitions are kept, the second operand has none to re-key -/
example : exC.concat exA = .ok
    { Q := ["c0", "c1", "a0", "a1"], Sigma := ["c", "a"],
      delta := [(("c0", "c"), ["c1"]), (("c1", "lambda"), ["c0", "a0"]), (("a0", "a"), ["a1"])],
      q0 := "c0", F := ["a1"], eps := "lambda" } := by decide +kernel

example : ∃ N, exA.concat exC = .ok N ∧ N.Accepts ["a", "c", "c"] := by
  obtain ⟨N, hN, _, _, _, hL⟩ := nfa_concat_spec_eps exA exC (by decide +kernel) (by decide +kernel) (by decide +kernel) (by decide +kernel)
    (sdisjoint_iff.mp (by decide +kernel)) (by decide +kernel)
  exact ⟨N, hN, (hL _).mpr ⟨["a"], ["c", "c"], rfl, exA_accepts, exC_accepts⟩⟩

/-- when the first operand's ε is an ordinary symbol of the second operand the constructor's validity
    check fails -/
theorem nfa_union_eps_clash (N1 N2 : NFA σ τ) (q0 : σ) (hd : ∀ q, q ∈ N1.Q → q ∉ N2.Q)
    (he : N1.eps ∈ N2.Sigma) : N1.union N2 q0 = .error .assertion := by
  rw [NFA.union_eq, sdisjoint_iff.mpr hd]
  exact NFA.checked_eps_mem (N := N1.unionRaw N2 q0) (mem_sunion.mpr (Or.inr he))

theorem nfa_concat_eps_clash (N1 N2 : NFA σ τ) (hd : ∀ q, q ∈ N1.Q → q ∉ N2.Q)
    (he : N1.eps ∈ N2.Sigma) : N1.concat N2 = .error .assertion := by
  rw [NFA.concat_eq, sdisjoint_iff.mpr hd]
  exact NFA.checked_eps_mem (N := N1.concatRaw N2) (mem_sunion.mpr (Or.inr he))

/-- the hypotheses hold for a concrete pair (`"eps"`, the ε of `exA`, is a letter of `exClash`);
    both operands are valid on their own -/
example : exA.valid = true ∧ exClash.valid = true ∧ (∀ q, q ∈ exA.Q → q ∉ exClash.Q) ∧
    exA.eps ∈ exClash.Sigma :=
  ⟨by decide +kernel, by decide +kernel, sdisjoint_iff.mp (by decide +kernel), by decide +kernel⟩

example : exA.union exClash "s" = .error .assertion := by decide +kernel
example : exA.concat exClash = .error .assertion := by decide +kernel
/-- the clash is one-sided: with the operands swapped the construction succeeds
    (`exClash.eps = "lambda" ∉ exA.Sigma`) -/
example : ∃ N, exClash.union exA "s" = .ok N ∧ N.eps = "lambda" := ⟨_, by rfl, rfl⟩

#print axioms nfa_union_spec_eps
#print axioms nfa_union_spec_of_eq
#print axioms nfa_concat_spec_eps
#print axioms nfa_concat_spec_of_eq
#print axioms nfa_union_eps_clash
#print axioms nfa_concat_eps_clash

end Gamba
