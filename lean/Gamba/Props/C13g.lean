/-
  Gamba.Props.C13g — C13 for the Chomsky-normal-form exercises ON TEXT: the answer key that the library prints
  (`cfg_print_simple (cfg_apply_chomsky G phase start)`) passes the library's own text-level checker
  `cfg_check_chomsky(cfg, key, phase, start, length)` (`CheckText.chomsky`), for every phase and every length bound.

  Route: `parse_print_cfg` (C16e) re-parses the key to a grammar with the same start variable and the same SET of
  productions as `G1 = G.applyChomsky phase start` (other rule order, renumbered alternatives, `V`/`Σ` rebuilt);
  the checker looks at the answer only through the start variable, the set of productions (structural tests) and
  the language.  So the structural tests pass by `C13a.chomskyStruct_self`, and the language test passes because both
  enumerations are exact (`C13g.words_parsed_simple`, from `cfg_words_exact_side`) and the languages agree
  (`CFG.after_applyChomsky`).  Validity and `S ∈ V` of `G` come from the parser (`CfgText.parsedCfg_of`, Proofs/C16e).
  `CfgText.Printable` (Proofs/C16e) is the condition under which `cfg_print_simple` output parses back;
  `C13g.printableB` (Proofs/C13g) is a Boolean test that implies it.
-/
import Gamba.Proofs.C13g
namespace Gamba

/-- Text-level C13 for the Chomsky exercises under the weakest hypotheses: the grammar text parses, the new start
    variable is not a variable of `G`, and the answer key is `Printable` (C16e: single upper-case variables, single
    lower-case terminals, every variable has a rule, the start variable heads the first rule, every terminal occurs).
    The name conditions `hd`, `hd0`, `hd1` of `own_chomsky_ok` FOLLOW from `Printable` (terminals are lower-case
    letters, variables and the names `fresh_variable` can return are not), for phase 0 the start variable is not even
    looked at. -/
theorem own_chomsky_text_ok_printable (cfg : String) (G : CFG) (e : String)
    (hp : CfgText.parseSimpleCfg cfg.toList = .ok (G, e))
    (phase : Nat) (start : String) (len : Nat) (hstart : start ∉ G.V)
    (hpr : CfgText.Printable (G.applyChomsky phase start))
    (key : String) (hk : CfgText.printSimpleCfg (G.applyChomsky phase start) = .ok key) :
    CheckText.chomsky cfg key phase start len = .ok :=
  C13g.chomsky_text_self hp phase start len hstart hpr hk

/-- the corollary of `own_chomsky_text_ok_printable` under the hypotheses of `own_chomsky_ok` (C13a): `hd`, `hd0`, `hd1`
    are not used, they follow from `Printable` -/
theorem own_chomsky_text_ok (cfg : String) (G : CFG) (e : String) (hp : CfgText.parseSimpleCfg cfg.toList = .ok (G, e))
    (phase : Nat) (start : String) (len : Nat) (hstart : start ∉ G.V)
    (hd : ∀ a, a ∈ G.Sigma → a ∉ G.V ∧ a ≠ CFG.freshVariable G.V start)
    (hd0 : ∀ a, a ∈ G.Sigma → a ≠ CFG.freshVariable G.V "S")
    (hd1 : phase ≤ 4 → ∀ a, a ∈ G.Sigma →
      a ∉ (G.applyChomsky phase start).V ∧ a ≠ CFG.freshVariable (G.applyChomsky phase start).V "S")
    (hpr : CfgText.Printable (G.applyChomsky phase start))
    (key : String) (hk : CfgText.printSimpleCfg (G.applyChomsky phase start) = .ok key) :
    CheckText.chomsky cfg key phase start len = .ok := by
  have _ := hd; have _ := hd0; have _ := hd1
  exact own_chomsky_text_ok_printable cfg G e hp phase start len hstart hpr key hk

/-! ### non-vacuity: `S -> aSb | ε`, new start variable `T` -/

/-- the text parses to the example grammar `C13a.exS` of the object-level theorem -/
theorem C13g.exS_parse : CfgText.parseSimpleCfg "S -> aSb | ε".toList = .ok (C13a.exS, "ε") := by
  rw [String.toList_ofList]; decide +kernel

/-- the answer keys of phases 2 and 5 are printable … -/
theorem C13g.exS_printable2 : CfgText.Printable (C13a.exS.applyChomsky 2 "T") :=
  C13g.printable_of_printableB (by decide +kernel)
theorem C13g.exS_printable5 : CfgText.Printable (C13a.exS.applyChomsky 5 "T") :=
  C13g.printable_of_printableB (by decide +kernel)

/-- … these are their texts … -/
theorem C13g.exS_key2 : CfgText.printSimpleCfg (C13a.exS.applyChomsky 2 "T") = .ok "T -> S | ε\nS -> aSb | ab" := by
  decide +kernel
theorem C13g.exS_key5 : CfgText.printSimpleCfg (C13a.exS.applyChomsky 5 "T") =
    .ok "T -> ε | BA | BC\nS -> BA | BC\nA -> SC\nB -> a\nC -> b" := by
  decide +kernel

/-- … all hypotheses of `own_chomsky_text_ok` hold, and the verdict is `OK` for every length bound -/
example (len : Nat) :
    CfgText.parseSimpleCfg "S -> aSb | ε".toList = .ok (C13a.exS, "ε") ∧ "T" ∉ C13a.exS.V ∧
    (∀ a, a ∈ C13a.exS.Sigma → a ∉ C13a.exS.V ∧ a ≠ CFG.freshVariable C13a.exS.V "T") ∧
    (∀ a, a ∈ C13a.exS.Sigma → a ≠ CFG.freshVariable C13a.exS.V "S") ∧
    (5 ≤ 4 → ∀ a, a ∈ C13a.exS.Sigma → a ∉ (C13a.exS.applyChomsky 5 "T").V ∧
      a ≠ CFG.freshVariable (C13a.exS.applyChomsky 5 "T").V "S") ∧
    CfgText.Printable (C13a.exS.applyChomsky 5 "T") ∧
    CfgText.printSimpleCfg (C13a.exS.applyChomsky 5 "T") =
      .ok "T -> ε | BA | BC\nS -> BA | BC\nA -> SC\nB -> a\nC -> b" ∧
    CheckText.chomsky "S -> aSb | ε" "T -> ε | BA | BC\nS -> BA | BC\nA -> SC\nB -> a\nC -> b" 5 "T" len = .ok :=
  ⟨C13g.exS_parse, by decide +kernel, C13a.exS_hd, C13a.exS_hd0, C13a.exS_hd1 5, C13g.exS_printable5, C13g.exS_key5,
    own_chomsky_text_ok _ _ _ C13g.exS_parse 5 "T" len (by decide +kernel) C13a.exS_hd C13a.exS_hd0 (C13a.exS_hd1 5)
      C13g.exS_printable5 _ C13g.exS_key5⟩

example (len : Nat) : CheckText.chomsky "S -> aSb | ε" "T -> S | ε\nS -> aSb | ab" 2 "T" len = .ok :=
  own_chomsky_text_ok_printable _ _ _ C13g.exS_parse 2 "T" len (by decide +kernel) C13g.exS_printable2 _ C13g.exS_key2

/-- the two keys as `parse_simple_cfg` reads them back (for the shape of the proof see the header of Proofs/C12ex) -/
theorem C13g.exS_key2_parse : CfgText.parseSimpleCfg "T -> S | ε\nS -> aSb | ab".toList =
    .ok ({ V := ["T", "S"], Sigma := ["a", "b"], S := "T",
           R := [⟨"T", 0, [.v "S"]⟩, ⟨"T", 1, []⟩, ⟨"S", 2, [.t "a", .v "S", .t "b"]⟩, ⟨"S", 3, [.t "a", .t "b"]⟩] }, "ε") := by
  rw [String.toList_ofList]; decide +kernel
theorem C13g.exS_key5_parse : CfgText.parseSimpleCfg "T -> ε | BA | BC\nS -> BA | BC\nA -> SC\nB -> a\nC -> b".toList =
    .ok ({ V := ["T", "S", "A", "B", "C"], Sigma := ["a", "b"], S := "T",
           R := [⟨"T", 0, []⟩, ⟨"T", 1, [.v "B", .v "A"]⟩, ⟨"T", 2, [.v "B", .v "C"]⟩, ⟨"S", 3, [.v "B", .v "A"]⟩,
                 ⟨"S", 4, [.v "B", .v "C"]⟩, ⟨"A", 5, [.v "S", .v "C"]⟩, ⟨"B", 6, [.t "a"]⟩, ⟨"C", 7, [.t "b"]⟩] }, "ε") := by
  rw [String.toList_ofList]; decide +kernel

/-- the verdicts evaluated directly (length bound 4) -/
example : CheckText.chomsky "S -> aSb | ε" "T -> S | ε\nS -> aSb | ab" 2 "T" 4 = .ok ∧
    CheckText.chomsky "S -> aSb | ε" "T -> ε | BA | BC\nS -> BA | BC\nA -> SC\nB -> a\nC -> b" 5 "T" 4 = .ok := by
  rw [C13g.chomsky_of_parse C13g.exS_parse C13g.exS_key2_parse, C13g.chomsky_of_parse C13g.exS_parse C13g.exS_key5_parse]
  decide +kernel

/-! ### the hypotheses are needed -/

/-- `hstart`: with a start variable that `G` already has, `fresh_variable` picks another name (`A`) and the key is
    rejected by the start-variable test of the checker (verdict: feedback) -/
example : "S" ∈ C13a.exS.V ∧ CfgText.Printable (C13a.exS.applyChomsky 1 "S") ∧
    CfgText.printSimpleCfg (C13a.exS.applyChomsky 1 "S") = .ok "A -> S\nS -> aSb | ε" ∧
    CheckText.chomsky "S -> aSb | ε" "A -> S\nS -> aSb | ε" 1 "S" 3 = .feedback :=
  ⟨by decide +kernel, C13g.printable_of_printableB (by decide +kernel), by decide +kernel, by decide +kernel⟩

/-- `S -> aA`, `A -> ε` -/
def C13g.exA : CFG :=
  { V := ["S", "A"], Sigma := ["a"], S := "S", R := [⟨"S", 0, [.t "a", .v "A"]⟩, ⟨"A", 1, []⟩] }

theorem C13g.exA_parse : CfgText.parseSimpleCfg "S -> aA\nA -> ε".toList = .ok (C13g.exA, "ε") := by
  rw [String.toList_ofList]; decide +kernel

theorem C13g.exA_key2_parse : CfgText.parseSimpleCfg "T -> S\nS -> aA | a".toList = .error .runtimeError := by
  rw [String.toList_ofList]; decide +kernel
theorem C13g.exA_key5_parse : CfgText.parseSimpleCfg "T -> BA | a\nS -> a | BA\nB -> a".toList = .error .runtimeError := by
  rw [String.toList_ofList]; decide +kernel

/-- the text-level statement WITHOUT `Printable` (all other hypotheses of `own_chomsky_text_ok` kept) -/
def own_chomsky_text_ok_noPrintable_stmt : Prop :=
  ∀ (cfg : String) (G : CFG) (e : String), CfgText.parseSimpleCfg cfg.toList = .ok (G, e) →
    ∀ (phase : Nat) (start : String) (len : Nat), start ∉ G.V →
    (∀ a, a ∈ G.Sigma → a ∉ G.V ∧ a ≠ CFG.freshVariable G.V start) →
    (∀ a, a ∈ G.Sigma → a ≠ CFG.freshVariable G.V "S") →
    (phase ≤ 4 → ∀ a, a ∈ G.Sigma →
      a ∉ (G.applyChomsky phase start).V ∧ a ≠ CFG.freshVariable (G.applyChomsky phase start).V "S") →
    ∀ key : String, CfgText.printSimpleCfg (G.applyChomsky phase start) = .ok key →
    CheckText.chomsky cfg key phase start len = .ok

/-- … is FALSE: for `S -> aA`, `A -> ε`, phase 2 removes the only rule of `A` but keeps `S -> aA`; the key is printed
    (`T -> S`, `S -> aA | a`: the grammar is in the simple format), but the text format rebuilds `V` from the left-hand
    sides, so the re-parsed key mentions the undeclared variable `A`, the validity check of the parser fails, and
    `cfg_check_chomsky` prints `Error` for the library's own answer key — although the object-level check of C13a
    accepts it.  (Same for phases 3–5.)  So `Printable.hasRules` cannot be dropped. -/
theorem own_chomsky_text_ok_noPrintable_false : ¬ own_chomsky_text_ok_noPrintable_stmt := by
  intro h
  have := h "S -> aA\nA -> ε" C13g.exA "ε" C13g.exA_parse 2 "T" 3 (by decide) (by decide) (by decide)
    (fun _ => by decide) "T -> S\nS -> aA | a" (by decide +kernel)
  rw [CheckText.chomsky, C13g.exA_parse, C13g.exA_key2_parse] at this
  cases this

/-- the same example, object level against text level -/
example : Check.chomskyCheck C13g.exA (C13g.exA.applyChomsky 2 "T") 2 "T" 3 = true ∧
    CfgText.printSimpleCfg (C13g.exA.applyChomsky 2 "T") = .ok "T -> S\nS -> aA | a" ∧
    CfgText.parseSimpleCfg "T -> S\nS -> aA | a".toList = .error .runtimeError ∧
    CheckText.chomsky "S -> aA\nA -> ε" "T -> S\nS -> aA | a" 2 "T" 3 = .error ∧
    CfgText.printSimpleCfg (C13g.exA.applyChomsky 5 "T") = .ok "T -> BA | a\nS -> a | BA\nB -> a" ∧
    CheckText.chomsky "S -> aA\nA -> ε" "T -> BA | a\nS -> a | BA\nB -> a" 5 "T" 3 = .error :=
  ⟨by decide +kernel, by decide +kernel, C13g.exA_key2_parse,
    by rw [CheckText.chomsky, C13g.exA_parse, C13g.exA_key2_parse], by decide +kernel,
    by rw [CheckText.chomsky, C13g.exA_parse, C13g.exA_key5_parse]⟩

#print axioms own_chomsky_text_ok_printable
#print axioms own_chomsky_text_ok
#print axioms own_chomsky_text_ok_noPrintable_false

end Gamba
