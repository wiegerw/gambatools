/- Gamba.Props.C11 — the executable Turing-machine simulator: `tm_do_transition` performs the step of `Gamba.Spec.TM`
   (head stays on the tape) and refuses in a halting state; `tm_accepts_word` answers True / False / undecided exactly
   when the first halting time is within the budget and is accepting / rejecting / there is none, monotonically in the
   budget; `tm_simulate_word` records the iterates of the step up to that time and ends with that verdict;
   `tm_words_up_to_n` is the filter of the words over Σ by `tm_accepts_word`. -/
import Gamba.Model.TM
import Gamba.Spec.TM
import Gamba.Proofs.Words
import Gamba.Proofs.C11
namespace Gamba
variable {σ τ : Type} [DecidableEq σ] [DecidableEq τ]

/-! ### non-vacuity examples on the concrete machine `demoTM` (defined in `Gamba.Proofs.C11`) -/

example : demoTM.valid = true := by decide +kernel
example : demoTM.accepts ["a", "a"] 10 = some true := by decide +kernel
example : demoTM.accepts ["a", "a"] 4 = some true := by decide +kernel
example : demoTM.accepts ["a", "a"] 3 = none := by decide +kernel
example : demoTM.accepts ["a", "a"] 1 = none := by decide +kernel
example : demoTM.accepts ["a", "b"] 10 = some false := by decide +kernel
example : demoTM.accepts [] 10 = some true := by decide +kernel
/-- the left move at cell 0 keeps the head at 0 and does not touch the tape -/
example : demoTM.step (demoTM.init ["a", "a"]) = ⟨"r", ["a", "a"], 0⟩ := by decide +kernel
/-- walking off the right end appends one blank -/
example : demoTM.stepN 3 (demoTM.init ["a", "a"]) = ⟨"r", ["a", "a", "_"], 2⟩ := by decide +kernel
example : demoTM.stepN 4 (demoTM.init ["a", "a"]) = ⟨"acc", ["a", "a", "_", "_"], 3⟩ := by decide +kernel

/-- the executable step function is the Sipser step relation of the spec, whenever the head is on the tape -/
theorem tm_step_spec (T : TM σ τ) (c c' : TMConfig σ τ) (hh : c.head < c.tape.length) :
    T.step c = c' ↔ T.Step c c' := by
  constructor
  · rintro rfl; exact T.Step_of_step c hh
  · exact T.step_of_Step

example : (demoTM.init ["a", "a"]).head < (demoTM.init ["a", "a"]).tape.length := by decide +kernel
example : demoTM.Step (demoTM.init ["a", "a"]) ⟨"r", ["a", "a"], 0⟩ :=
  (tm_step_spec demoTM _ _ (by decide +kernel)).mp (by decide +kernel)

/-- the head stays on the tape (so the hypothesis of `tm_step_spec` holds along every run from `init`) -/
theorem tm_head_inv (T : TM σ τ) (w : List τ) (i : Nat) :
    (T.stepN i (T.init w)).head < (T.stepN i (T.init w)).tape.length :=
  T.stepN_head_lt i (T.init w) (T.init_head_lt w)

/-- `tm_do_transition` refuses to step in a halting state and otherwise performs exactly one step -/
theorem tm_doTransition_spec (T : TM σ τ) (c : TMConfig σ τ) :
    (T.halting c.q = true → T.doTransition c = .error .runtimeError) ∧
    (T.halting c.q = false → T.doTransition c = .ok (T.step c)) := by
  unfold TM.doTransition
  constructor
  · intro h; simp only [h, if_true]
  · intro h; simp only [h, Bool.false_eq_true, if_false]

example : demoTM.halting (⟨"acc", ["_"], 0⟩ : TMConfig String String).q = true := by decide +kernel
example : demoTM.doTransition ⟨"acc", ["_"], 0⟩ = .error .runtimeError :=
  (tm_doTransition_spec demoTM _).1 (by decide +kernel)
example : demoTM.halting (demoTM.init ["a"]).q = false := by decide +kernel
example : demoTM.doTransition (demoTM.init ["a"]) = .ok ⟨"r", ["a"], 0⟩ :=
  (tm_doTransition_spec demoTM _).2 (by decide +kernel)

/-- verdict True  ⇔ the machine first halts within k steps and does so in the accepting state
    (`hne` belongs to the wording of the property; the proof does not use it) -/
theorem tm_accepts_true_iff (T : TM σ τ) (hne : T.qReject ≠ T.qAccept) (w : List τ) (k : Nat) :
    T.accepts w k = some true ↔ ∃ i, i ≤ k ∧ T.HaltsAt w i T.qAccept := by
  have _ := hne
  rw [T.accepts_eq_some_iff]
  unfold TM.HaltsAt
  constructor
  · rintro ⟨i, hi, hv, hmin⟩
    exact ⟨i, hi, (T.verdict_eq_true_iff _).mp hv, T.halting_qAccept, hmin⟩
  · rintro ⟨i, hi, hq, _, hmin⟩
    exact ⟨i, hi, (T.verdict_eq_true_iff _).mpr hq, hmin⟩

example : demoTM.qReject ≠ demoTM.qAccept := by decide +kernel
example : ∃ i, i ≤ 10 ∧ demoTM.HaltsAt ["a", "a"] i demoTM.qAccept :=
  (tm_accepts_true_iff demoTM (by decide +kernel) ["a", "a"] 10).mp (by decide +kernel)

/-- verdict False ⇔ the machine first halts within k steps and does so in the rejecting state -/
theorem tm_accepts_false_iff (T : TM σ τ) (hne : T.qReject ≠ T.qAccept) (w : List τ) (k : Nat) :
    T.accepts w k = some false ↔ ∃ i, i ≤ k ∧ T.HaltsAt w i T.qReject := by
  rw [T.accepts_eq_some_iff]
  unfold TM.HaltsAt
  constructor
  · rintro ⟨i, hi, hv, hmin⟩
    exact ⟨i, hi, (T.verdict_eq_false_iff hne _).mp hv, T.halting_qReject, hmin⟩
  · rintro ⟨i, hi, hq, _, hmin⟩
    exact ⟨i, hi, (T.verdict_eq_false_iff hne _).mpr hq, hmin⟩

example : ∃ i, i ≤ 10 ∧ demoTM.HaltsAt ["a", "b"] i demoTM.qReject :=
  (tm_accepts_false_iff demoTM (by decide +kernel) ["a", "b"] 10).mp (by decide +kernel)

/-- undecided ⇔ no halting state is entered within k steps -/
theorem tm_accepts_none_iff (T : TM σ τ) (w : List τ) (k : Nat) :
    T.accepts w k = none ↔ ∀ i, i ≤ k → T.halting (T.stepN i (T.init w)).q = false := by
  rw [TM.accepts_eq_haltLoop, TM.haltLoop_eq_none_iff]

example : ∀ i, i ≤ 3 → demoTM.halting (demoTM.stepN i (demoTM.init ["a", "a"])).q = false :=
  (tm_accepts_none_iff demoTM ["a", "a"] 3).mp (by decide +kernel)

/-- a larger budget never changes a decided verdict -/
theorem tm_budget_mono (T : TM σ τ) (w : List τ) (k k' : Nat) (b : Bool) (hk : k ≤ k')
    (h : T.accepts w k = some b) : T.accepts w k' = some b := by
  rw [T.accepts_eq_some_iff] at h ⊢
  obtain ⟨i, hi, hv, hmin⟩ := h
  exact ⟨i, Nat.le_trans hi hk, hv, hmin⟩

example : demoTM.accepts ["a", "a"] 4 = some true ∧ 4 ≤ 100 := by decide +kernel
example : demoTM.accepts ["a", "a"] 100 = some true :=
  tm_budget_mono demoTM ["a", "a"] 4 100 true (by decide +kernel) (by decide +kernel)

/-- the recorded run: starts at the initial configuration, every next element is one step of the previous one,
    only the last element can be halting, at most k+1 elements, and it is a prefix of the step sequence -/
theorem tm_simulate_trace (T : TM σ τ) (w : List τ) (k : Nat) :
    let tr := T.simulate w k
    tr.head? = some (T.init w) ∧ tr.length ≤ k + 1 ∧
    (∀ i, i < tr.length → tr[i]? = some (T.stepN i (T.init w))) ∧
    (∀ i, i + 1 < tr.length → T.halting (T.stepN i (T.init w)).q = false) :=
  T.traceFrom_spec k (T.init w)

example : demoTM.simulate ["a", "a"] 10 =
    [⟨"s", ["a", "a"], 0⟩, ⟨"r", ["a", "a"], 0⟩, ⟨"r", ["a", "a"], 1⟩, ⟨"r", ["a", "a", "_"], 2⟩,
     ⟨"acc", ["a", "a", "_", "_"], 3⟩] := by decide +kernel
example : (demoTM.simulate ["a", "a"] 2).length = 3 := by decide +kernel

/-- the last recorded configuration agrees with the verdict -/
theorem tm_simulate_verdict (T : TM σ τ) (w : List τ) (k : Nat) :
    (T.simulate w k).getLast?.map (fun c => T.verdict c.q) = some (T.accepts w k) := by
  rw [TM.simulate_eq_traceFrom, TM.accepts_eq_haltLoop]
  exact T.traceFrom_getLast k (T.init w)

example : (demoTM.simulate ["a", "b"] 10).getLast?.map (fun c => demoTM.verdict c.q) = some (some false) := by
  decide +kernel
example : (demoTM.simulate ["a", "a"] 2).getLast?.map (fun c => demoTM.verdict c.q) = some none := by
  decide +kernel

/-- C02 for Turing machines: `tm_words_up_to_n` returns exactly the words over Σ of length ≤ n accepted within k steps -/
theorem tm_words_exact (T : TM σ τ) (n k : Nat) (w : List τ) :
    w ∈ T.wordsUpTo n k ↔ w.length ≤ n ∧ (∀ a, a ∈ w → a ∈ T.Sigma) ∧ T.accepts w k = some true := by
  unfold TM.wordsUpTo
  simp only [List.mem_filter, mem_wordsUpTo, decide_eq_true_eq, and_assoc]

example : demoTM.wordsUpTo 2 10 = [[], ["a"], ["a", "a"]] := by decide +kernel
example : demoTM.wordsUpTo 2 3 = [[], ["a"]] := by decide +kernel

#print axioms tm_step_spec
#print axioms tm_head_inv
#print axioms tm_doTransition_spec
#print axioms tm_accepts_true_iff
#print axioms tm_accepts_false_iff
#print axioms tm_accepts_none_iff
#print axioms tm_budget_mono
#print axioms tm_simulate_trace
#print axioms tm_simulate_verdict
#print axioms tm_words_exact

end Gamba
