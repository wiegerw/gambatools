/-
  Gamba.Props.C15b — the model of `cfg_derive_word` returns a genuine leftmost (rightmost)
  derivation for every non-empty word generated by a valid grammar in Chomsky normal form, and
  reports an error (instead of a derivation) for every non-empty word that is not generated.
-/
import Gamba.Proofs.C15b
import Gamba.Proofs.DecEq
namespace Gamba

namespace C15b

/-- S → a | A B, A → a, B → b  (the terminal rule of `S` is listed before the binary rule, so
    `find_rule` has to skip an alternative that is not a pair of variables) -/
def exG : CFG where
  V := ["S", "A", "B"]
  Sigma := ["a", "b"]
  S := "S"
  R := [⟨"S", 0, [.t "a"]⟩, ⟨"S", 1, [.v "A", .v "B"]⟩, ⟨"A", 2, [.t "a"]⟩, ⟨"B", 3, [.t "b"]⟩]

/-- the same with `A → A A` added, so that sentential forms contain repeated variables -/
def exG2 : CFG where
  V := ["S", "A", "B"]
  Sigma := ["a", "b"]
  S := "S"
  R := [⟨"S", 0, [.t "a"]⟩, ⟨"S", 1, [.v "A", .v "B"]⟩, ⟨"A", 2, [.t "a"]⟩, ⟨"B", 3, [.t "b"]⟩,
    ⟨"A", 4, [.v "A", .v "A"]⟩]

theorem exG_lang : exG.Lang ["a", "b"] := by
  refine CFG.gen_v_iff.mpr ⟨[.v "A", .v "B"], ⟨⟨"S", 1, [.v "A", .v "B"]⟩, by decide, rfl, rfl⟩, ?_⟩
  refine CFG.gen_vv_iff.mpr ⟨["a"], ["b"], rfl, ?_, ?_⟩
  · exact CFG.gen_v_iff.mpr ⟨[.t "a"], ⟨⟨"A", 2, [.t "a"]⟩, by decide, rfl, rfl⟩, CFG.gen_t_iff.mpr rfl⟩
  · exact CFG.gen_v_iff.mpr ⟨[.t "b"], ⟨⟨"B", 3, [.t "b"]⟩, by decide, rfl, rfl⟩, CFG.gen_t_iff.mpr rfl⟩

theorem exG_not_lang : ¬ exG.Lang ["a", "a"] := fun h =>
  absurd ((CFG.start_mem_cell_iff (G := exG) (by decide) (CFG.rhsDeclared_of_valid (by decide)) (by decide) (w := ["a", "a"])
    (by decide) rfl).mpr h) (by decide)

end C15b

open CFG in
/-- for every non-empty word of the language of a valid CNF grammar the routine returns a derivation,
    and that derivation is a genuine leftmost (`leftmost = true`) / rightmost (`leftmost = false`)
    derivation of the word from the start variable -/
theorem cfg_derive_valid (G : CFG) (hc : G.isChomsky = true) (hv : G.valid = true) (hS : G.S ∈ G.V)
    (w : List String) (hw : w ≠ []) (hL : G.Lang w) (leftmost : Bool) :
    ∃ d, G.deriveWord w leftmost = .ok d ∧ G.ValidDerivation leftmost w d :=
  deriveWord_valid hc (rhsDeclared_of_valid hv) hS hw hL leftmost

-- the hypotheses hold on a concrete grammar and word
example : C15b.exG.isChomsky = true ∧ C15b.exG.valid = true ∧ C15b.exG.S ∈ C15b.exG.V ∧
    ["a", "b"] ≠ ([] : List String) ∧ C15b.exG.Lang ["a", "b"] :=
  ⟨by decide +kernel, by decide +kernel, by decide +kernel, by decide +kernel, C15b.exG_lang⟩

-- the derivations that are returned (leftmost, rightmost)
example : C15b.exG.deriveWord ["a", "b"] true =
    .ok [[.v "S"], [.v "A", .v "B"], [.t "a", .v "B"], [.t "a", .t "b"]] := by decide +kernel
example : C15b.exG.deriveWord ["a", "b"] false =
    .ok [[.v "S"], [.v "A", .v "B"], [.v "A", .t "b"], [.t "a", .t "b"]] := by decide +kernel
example : C15b.exG.deriveWord ["a"] true = .ok [[.v "S"], [.t "a"]] := by decide +kernel
example : C15b.exG2.deriveWord ["a", "a", "b"] true =
    .ok [[.v "S"], [.v "A", .v "B"], [.v "A", .v "A", .v "B"], [.t "a", .v "A", .v "B"],
      [.t "a", .t "a", .v "B"], [.t "a", .t "a", .t "b"]] := by decide +kernel
example : C15b.exG2.deriveWord ["a", "a", "b"] false =
    .ok [[.v "S"], [.v "A", .v "B"], [.v "A", .t "b"], [.v "A", .v "A", .t "b"],
      [.v "A", .t "a", .t "b"], [.t "a", .t "a", .t "b"]] := by decide +kernel

example : ∃ d, C15b.exG.deriveWord ["a", "b"] false = .ok d ∧
    C15b.exG.ValidDerivation false ["a", "b"] d :=
  cfg_derive_valid C15b.exG (by decide +kernel) (by decide +kernel) (by decide +kernel) ["a", "b"] (by decide +kernel)
    C15b.exG_lang false

open CFG in
/-- and for a word that is not generated the routine reports an error instead of a derivation -/
theorem cfg_derive_rejects (G : CFG) (hc : G.isChomsky = true) (hv : G.valid = true) (hS : G.S ∈ G.V)
    (w : List String) (hw : w ≠ []) (hL : ¬ G.Lang w) (leftmost : Bool) :
    G.deriveWord w leftmost = .error .runtimeError := by
  have hX : G.cykMatrix w = .ok _ := cykMatrix_eq hc w
  have hmem := mt (start_mem_cell_iff hc (rhsDeclared_of_valid hv) hS hw hX).mp hL
  rw [deriveWord_eq hX, if_pos (by simpa using hmem)]

example : C15b.exG.isChomsky = true ∧ C15b.exG.valid = true ∧ C15b.exG.S ∈ C15b.exG.V ∧
    ["a", "a"] ≠ ([] : List String) ∧ ¬ C15b.exG.Lang ["a", "a"] :=
  ⟨by decide +kernel, by decide +kernel, by decide +kernel, by decide +kernel, C15b.exG_not_lang⟩

example : C15b.exG.deriveWord ["a", "a"] true = .error .runtimeError := by decide +kernel
example : C15b.exG.deriveWord ["b"] false = .error .runtimeError := by decide +kernel

#print axioms cfg_derive_valid
#print axioms cfg_derive_rejects

end Gamba
