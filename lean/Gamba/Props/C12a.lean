/-
  Gamba.Props.C12a — C12, object level: soundness of the exercise checkers of the notebooks (Model/Check.lean) that compare
  word lists or take an automaton as the answer (the others: Props/C12b): each checker returns `true` ("OK" is printed)
  ONLY when the criterion of the exercise holds.
-/
import Gamba.Props.C14b
import Gamba.Proofs.C12a
namespace Gamba
open C14a C14b C12a

/-- language-from-word-list: OK ⇒ state limit respected and the answer's enumerated language equals the word list -/
theorem chk_languageFromWords_sound (nQ maxStates : Nat) (A words : List (List String))
    (h : Check.languageFromWords nQ maxStates A words = true) :
    (maxStates = 0 ∨ nQ ≤ maxStates) ∧ ∀ w, w ∈ A ↔ w ∈ words :=
  (C12a.languageFromWords_iff nQ maxStates A words).mp h

-- correct word list (other order, a duplicate), 2 states allowed, answer has 2 states: OK
example : Check.languageFromWords 2 2 [["a"], ["a", "a"], ["b", "a"]] [["b", "a"], ["a"], ["a", "a"], ["a"]] = true := by
  decide +kernel
-- no state limit (`max_states = 0`)
example : Check.languageFromWords 7 0 [["a"]] [["a"]] = true := by decide +kernel
-- a missing word / too many states: not OK
example : Check.languageFromWords 2 2 [["a"], ["a", "a"]] [["b", "a"], ["a"], ["a", "a"]] = false := by decide +kernel
example : Check.languageFromWords 3 2 [["a"]] [["a"]] = false := by decide +kernel

theorem chk_equalLanguages_sound (A1 A2 : List (List String)) (h : Check.equalLanguages A1 A2 = true) :
    ∀ w, w ∈ A1 ↔ w ∈ A2 :=
  (C12a.equalLanguages_iff A1 A2).mp h

example : Check.equalLanguages [["a"], ["a", "b"], ["a"]] [["a", "b"], ["a"]] = true := by decide +kernel
example : Check.equalLanguages [["a"], ["a", "b"]] [["a"]] = false := by decide +kernel
example : Check.equalLanguages [["a"]] [["a"], []] = false := by decide +kernel

/-- with the answer a valid DFA: OK ⇒ its language agrees with the word list on every word of length ≤ len -/
theorem chk_dfa_language_sound (D : DFA String String) (hv : D.valid = true) (maxStates len : Nat)
    (words : List (List String))
    (h : Check.languageFromWords D.Q.length maxStates (D.wordsUpTo len) words = true) :
    (maxStates = 0 ∨ D.Q.length ≤ maxStates) ∧
    ∀ w, w.length ≤ len → (∀ a, a ∈ w → a ∈ D.Sigma) → (D.Accepts w ↔ w ∈ words) := by
  obtain ⟨h1, h2⟩ := chk_languageFromWords_sound _ _ _ _ h
  refine ⟨h1, ?_⟩
  intro w hl hs
  rw [← h2 w, dfa_words_exact D hv len w]
  exact ⟨fun ha => ⟨hl, hs, ha⟩, fun ha => ha.2.2⟩

/-- `exD1` (words ending in `a`) against the word list of length ≤ 2 -/
example : exD1.valid = true ∧
    Check.languageFromWords exD1.Q.length 2 (exD1.wordsUpTo 2) [["a"], ["b", "a"], ["a", "a"]] = true := by decide +kernel
-- `exD2` (even length) handed in for the same list: not OK
example : exD2.valid = true ∧
    Check.languageFromWords exD2.Q.length 2 (exD2.wordsUpTo 2) [["a"], ["b", "a"], ["a", "a"]] = false := by decide +kernel
-- consequence on the example: `exD1` accepts `b a` and rejects `a b`
example : exD1.Accepts ["b", "a"] ∧ ¬ exD1.Accepts ["a", "b"] :=
  have h := (chk_dfa_language_sound exD1 exD1_valid 2 2 [["a"], ["b", "a"], ["a", "a"]] (by decide +kernel)).2
  ⟨(h ["b", "a"] (by decide +kernel) (by decide +kernel)).mpr (by decide +kernel),
   fun hacc => absurd ((h ["a", "b"] (by decide +kernel) (by decide +kernel)).mp hacc) (by decide +kernel)⟩

theorem chk_acceptsRejects_sound (accepted rejected : List (Option Bool))
    (h : Check.acceptsRejects accepted rejected = true) :
    (∀ v, v ∈ accepted → v = some true) ∧ (∀ v, v ∈ rejected → v ≠ some true) := by
  unfold Check.acceptsRejects at h
  simpa only [Bool.and_eq_true, List.all_eq_true, beq_iff_eq, bne_iff_ne] using h

-- all words of the first list accepted, none of the second (`none` = the TM did not decide within its step bound)
example : Check.acceptsRejects [some true, some true] [some false, none] = true := by decide +kernel
-- a word that should be accepted is rejected / undecided; a word that should be rejected is accepted
example : Check.acceptsRejects [some true, some false] [some false] = false := by decide +kernel
example : Check.acceptsRejects [none] [] = false := by decide +kernel
example : Check.acceptsRejects [] [some true] = false := by decide +kernel

open Classical in
/-- product exercises: OK ⇒ structural requirement + bounded language agreement -/
theorem chk_product_sound (t : ProductType) (D1 D2 answer : DFA String String) (len : Nat)
    (h1 : D1.valid = true) (h2 : D2.valid = true) (ha : answer.valid = true)
    (h : Check.productCheck t D1 D2 answer len = some true) :
    (∀ a, a ∈ D1.Sigma ↔ a ∈ D2.Sigma) ∧
    (∀ q, q ∈ answer.Q → ∃ p r, Check.extractPair q = some (p, r) ∧ p ∈ D1.Q ∧ r ∈ D2.Q) ∧
    (∀ a, a ∈ answer.Sigma ↔ a ∈ D1.Sigma) ∧
    answer.q0 = productName (D1.q0, D2.q0) ∧
    (∀ q, q ∈ answer.F ↔ q ∈ ((D1.product D2 t).mapStates productName).F) ∧
    (∀ k r v, answer.delta.lookup k = some v →
      ((D1.product D2 t).mapStates productName).delta.lookup k = some r → v = r) ∧
    ∀ w, w.length ≤ len → (∀ a, a ∈ w → a ∈ D1.Sigma) →
      (answer.Accepts w ↔ t.accept (decide (D1.Accepts w)) (decide (D2.Accepts w)) = true) := by
  obtain ⟨hS12, hfb, hL⟩ := (C12a.productCheck_spec h1 h2 ha).mp h
  obtain ⟨hQ, hS, h0, hd, hF⟩ := C12a.productFeedback_iff.mp hfb
  exact ⟨hS12, hQ, fun a => (hS a).symm, h0, fun q => (hF q).symm,
    fun k r v hv hr => hd (k, v) (Dict.mem_of_lookup hv) r hr, fun w hl _ => hL w hl⟩

/-- hand-written correct answers (states and alphabet listed in another order) for the three exercises -/
example : exD1.valid = true ∧ exD2.valid = true ∧ exAnsUnion.valid = true ∧
    Check.productCheck .union exD1 exD2 exAnsUnion 3 = some true := by decide +kernel
example : exAnsInter.valid = true ∧ Check.productCheck .intersection exD1 exD2 exAnsInter 3 = some true := by decide +kernel
example : exAnsSymDiff.valid = true ∧
    Check.productCheck .symmetricDifference exD1 exD2 exAnsSymDiff 3 = some true := by decide +kernel
-- the intersection automaton handed in for the union exercise (wrong accepting states): not OK
example : Check.productCheck .union exD1 exD2 exAnsInter 3 = some false := by decide +kernel
-- a correct product automaton whose states are named `pe`, `po`, …: exception (`none`), not OK
example : exAnsBadNames.valid = true ∧ Check.productCheck .union exD1 exD2 exAnsBadNames 3 = none := by decide +kernel
-- different alphabets: exception
example : Check.productCheck .union exD1 { exD2 with Sigma := ["a"] } exAnsUnion 3 = none := by decide +kernel
example : Check.extractPair "(p,e)" = some ("p", "e") ∧ Check.extractPair "pe" = none ∧
    Check.extractPair "{p,e,x}" = some ("p", "e") := by decide +kernel
-- consequence on the example: `a b` (even length, does not end in `a`) is accepted by the union answer
example : exAnsUnion.Accepts ["a", "b"] := by
  have h := (chk_product_sound .union exD1 exD2 exAnsUnion 3 exD1_valid exD2_valid (by decide +kernel) (by decide +kernel)).2.2.2.2.2.2
  refine (h ["a", "b"] (by decide +kernel) (by decide +kernel)).mpr ?_
  have h2 : exD2.Accepts ["a", "b"] := by rw [DFA.Accepts_iff_runT exD2_valid (by decide +kernel)]; decide
  simp [ProductType.accept, h2]

/-- complement: OK ⇒ same alphabet, states, initial state and transitions, accepting set complemented; hence the
    language is the complement for words of EVERY length.
    (The key-uniqueness hypotheses `hk`, `hk1` hold for every Python dict.  This direction does not need them — the
    two-sided test `deltaEq` already forces equal lookups, `C12a.deltaEq_lookup` — the equivalence
    `C12a.complementCheck_iff` it is read from does.) -/
theorem chk_complement_sound (D1 answer : DFA String String) (h1 : D1.valid = true)
    (hk : (answer.delta.map (·.1)).Nodup) (hk1 : (D1.delta.map (·.1)).Nodup)
    (h : Check.complementCheck D1 answer = true) :
    (∀ a, a ∈ answer.Sigma ↔ a ∈ D1.Sigma) ∧ (∀ q, q ∈ answer.Q ↔ q ∈ D1.Q) ∧ answer.q0 = D1.q0 ∧
    (∀ k, answer.delta.lookup k = D1.delta.lookup k) ∧ (∀ q, q ∈ answer.F ↔ (q ∈ D1.Q ∧ q ∉ D1.F)) ∧
    ∀ w, (∀ a, a ∈ w → a ∈ D1.Sigma) → (answer.Accepts w ↔ ¬ D1.Accepts w) := by
  obtain ⟨hS, hQ, h0, hd, hF⟩ := (C12a.complementCheck_iff hk1 hk).mp h
  refine ⟨hS, hQ, h0, hd, hF, fun w hw => ?_⟩
  rw [← complement_lang D1 h1 w hw]
  exact DFA.Accepts_of_lookup_eq (D' := D1.complement) hd h0 (fun q => (hF q).trans mem_sdiff.symm) w

/-- the complement of `exD1` written out with states, alphabet and transitions in another order -/
example : exD1.valid = true ∧ (exAnsCompl.delta.map (·.1)).Nodup ∧ (exD1.delta.map (·.1)).Nodup ∧
    Check.complementCheck exD1 exAnsCompl = true := by decide +kernel
-- the witness of the repaired defect: accepting set not flipped (`exD1` itself) — not OK
example : Check.complementCheck exD1 exAnsComplBad = false ∧ Check.complementCheck exD1 exD1 = false := by decide +kernel
-- every state accepting: not OK
example : Check.complementCheck exD1 { exAnsCompl with F := ["p", "q"] } = false := by decide +kernel
-- a changed transition: not OK
example : Check.complementCheck exD1 { exAnsCompl with
    delta := [(("q", "b"), "q"), (("q", "a"), "q"), (("p", "a"), "q"), (("p", "b"), "p")] } = false := by decide +kernel

/-- reverse: OK ⇒ structural requirement + bounded language agreement with the mirror image -/
theorem chk_reverse_sound (D : DFA String String) (answer : NFA String String) (s : Sched) (len : Nat)
    (hv : D.valid = true) (ha : answer.valid = true) (h : Check.reverseCheck D answer s len = .ok true) :
    (∀ a, a ∈ answer.Sigma ↔ a ∈ D.Sigma) ∧ (∀ q, q ∈ D.Q → q ∈ answer.Q) ∧ answer.q0 ∉ D.Q ∧
    (∀ q, q ∈ answer.F ↔ q = D.q0) ∧
    (∀ e, e ∈ D.delta → e.1.1 ∈ answer.succ e.2 e.1.2) ∧
    ∀ w, w.length ≤ len → (∀ a, a ∈ w → a ∈ D.Sigma) → (answer.Accepts w ↔ D.Accepts w.reverse) := by
  obtain ⟨hS, hQ, hE, h0, hF, hL⟩ := (C12a.reverseCheck_iff hv ha).mp h
  exact ⟨fun a => (hS a).symm, hQ, h0, hF, hE, fun w hl _ => hL w hl⟩

/-- the reversal of `exD` written out (fresh initial state `s`), for two pop orders -/
example : exD.valid = true ∧ exAnsRev.valid = true ∧ Check.reverseCheck exD exAnsRev [] 3 = .ok true ∧
    Check.reverseCheck exD exAnsRev [1, 3, 4] 3 = .ok true := by decide +kernel
-- a reversed edge missing (language unchanged: `z` is a dead end): not OK
example : exAnsRevBad.valid = true ∧ Check.reverseCheck exD exAnsRevBad [] 3 = .ok false := by decide +kernel
-- wrong accepting state: not OK
example : Check.reverseCheck exD { exAnsRev with F := ["q"] } [] 3 = .ok false := by decide +kernel
-- the old initial state reused as initial state: not OK
example : Check.reverseCheck exD { exAnsRev with q0 := "q" } [] 3 = .ok false := by decide +kernel

/-- minimal DFA: OK ⇒ same alphabet, as many states as there are Nerode classes of the input, bounded language
    agreement -/
theorem chk_minimal_sound (D answer : DFA String String) (len : Nat) (hv : D.valid = true) (hQ : D.Q.Nodup)
    (ha : answer.valid = true) (h : Check.minimalCheck D answer len = .ok true) :
    (∀ a, a ∈ answer.Sigma ↔ a ∈ D.Sigma) ∧
    (∃ blocks, D.IsNerode blocks ∧ (dedup blocks).length = (dedup answer.Q).length) ∧
    ∀ w, w.length ≤ len → (∀ a, a ∈ w → a ∈ D.Sigma) → (answer.Accepts w ↔ D.Accepts w) := by
  obtain ⟨hS, hN, hL⟩ := (C12a.minimalCheck_iff hv hQ ha).mp h
  exact ⟨hS, hN, fun w hl _ => hL w hl⟩

/-- the 3-state minimal automaton of the 4-state `exC04b` (states `1` and `2` are equivalent) -/
example : exC04b.valid = true ∧ exC04b.Q.Nodup ∧ exAnsMin.valid = true ∧
    Check.minimalCheck exC04b exAnsMin 4 = .ok true := by decide +kernel
-- the input itself (right language, 4 states): not OK
example : Check.minimalCheck exC04b exC04b 4 = .ok false := by decide +kernel
-- 3 states but another language: not OK
example : exAnsMinBad.valid = true ∧ Check.minimalCheck exC04b exAnsMinBad 4 = .ok false := by decide +kernel

#print axioms chk_languageFromWords_sound
#print axioms chk_equalLanguages_sound
#print axioms chk_dfa_language_sound
#print axioms chk_acceptsRejects_sound
#print axioms chk_product_sound
#print axioms chk_complement_sound
#print axioms chk_reverse_sound
#print axioms chk_minimal_sound

end Gamba
