/-
  Gamba.Props.C08a — the first two phases of the Chomsky-normal-form conversion:
  `cfg_fresh_variable`, `cfg_add_new_start_variable_in_place` (phase 1), `cfg_nullable_variables` and
  `cfg_remove_epsilon_rules_in_place` (phase 2).
-/
import Gamba.Proofs.C08a
namespace Gamba

/-! ### example grammar: `S → A S | ε`, `A → a | ε` (nullable start, nullable variable on a rhs,
    start variable on a rhs) -/

def exC08a : CFG :=
  { V := ["S", "A"], Sigma := ["a", "b"], S := "S",
    R := [⟨"S", 0, [.v "A", .v "S"]⟩, ⟨"S", 1, []⟩, ⟨"A", 2, [.t "a"]⟩, ⟨"A", 3, []⟩] }

theorem exC08a_valid : exC08a.valid = true := by decide
theorem exC08a_S : exC08a.S ∈ exC08a.V := by decide

/-- `cfg_fresh_variable` returns a variable that is not in V — also when V has 26 or more variables -/
theorem freshVariable_fresh (V : List String) (hint : String) : CFG.freshVariable V hint ∉ V :=
  CFG.freshVariable_not_mem V hint

example : CFG.freshVariable ["S", "A"] "S" = "B" := by decide +kernel
example : CFG.freshVariable ["S", "A"] "T" = "T" := by decide +kernel
/-- all 26 letters taken: indexed names are used -/
example : CFG.freshVariable CFG.upperLetters "S" = "S0" := by decide +kernel
example : CFG.freshVariable ("S0" :: CFG.upperLetters) "S" = "S1" := by decide +kernel

/-- phase 1: new start variable -/
theorem addStart_spec (G : CFG) (hint : String) (hv : G.valid = true) (hS : G.S ∈ G.V) :
    (G.addStart hint).valid = true ∧ (G.addStart hint).S ∉ G.V ∧ (G.addStart hint).S ∈ (G.addStart hint).V ∧
    (∀ A, A ∈ (G.addStart hint).V ↔ A ∈ G.V ∨ A = (G.addStart hint).S) ∧
    CFG.StartNotOnRhs (G.addStart hint) ∧ (CFG.AliasOK G → CFG.AliasOK (G.addStart hint)) ∧
    ∀ w, (G.addStart hint).Lang w ↔ G.Lang w := by
  refine ⟨CFG.addStart_valid G hint hv hS, CFG.freshVariable_not_mem G.V hint, ?_, ?_,
    CFG.addStart_startNotOnRhs G hint hv hS, CFG.addStart_aliasOK G hint,
    CFG.addStart_lang G hint hv hS⟩
  · rw [CFG.addStart_V, CFG.addStart_S]; simp
  · intro A
    rw [CFG.addStart_V, CFG.addStart_S]; simp

example : exC08a.valid = true ∧ exC08a.S ∈ exC08a.V ∧ (exC08a.addStart "S").S = "B" ∧
    (exC08a.addStart "S").R =
      [⟨"B", 4, [.v "S"]⟩, ⟨"S", 0, [.v "A", .v "S"]⟩, ⟨"S", 1, []⟩, ⟨"A", 2, [.t "a"]⟩, ⟨"A", 3, []⟩] := by
  decide +kernel

example : (exC08a.addStart "S").valid = true := (addStart_spec exC08a "S" exC08a_valid exC08a_S).1

/-- the nullable set is exact -/
theorem nullable_exact (G : CFG) (A : String) : A ∈ G.nullable ↔ G.Gen [.v A] [] :=
  CFG.mem_nullable_iff G A

example : exC08a.nullable = ["S", "A"] := by decide +kernel
example : (exC08a.addStart "S").nullable = ["S", "A", "B"] := by decide +kernel

/-- phase 2: ε-rule removal preserves the language (also for the empty word, also when S is nullable or occurs on
    right-hand sides) and establishes its postcondition -/
theorem removeEps_spec (G : CFG) (hv : G.valid = true) :
    (G.removeEps).valid = true ∧ (G.removeEps).S = G.S ∧ (G.removeEps).V = G.V ∧
    CFG.NoEpsExceptStart G.removeEps ∧ CFG.AliasOK G.removeEps ∧
    (CFG.StartNotOnRhs G → CFG.StartNotOnRhs G.removeEps) ∧
    ∀ w, (G.removeEps).Lang w ↔ G.Lang w :=
  ⟨CFG.removeEps_valid G hv, rfl, rfl, CFG.removeEps_noEps G, CFG.removeEps_aliasOK G,
    CFG.removeEps_startNotOnRhs G, CFG.removeEps_lang G⟩

/-- nullable start variable that also occurs on a right-hand side: `S → ε` is kept, `A → ε` is removed,
    `S → A S` is expanded to `S → A S | A | S | ε` -/
example : exC08a.valid = true ∧ exC08a.removeEps.R =
    [⟨"S", 4, [.v "A", .v "S"]⟩, ⟨"S", 5, [.v "A"]⟩, ⟨"S", 6, [.v "S"]⟩, ⟨"S", 7, []⟩, ⟨"A", 8, [.t "a"]⟩] := by
  decide +kernel

/-- after phase 1 the start variable is not on a rhs and the only ε-rule left is the one of the new start -/
example : (exC08a.addStart "S").removeEps.R =
    [⟨"B", 5, [.v "S"]⟩, ⟨"B", 6, []⟩, ⟨"S", 7, [.v "A", .v "S"]⟩, ⟨"S", 8, [.v "A"]⟩, ⟨"S", 9, [.v "S"]⟩,
     ⟨"A", 10, [.t "a"]⟩] := by
  decide +kernel

/-- the empty word and `a` stay in the language -/
example : exC08a.removeEps.Lang [] ∧ exC08a.removeEps.Lang ["a"] := by
  have h := (removeEps_spec exC08a exC08a_valid).2.2.2.2.2.2
  have hS : exC08a.HasRule "S" [] := ⟨⟨"S", 1, []⟩, by decide +kernel, rfl, rfl⟩
  have hAS : exC08a.HasRule "S" [.v "A", .v "S"] := ⟨⟨"S", 0, _⟩, by decide +kernel, rfl, rfl⟩
  have hA : exC08a.HasRule "A" [.t "a"] := ⟨⟨"A", 2, _⟩, by decide +kernel, rfl, rfl⟩
  have hnil : exC08a.Gen [.v "S"] [] := CFG.gen_v_iff.mpr ⟨[], hS, .nil⟩
  refine ⟨(h []).mpr hnil, (h ["a"]).mpr ?_⟩
  refine CFG.gen_v_iff.mpr ⟨_, hAS, ?_⟩
  exact CFG.Gen.v (u := ["a"]) (w := []) hA (.t .nil) hnil

#print axioms freshVariable_fresh
#print axioms addStart_spec
#print axioms nullable_exact
#print axioms removeEps_spec

end Gamba
