/-
  Gamba.Props.C13d — the library's own answer key of the derivation exercises passes the library's own checker:
  for a valid CNF grammar in the simple notebook format (one character per symbol) and a non-empty word of its
  language, the text `' => '.join(''.join(e) for e in cfg_derive_word(G, w, leftmost))` is accepted by
  `check_cfg_derivation(G, text, w, leftmost / rightmost)`.
  `CFG.SimpleNames G` (Proofs/C13d): every variable is one upper-case character, every terminal one character that is
  neither upper-case nor white space nor `=` nor `>`.
-/
import Gamba.Props.C15b
import Gamba.Proofs.C13d
namespace Gamba

theorem own_derivation_ok (G : CFG) (hc : G.isChomsky = true) (hv : G.valid = true) (hS : G.S ∈ G.V) (hn : G.SimpleNames)
    (w : List String) (hw : w ≠ []) (hL : G.Lang w) (leftmost : Bool) :
    ∃ d, G.deriveWord w leftmost = .ok d ∧
      Check.derivationCheck G (Keys.printDerivation d) w (if leftmost then 1 else 2) = true := by
  obtain ⟨d, hd, hvd⟩ := cfg_derive_valid G hc hv hS w hw hL leftmost
  obtain ⟨hok, hsteps⟩ := C13d.validDerivation_facts hv hS hvd
  exact ⟨d, hd, C13d.derivationCheck_print hn hw hok hvd.1 hsteps hvd.2.2⟩

namespace C13d

/-- the grammar `C15b.exG` (S → a | A B, A → a, B → b) is written in the simple format -/
theorem exG_simple : C15b.exG.SimpleNames where
  vars := by
    intro A hA
    simp only [C15b.exG, List.mem_cons, List.not_mem_nil, or_false] at hA
    rcases hA with rfl | rfl | rfl
    · exact ⟨'S', by decide, by decide⟩
    · exact ⟨'A', by decide, by decide⟩
    · exact ⟨'B', by decide, by decide⟩
  terms := by
    intro a ha
    simp only [C15b.exG, List.mem_cons, List.not_mem_nil, or_false] at ha
    rcases ha with rfl | rfl
    · exact ⟨'a', by decide, by decide, by decide, by decide, by decide⟩
    · exact ⟨'b', by decide, by decide, by decide, by decide, by decide⟩

end C13d

-- the hypotheses hold on a concrete CNF grammar (three variables) and a word of length two
example : C15b.exG.isChomsky = true ∧ C15b.exG.valid = true ∧ C15b.exG.S ∈ C15b.exG.V ∧ C15b.exG.SimpleNames ∧
    ["a", "b"] ≠ ([] : List String) ∧ C15b.exG.Lang ["a", "b"] :=
  ⟨by decide +kernel, by decide +kernel, by decide +kernel, C13d.exG_simple, by decide +kernel, C15b.exG_lang⟩

-- the answer keys (leftmost, rightmost) ...
example : ∃ d, C15b.exG.deriveWord ["a", "b"] true = .ok d ∧ Keys.printDerivation d = "S => AB => aB => ab" :=
  ⟨_, rfl, by decide +kernel⟩
example : ∃ d, C15b.exG.deriveWord ["a", "b"] false = .ok d ∧ Keys.printDerivation d = "S => AB => Ab => ab" :=
  ⟨_, rfl, by decide +kernel⟩
example : ∃ d, C15b.exG2.deriveWord ["a", "a", "b"] true = .ok d ∧
    Keys.printDerivation d = "S => AB => AAB => aAB => aaB => aab" :=
  ⟨_, rfl, by decide +kernel⟩

-- ... are accepted by the checker, which is not trivial: the rightmost key is rejected as a leftmost derivation,
-- and so are a key for another word and a key with a skipped step
example : Check.derivationCheck C15b.exG "S => AB => aB => ab" ["a", "b"] 1 = true := by decide +kernel
example : Check.derivationCheck C15b.exG "S => AB => Ab => ab" ["a", "b"] 2 = true := by decide +kernel
example : Check.derivationCheck C15b.exG "S => AB => Ab => ab" ["a", "b"] 1 = false := by decide +kernel
example : Check.derivationCheck C15b.exG "S => AB => aB => ab" ["a", "b"] 2 = false := by decide +kernel
example : Check.derivationCheck C15b.exG "S => a" ["a", "b"] 1 = false := by decide +kernel
example : Check.derivationCheck C15b.exG "S => AB => ab" ["a", "b"] 1 = false := by decide +kernel

example : ∃ d, C15b.exG.deriveWord ["a", "b"] true = .ok d ∧
    Check.derivationCheck C15b.exG (Keys.printDerivation d) ["a", "b"] 1 = true :=
  own_derivation_ok C15b.exG (by decide +kernel) (by decide +kernel) (by decide +kernel) C13d.exG_simple ["a", "b"] (by decide +kernel)
    C15b.exG_lang true

#print axioms own_derivation_ok

end Gamba
