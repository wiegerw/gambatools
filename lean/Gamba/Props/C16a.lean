/-
  Gamba.Props.C16a — the line-oriented automaton text format.  The structural theorems of C17:
  no parser ever returns an object violating its class invariant; the builders reject nondeterministic or
  partial DFAs, missing initial states, undeclared states, repeated declarations and short transition
  lines.  C16 for DFAs: `parse_dfa (print_dfa D)` gives `D` back (as sets / as a function).
-/
import Gamba.Proofs.C16b
import Gamba.Proofs.C16c
import Gamba.Proofs.DecEq
namespace Gamba
open Parse

/-! ### structural theorems (C17) -/

/-- no parser ever returns an object violating its class invariant — for EVERY text -/
theorem parseDfa_ok_valid (text : List Char) (D : DFA String String) (h : Parse.parseDfa text = .ok D) :
    D.valid = true := (parsedDfa_of h).valid

/-- a text that is accepted (so the theorem is not vacuous): two labels on one line, a comment, a blank line -/
def C16.exText : List Char := "% a DFA\nstates p q\ninitial p\nfinal q\n\np q a b\nq q a\nq p b".toList

def C16.exDFA : DFA String String :=
  { Q := ["p", "q"], Sigma := ["a", "b"], q0 := "p", F := ["q"],
    delta := [(("p", "a"), "q"), (("p", "b"), "q"), (("q", "a"), "q"), (("q", "b"), "p")] }

-- `rw [String.toList_ofList]` turns the text literal into its list of characters before the kernel evaluates the goal
-- (the literal unifies with `String.ofList [...]`); `"…".toList` itself is slow to evaluate in the kernel
example : Parse.parseDfa C16.exText = .ok C16.exDFA := by unfold C16.exText; rw [String.toList_ofList]; decide +kernel

theorem parseNfa_ok_valid (text : List Char) (N : NFA String String) (h : Parse.parseNfa text = .ok N) :
    N.valid = true := (parsedNfa_of h).valid

example : ∃ N, Parse.parseNfa "initial p\nfinal q\np q a ε\nq q a".toList = .ok N ∧ N.Sigma = ["a"] ∧ N.eps = "ε" := by
  repeat rw [String.toList_ofList]
  exact ⟨{ Q := ["p", "q"], Sigma := ["a"], q0 := "p", F := ["q"], eps := "ε",
           delta := [(("p", "a"), ["q"]), (("p", "ε"), ["q"]), (("q", "a"), ["q"])] }, by decide +kernel, rfl, rfl⟩

theorem parsePda_ok_valid (text : List Char) (P : SPDA) (h : Parse.parsePda text = .ok P) : P.valid = true :=
  (parsedPda_of h).valid

example : ∃ P, Parse.parsePda "initial p\nfinal q\np p a,εA\np q b,Aε".toList = .ok P ∧ P.Sigma = ["a", "b"] ∧ P.Gamma = ["A"] := by
  repeat rw [String.toList_ofList]
  exact ⟨{ Q := ["p", "q"], Sigma := ["a", "b"], Gamma := ["A"], q0 := "p", F := ["q"], eps := "ε", epsG := "ε",
           delta := [(("p", "a", "ε"), [("p", "A")]), (("p", "b", "A"), [("q", "ε")])] }, by decide +kernel, rfl, rfl⟩

theorem parseTm_ok_valid (text : List Char) (T : TM String String) (h : Parse.parseTm text = .ok T) :
    T.valid = true := by
  obtain ⟨A0, _, h⟩ := Parse.parseTm_eq_ok.mp h
  obtain ⟨_, _, _, _, _, _, _, _, _, _, hc⟩ := Parse.tmOfRaw_eq_ok.mp h
  obtain ⟨rfl, hv⟩ := Parse.TM.checked_ok hc
  exact hv

example : ∃ T, Parse.parseTm "initial p\np p aa,R\np accept __,R".toList = .ok T ∧ T.Sigma = ["a"] ∧ T.blank = "_" ∧
    T.qReject = "reject" := by
  repeat rw [String.toList_ofList]
  exact ⟨{ Q := ["p", "accept", "reject"], Sigma := ["a"], Gamma := ["a", "_"], q0 := "p", qAccept := "accept",
           qReject := "reject", blank := "_", delta := [(("p", "a"), "p", "a", Dir.R), (("p", "_"), "accept", "_", Dir.R)] },
         by decide +kernel, rfl, rfl, rfl⟩

/-- two transition entries with the same source and the same symbol (at different positions of the parsed
    transition list — on one line or on two) make the DFA parser fail -/
theorem parseDfa_rejects_nondeterministic (text : List Char) (A0 : Parse.Raw)
    (h0 : Parse.parseRaw .dfa Parse.isWord text = .ok A0)
    (p : String) (a : List Char) (q q' : String) (i j : Nat) (hij : i ≠ j)
    (hi : A0.transitions[i]? = some (p, a, q)) (hj : A0.transitions[j]? = some (p, a, q')) :
    ∃ e, Parse.parseDfa text = .error e := by
  cases hres : Parse.parseDfa text with
  | error e => exact ⟨e, rfl⟩
  | ok D =>
    exfalso
    obtain ⟨A0', h0', h⟩ := Parse.parseDfa_eq_ok.mp hres
    obtain ⟨A, Sigma, h1, h2, _⟩ := Parse.dfaOfRaw_eq_ok.mp h
    rw [h0] at h0'; cases h0'
    obtain ⟨rfl, _⟩ := Parse.commonChecks_ok h1
    have hnd := Parse.hasDupPairs_eq_false_iff.mp h2
    simp only at hnd
    have hi' : (A0.transitions.map fun t => (t.1, Text.str t.2.1))[i]? = some (p, Text.str a) := by
      rw [List.getElem?_map, hi]; rfl
    have hj' : (A0.transitions.map fun t => (t.1, Text.str t.2.1))[j]? = some (p, Text.str a) := by
      rw [List.getElem?_map, hj]; rfl
    have hlt : i < (A0.transitions.map fun t => (t.1, Text.str t.2.1)).length := by
      rcases Nat.lt_or_ge i (A0.transitions.map fun t => (t.1, Text.str t.2.1)).length with h | h
      · exact h
      · rw [List.getElem?_eq_none h] at hi'; cases hi'
    exact hij ((List.getElem?_inj hlt hnd).mp (hi'.trans hj'.symm))

example : Parse.parseRaw .dfa Parse.isWord "initial p\np p a\np q a".toList =
      .ok { initial := ["p"], items := [("initial", ["p"])], transitions := [("p", ['a'], "p"), ("p", ['a'], "q")] } ∧
    Parse.parseDfa "initial p\np p a\np q a".toList = .error .runtimeError := by
  repeat rw [String.toList_ofList]
  decide +kernel

/-- every DFA that comes out of the parser is total *in the text*: each declared (state, symbol) pair has a
    transition entry among the parsed lines — a partial transition table is rejected -/
theorem parseDfa_rejects_not_total (text : List Char) (A0 : Parse.Raw)
    (h0 : Parse.parseRaw .dfa Parse.isWord text = .ok A0)
    (D : DFA String String) (h : Parse.parseDfa text = .ok D) :
    ∀ p a, p ∈ D.Q → a ∈ D.Sigma → ∃ q, (p, a.toList, q) ∈ A0.transitions := by
  obtain ⟨A0', h0', h⟩ := Parse.parseDfa_eq_ok.mp h
  obtain ⟨A, Sigma, h1, _, _, _, h5, hc⟩ := Parse.dfaOfRaw_eq_ok.mp h
  rw [h0] at h0'; cases h0'
  obtain ⟨rfl, _⟩ := DFA.checked_ok hc
  obtain ⟨rfl, _⟩ := Parse.commonChecks_ok h1
  intro p a hp ha
  simp only [List.all_eq_true, decide_eq_true_eq] at h5
  obtain ⟨t, ht, he⟩ := List.mem_map.mp (h5 p hp a ha)
  simp only [Prod.mk.injEq] at he
  obtain ⟨rfl, rfl⟩ := he
  exact ⟨t.2.2, by simpa using ht⟩

example : Parse.parseDfa "initial p\ninput_symbols a b\np p a".toList = .error .runtimeError := by
  rw [String.toList_ofList]; decide +kernel

/-- no (or more than one) initial state: the shared builder checks fail (as the DFA, NFA and PDA builders call them, with no
    extra states; `parse_tm` adds its accept and reject states, which the test of `initial` does not read) -/
theorem parse_rejects_no_initial (k : Parse.Kind) (text : List Char) (A0 : Parse.Raw)
    (_h0 : Parse.parseRaw k Parse.isWord text = .ok A0) (hi : A0.initial.length ≠ 1) :
    ∀ A, Parse.commonChecks A0 [] Parse.isWord ≠ .ok A := by
  intro A h
  exact hi (Parse.commonChecks_ok h).2.2.2

example : ∃ A0, Parse.parseRaw .dfa Parse.isWord "states p\np p a".toList = .ok A0 ∧ A0.initial.length ≠ 1 ∧
    Parse.parseDfa "states p\np p a".toList = .error .runtimeError :=
  ⟨{ states := ["p"], transitions := [("p", ['a'], "p")], items := [("states", ["p"])] }, by decide +kernel, by decide,
   by decide +kernel⟩

/-- a state that is used (initial, final, source or target of a transition) but not declared in a non-empty
    `states` declaration -/
theorem parse_rejects_undeclared_state (k : Parse.Kind) (text : List Char) (A0 : Parse.Raw)
    (_h0 : Parse.parseRaw k Parse.isWord text = .ok A0) (hs : A0.states ≠ []) (q : String)
    (hq : q ∈ Parse.usedStates A0) (hn : q ∉ A0.states) : ∀ A, Parse.commonChecks A0 [] Parse.isWord ≠ .ok A := by
  intro A h
  obtain ⟨rfl, h1, _, _⟩ := Parse.commonChecks_ok h
  have := h1 q hq
  have he : A0.states.isEmpty = false := by cases hA : A0.states <;> simp_all
  simp only [he] at this
  exact hn this

example : ∃ A0, Parse.parseRaw .dfa Parse.isWord "states p\ninitial p\np q a".toList = .ok A0 ∧ A0.states ≠ [] ∧
    "q" ∈ Parse.usedStates A0 ∧ "q" ∉ A0.states ∧
    Parse.parseDfa "states p\ninitial p\np q a".toList = .error .runtimeError := by
  repeat rw [String.toList_ofList]
  exact ⟨{ states := ["p"], transitions := [("p", ['a'], "q")], initial := ["p"], items := [("states", ["p"]), ("initial", ["p"])] },
         by decide +kernel, by decide, by decide +kernel, by decide, by decide +kernel⟩

/-- the two previous facts at the level of the DFA parser: it returns an error -/
theorem parseDfa_rejects_failed_checks (text : List Char) (A0 : Parse.Raw)
    (h0 : Parse.parseRaw .dfa Parse.isWord text = .ok A0)
    (hc : ∀ A, Parse.commonChecks A0 [] Parse.isWord ≠ .ok A) : ∃ e, Parse.parseDfa text = .error e := by
  cases hres : Parse.parseDfa text with
  | error e => exact ⟨e, rfl⟩
  | ok D =>
    obtain ⟨A0', h0', h⟩ := Parse.parseDfa_eq_ok.mp hres
    obtain ⟨A, _, h1, _⟩ := Parse.dfaOfRaw_eq_ok.mp h
    rw [h0] at h0'; cases h0'
    exact absurd h1 (hc A)

/-- a repeated declaration makes the line parser fail -/
theorem parseLine_rejects_repeated (k : Parse.Kind) (st : Parse.Raw) (line : List Char) (w0 : List Char)
    (rest : List (List Char)) (hw : Text.splitWs (Text.strip line) = w0 :: rest)
    (hkw : Text.str w0 ∈ ["states", "final", "initial"] ++ Parse.keywords k)
    (hdup : (st.items.lookup (Text.str w0)).isSome = true) :
    ∃ e, Parse.parseLine k Parse.isWord st line = .error e := by
  rw [parseLine_eq, ← Text.splitWs_strip, hw, parseWords_eq_act]
  rcases act_kw_cases rest hkw with e | ⟨e, _⟩ <;> rw [e]
  · exact ⟨_, rfl⟩
  · exact ⟨_, if_pos hdup⟩

example : Text.splitWs (Text.strip " final q ".toList) = "final".toList :: ["q".toList] ∧
    Text.str "final".toList ∈ ["states", "final", "initial"] ++ Parse.keywords .nfa ∧
    (({ items := [("final", ["p"])] } : Parse.Raw).items.lookup (Text.str "final".toList)).isSome = true ∧
    Parse.parseRaw .nfa Parse.isWord "final p\nfinal q".toList = .error .runtimeError :=
  ⟨by decide +kernel, by decide +kernel, by decide +kernel, by decide +kernel⟩

/-- a transition line with fewer than three words makes the line parser fail -/
theorem parseLine_rejects_short (k : Parse.Kind) (st : Parse.Raw) (line : List Char) (w0 : List Char)
    (rest : List (List Char)) (hw : Text.splitWs (Text.strip line) = w0 :: rest) (hc : w0.head? ≠ some '%')
    (hkw : Text.str w0 ∉ ["states", "final", "initial"] ++ Parse.keywords k) (hlen : rest.length ≤ 1) :
    ∃ e, Parse.parseLine k Parse.isWord st line = .error e := by
  rw [parseLine_eq, ← Text.splitWs_strip, hw, parseWords_eq_act, act_short hkw hc hlen]
  exact ⟨_, rfl⟩

example : Text.splitWs (Text.strip "p q".toList) = "p".toList :: ["q".toList] ∧ "p".toList.head? ≠ some '%' ∧
    Text.str "p".toList ∉ ["states", "final", "initial"] ++ Parse.keywords .tm ∧
    Parse.parseLine .tm Parse.isWord {} "p q".toList = .error .runtimeError :=
  by decide +kernel

/-! ### the DFA round trip (C16) -/

/-- `parse_dfa (print_dfa D)` succeeds and gives `D` back — same states, alphabet, initial and final states (as
    sets) and the same transition function — for every valid DFA whose transition table has no repeated key,
    whose state names are words (`\w+`) other than the four keywords of the format, and whose symbols are words.
    (`Parse.DfaNameOk` is defined in Proofs/C16a.lean.) -/
theorem parse_print_dfa (D : DFA String String) (hv : D.valid = true) (hk : (D.delta.map (·.1)).Nodup)
    (hQ : ∀ q, q ∈ D.Q → Parse.DfaNameOk q) (hS : ∀ a, a ∈ D.Sigma → Parse.isWord a.toList = true) :
    ∃ D', Parse.parseDfa (Parse.printDfa D).toList = .ok D' ∧
      (∀ q, q ∈ D'.Q ↔ q ∈ D.Q) ∧ (∀ a, a ∈ D'.Sigma ↔ a ∈ D.Sigma) ∧ D'.q0 = D.q0 ∧ (∀ q, q ∈ D'.F ↔ q ∈ D.F) ∧
      ∀ k, D'.delta.lookup k = D.delta.lookup k := by
  obtain ⟨D', hp, h⟩ := Parse.parse_print_dfa_sim D hv hk hQ hS
  exact ⟨D', hp, h.Q, h.Sigma, h.q0, h.F, h.lookup hk⟩

/-- the line parser alone: it reads back exactly the declarations and the transition entries that were
    printed (no hypothesis on repeated keys is needed here) -/
theorem parse_print_dfa_raw (D : DFA String String) (hv : D.valid = true)
    (hQ : ∀ q, q ∈ D.Q → Parse.DfaNameOk q) (hS : ∀ a, a ∈ D.Sigma → Parse.isWord a.toList = true) :
    ∃ A, Parse.parseRaw .dfa Parse.isWord (Parse.printDfa D).toList = .ok A ∧
      A.states = sortStrings (dedup D.Q) ∧ A.final = sortStrings (dedup D.F) ∧ A.initial = [D.q0] ∧
      A.items.lookup "input_symbols" = some (sortStrings (dedup D.Sigma)) ∧
      ∀ p a q, (p, a, q) ∈ A.transitions ↔ ((p, Text.str a), q) ∈ D.delta ∧ a = (Text.str a).toList :=
  ⟨_, Parse.parseRaw_printDfa D hv hQ hS, rfl, rfl, rfl, rfl, by
    intro p a q
    show (p, a, q) ∈ Parse.transOf (Parse.dfaTrans D) ↔ _
    rw [Parse.mem_transOf]
    constructor
    · rintro ⟨t, ht, he⟩
      obtain ⟨⟨⟨p', a'⟩, q'⟩, hm, rfl⟩ := List.mem_map.mp ht
      simp only [Prod.mk.injEq] at he
      obtain ⟨rfl, rfl, rfl⟩ := he
      simpa using hm
    · rintro ⟨hm, ha⟩
      exact ⟨(p, q, Text.str a), List.mem_map.mpr ⟨_, hm, rfl⟩, by simp⟩⟩

/-- a 2-state DFA with no accepting state, unsorted declarations and two labels on one edge -/
def C16.exD : DFA String String :=
  { Q := ["q", "p"], Sigma := ["b", "a"], q0 := "p", F := [],
    delta := [(("p", "b"), "q"), (("p", "a"), "q"), (("q", "a"), "q"), (("q", "b"), "p")] }

/-- the hypotheses of `parse_print_dfa` hold for it -/
example : C16.exD.valid = true ∧ (C16.exD.delta.map (·.1)).Nodup ∧ (∀ q, q ∈ C16.exD.Q → Parse.DfaNameOk q) ∧
    (∀ a, a ∈ C16.exD.Sigma → Parse.isWord a.toList = true) := by
  refine ⟨by decide +kernel, by decide +kernel, ?_, by decide +kernel⟩
  unfold Parse.DfaNameOk
  decide

-- the kernel cannot evaluate `sortStrings` (a `mergeSort`); `sortStrings_eq_isort` (Proofs/TextBasic) replaces it by an
-- insertion sort that it can
theorem C16.exD_print :
    Parse.printDfa C16.exD = "states p q\nfinal \ninitial p\ninput_symbols a b\np q b a\nq p b\nq q a" := by
  simp only [Parse.printDfa, Parse.transLines, sortStrings_eq_isort]
  decide +kernel

/-- … and the round trip evaluated: the sets come back sorted, the transition entries in printing order -/
example : Parse.parseDfa (Parse.printDfa C16.exD).toList =
    .ok { C16.exD with Q := ["p", "q"], Sigma := ["a", "b"],
                       delta := [(("p", "b"), "q"), (("p", "a"), "q"), (("q", "b"), "p"), (("q", "a"), "q")] } := by
  rw [C16.exD_print, String.toList_ofList]; decide +kernel

/-- the name condition is needed: a state called `final` prints as a second `final` declaration -/
example : Parse.parseDfa "states final p\nfinal final\ninitial p\ninput_symbols a\nfinal final a\np final a".toList =
    .error .runtimeError := by rw [String.toList_ofList]; decide +kernel

/-- the condition on repeated keys is needed: a table listing `(p, a)` twice prints as `p p a a`, which the
    determinism check rejects -/
example : Parse.parseDfa "states p\nfinal \ninitial p\ninput_symbols a\np p a a".toList = .error .runtimeError := by
  rw [String.toList_ofList]; decide +kernel

#print axioms parseDfa_ok_valid
#print axioms parseNfa_ok_valid
#print axioms parsePda_ok_valid
#print axioms parseTm_ok_valid
#print axioms parseDfa_rejects_nondeterministic
#print axioms parseDfa_rejects_not_total
#print axioms parse_rejects_no_initial
#print axioms parse_rejects_undeclared_state
#print axioms parseDfa_rejects_failed_checks
#print axioms parseLine_rejects_repeated
#print axioms parseLine_rejects_short
#print axioms parse_print_dfa
#print axioms parse_print_dfa_raw

end Gamba
