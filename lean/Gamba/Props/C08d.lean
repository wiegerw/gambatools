/-
  Gamba.Props.C08d — the whole Chomsky-normal-form conversion (`CFG.toChomsky`, the phase selector
  `CFG.applyChomsky`) and membership for arbitrary grammars (`CFG.accepts`), obtained by composing
  the phase theorems of `Gamba/Props/C08a.lean` (phases 1, 2), `C08b.lean` (phase 3), `C08c.lean`
  (phases 4, 5) and the CNF membership theorem of `C07.lean`.

  Hypotheses: `G.valid`, `G.S ∈ G.V` (not checked by `valid`), the aliasing invariant `AliasOK`
  (rules sharing an `Alternative` carry the same right-hand side; any parsed grammar has it), and
  `hd`: terminals and variables — including the start variable that phase 1 introduces — are
  disjoint as strings (phase 3 tests `rhs[0] in V` on strings).  The parsers make every terminal a lower-case letter but
  take any `\w+` word as a left-hand side, so a parsed grammar has `hd` unless a left-hand side is a single lower-case
  letter (`a -> ab` parses with `a` in `V` and in `Σ`).
  `AliasOK G` is carried by the statements and not used (phase 2 renumbers the alternatives, so phases 4 and 5 get the
  invariant whatever the input); `cfg_accepts_spec` is membership without it, and with `hd` only where `G` is not in CNF already.
-/
import Gamba.Proofs.C08d
import Gamba.Props.C07
namespace Gamba

namespace CFG
namespace C08d

/-- the first two phases need no disjointness -/
theorem pipe12 (G : CFG) (start : String) (hv : G.valid = true) (hS : G.S ∈ G.V) :
    (∀ w, (G.addStart start).Lang w ↔ G.Lang w) ∧
    (∀ w, (G.addStart start).removeEps.Lang w ↔ G.Lang w) :=
  have h : After G start 1 (G.addStart start) := (After.zero hv hS).addStart
  ⟨h.lang After.vac, h.removeEps.lang After.vac⟩

end C08d
end CFG

/-- the grammar `S → aSb | ε | T`, `T → c` (an ε-rule, a unit rule, a rule of length 3, the start
    variable on a right-hand side) -/
def C08d.exG : CFG :=
  { V := ["S", "T"], Sigma := ["a", "b", "c"], S := "S",
    R := [⟨"S", 0, [.t "a", .v "S", .t "b"]⟩, ⟨"S", 1, []⟩, ⟨"S", 2, [.v "T"]⟩, ⟨"T", 3, [.t "c"]⟩] }

theorem C08d.exG_valid : C08d.exG.valid = true := by decide
theorem C08d.exG_S : C08d.exG.S ∈ C08d.exG.V := by decide
theorem C08d.exG_alias : CFG.AliasOK C08d.exG := CFG.C08c.aliasOK_of_b (by decide)
theorem C08d.exG_fresh : CFG.freshVariable C08d.exG.V "S" = "A" := by decide
theorem C08d.exG_disj : ∀ a, a ∈ C08d.exG.Sigma → a ∉ C08d.exG.V ∧ a ≠ CFG.freshVariable C08d.exG.V "S" := by
  decide

/-- `a c b ∈ L(exG)` : S ⇒ aSb ⇒ aTb ⇒ acb -/
theorem C08d.exG_lang_acb : C08d.exG.Lang ["a", "c", "b"] := by
  have hS : C08d.exG.HasRule "S" [.t "a", .v "S", .t "b"] := ⟨⟨"S", 0, _⟩, by decide, rfl, rfl⟩
  have hST : C08d.exG.HasRule "S" [.v "T"] := ⟨⟨"S", 2, _⟩, by decide, rfl, rfl⟩
  have hT : C08d.exG.HasRule "T" [.t "c"] := ⟨⟨"T", 3, _⟩, by decide, rfl, rfl⟩
  have hTc : C08d.exG.Gen [.v "T"] ["c"] := CFG.Gen.v (u := ["c"]) (w := []) hT (.t .nil) .nil
  have hSc : C08d.exG.Gen [.v "S"] ["c"] := CFG.Gen.v (u := ["c"]) (w := []) hST hTc .nil
  exact CFG.Gen.v (u := ["a", "c", "b"]) (w := []) hS
    (.t (CFG.Gen.v (u := ["c"]) (w := ["b"]) hST hTc (.t .nil))) .nil

/-- the whole pipeline: a valid grammar in, an equivalent valid CNF grammar out -/
theorem toChomsky_spec (G : CFG) (hv : G.valid = true) (hS : G.S ∈ G.V) (ha : CFG.AliasOK G)
    (hd : ∀ a, a ∈ G.Sigma → a ∉ G.V ∧ a ≠ CFG.freshVariable G.V "S") :
    (G.toChomsky).valid = true ∧ (G.toChomsky).isChomsky = true ∧ (G.toChomsky).S ∈ (G.toChomsky).V ∧
    (∀ A, A ∈ G.V → A ∈ (G.toChomsky).V) ∧ (G.toChomsky).Sigma = G.Sigma ∧
    ∀ w, (G.toChomsky).Lang w ↔ G.Lang w :=
  have _ := ha
  have h := CFG.C08d.toChomsky_eq_applyChomsky G ▸ CFG.after_applyChomsky G 5 "S" hv hS
  ⟨h.valid, h.isChomsky hd, h.S_mem, h.V, h.Sigma, h.lang fun _ => hd⟩

example : C08d.exG.toChomsky.valid = true ∧ C08d.exG.toChomsky.isChomsky = true ∧
    C08d.exG.toChomsky.Lang ["a", "c", "b"] := by
  obtain ⟨h1, h2, _, _, _, h6⟩ :=
    toChomsky_spec C08d.exG C08d.exG_valid C08d.exG_S C08d.exG_alias C08d.exG_disj
  exact ⟨h1, h2, (h6 _).mpr C08d.exG_lang_acb⟩

/-- the first three phases on the example, written out (new start variable `A`; the rules copied by
    phase 3 share the `Alternative` of the rule they come from) -/
example : (C08d.exG.applyChomsky 3 "S").S = "A" ∧ (C08d.exG.applyChomsky 3 "S").V = ["S", "T", "A"] ∧
    (C08d.exG.applyChomsky 3 "S").R =
      [⟨"A", 6, []⟩, ⟨"S", 7, [.t "a", .v "S", .t "b"]⟩, ⟨"S", 8, [.t "a", .t "b"]⟩, ⟨"T", 10, [.t "c"]⟩,
       ⟨"S", 10, [.t "c"]⟩, ⟨"A", 7, [.t "a", .v "S", .t "b"]⟩, ⟨"A", 8, [.t "a", .t "b"]⟩,
       ⟨"A", 10, [.t "c"]⟩] := by
  decide +kernel

/-- membership under the hypotheses the proof needs: a grammar already in CNF is taken as it is, any other one is converted,
    and only then must terminals be apart from variables; `AliasOK` plays no role -/
theorem cfg_accepts_spec {G : CFG} (hv : G.valid = true) (hS : G.S ∈ G.V)
    (hside : G.isChomsky = true ∨ CFG.Apart G "S") (w : List String) :
    ∃ b, G.accepts w = .ok b ∧ (b = true ↔ G.Lang w) := by
  cases hc : G.isChomsky with
  | true => exact cfg_accepts_cnf_iff_of_valid G hc hS hv w
  | false =>
    have hd := hside.resolve_left (by simp [hc])
    have h := CFG.C08d.toChomsky_eq_applyChomsky G ▸ CFG.after_applyChomsky G 5 "S" hv hS
    rw [CFG.C08d.accepts_of_not_chomsky G w hc (h.isChomsky hd)]
    obtain ⟨b, hb, hiff⟩ := cfg_accepts_cnf_iff_of_valid G.toChomsky (h.isChomsky hd) h.S_mem h.valid w
    exact ⟨b, hb, hiff.trans (h.lang (fun _ => hd) w)⟩

/-- the same as an equivalence, for a verdict that is given -/
theorem cfg_accepts_ok_iff {G : CFG} (hv : G.valid = true) (hS : G.S ∈ G.V)
    (hside : G.isChomsky = true ∨ CFG.Apart G "S") (w : List String) (b : Bool) :
    G.accepts w = .ok b ↔ (b = true ↔ G.Lang w) := by
  obtain ⟨b', hb', hiff⟩ := cfg_accepts_spec hv hS hside w
  rw [hb', Except.ok.injEq, ← hiff, ← Bool.eq_iff_iff, eq_comm]

/-- … and as rewrite rules, one per answer: what a statement says of the test it then says of the language -/
theorem cfg_accepts_true_iff {G : CFG} (hv : G.valid = true) (hS : G.S ∈ G.V)
    (hside : G.isChomsky = true ∨ CFG.Apart G "S") (w : List String) :
    G.accepts w = .ok true ↔ G.Lang w := by
  rw [cfg_accepts_ok_iff hv hS hside, eq_self_iff_true, true_iff]

theorem cfg_accepts_false_iff {G : CFG} (hv : G.valid = true) (hS : G.S ∈ G.V)
    (hside : G.isChomsky = true ∨ CFG.Apart G "S") (w : List String) :
    G.accepts w = .ok false ↔ ¬ G.Lang w := by
  rw [cfg_accepts_ok_iff hv hS hside, Bool.false_eq_true, false_iff]

/-- membership for ARBITRARY grammars (ε-rules, unit rules, cycles, useless rules): the test answers exactly `w ∈ L(G)` -/
theorem cfg_accepts_iff (G : CFG) (hv : G.valid = true) (hS : G.S ∈ G.V) (ha : CFG.AliasOK G)
    (hd : ∀ a, a ∈ G.Sigma → a ∉ G.V ∧ a ≠ CFG.freshVariable G.V "S") (w : List String) :
    ∃ b, G.accepts w = .ok b ∧ (b = true ↔ G.Lang w) :=
  have _ := ha
  cfg_accepts_spec hv hS (Or.inr hd) w

/-- the example grammar is not in CNF (so `accepts` converts it), and `acb` is accepted -/
example : C08d.exG.isChomsky = false ∧ C08d.exG.accepts ["a", "c", "b"] = .ok true := by
  refine ⟨by decide +kernel, ?_⟩
  obtain ⟨b, hb, hiff⟩ :=
    cfg_accepts_iff C08d.exG C08d.exG_valid C08d.exG_S C08d.exG_alias C08d.exG_disj ["a", "c", "b"]
  rw [hb, hiff.mpr C08d.exG_lang_acb]

/-- the phase selector used by the exercise: every prefix of the pipeline preserves the language -/
theorem applyChomsky_lang (G : CFG) (phase : Nat) (start : String) (hv : G.valid = true) (hS : G.S ∈ G.V) (ha : CFG.AliasOK G)
    (hd : ∀ a, a ∈ G.Sigma → a ∉ G.V ∧ a ≠ CFG.freshVariable G.V start) (w : List String) :
    (G.applyChomsky phase start).Lang w ↔ G.Lang w :=
  have _ := ha
  (CFG.after_applyChomsky G phase start hv hS).lang (fun _ => hd) w

/-- with the start hint `"T"` (already a variable) the new start variable is `A` as well -/
example : CFG.freshVariable C08d.exG.V "T" = "A" ∧
    ∀ a, a ∈ C08d.exG.Sigma → a ∉ C08d.exG.V ∧ a ≠ CFG.freshVariable C08d.exG.V "T" := by decide +kernel

example (phase : Nat) : (C08d.exG.applyChomsky phase "T").Lang ["a", "c", "b"] :=
  (applyChomsky_lang C08d.exG phase "T" C08d.exG_valid C08d.exG_S C08d.exG_alias (by decide +kernel) _).mpr
    C08d.exG_lang_acb

#print axioms toChomsky_spec
#print axioms cfg_accepts_iff
#print axioms applyChomsky_lang

end Gamba
