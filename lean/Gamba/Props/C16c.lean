/-
  Gamba.Props.C16c — the PDA and TM text formats: the parsers build exactly what was written (C17), and
  `parse_pda (print_pda P)`, `parse_tm (print_tm T)` give the automaton back (C16).
-/
import Gamba.Proofs.C16c
import Gamba.Proofs.DecEq
namespace Gamba
open Parse

/-! ### C17 — the parsers build exactly what was written -/

/-- `parse_pda` builds exactly what was written: the states are the declared ones (else the used ones), the initial and
    final states are the declared ones, ε is one string for both roles, and `(q, v) ∈ δ(p, a, u)` exactly when some
    transition entry `p q a,uv` was read (`a`, `u`, `v` one character each).  Moreover a declared `epsilon`,
    `input_symbols`, `stack_symbols` is taken as written, and an undeclared input alphabet is the set of first label
    characters other than ε. -/
theorem parsePda_builds (text : List Char) (P : SPDA) (h : Parse.parsePda text = .ok P) :
    ∃ A0, Parse.parseRaw .pda Parse.isWord text = .ok A0 ∧
      P.Q = (if A0.states.isEmpty then Parse.usedStates A0 else A0.states) ∧ A0.initial = [P.q0] ∧ P.F = A0.final ∧
      P.epsG = P.eps ∧
      (∀ p a u q v, (q, v) ∈ (P.delta.lookup (p, a, u)).getD [] ↔
          ∃ l, (p, l, q) ∈ A0.transitions ∧ l = a.toList ++ [','] ++ u.toList ++ v.toList ∧
            a.length = 1 ∧ u.length = 1 ∧ v.length = 1) ∧
      (∀ v, A0.items.lookup "epsilon" = some [v] → P.eps = v) ∧
      (∀ d, A0.items.lookup "input_symbols" = some d → ∀ a, a ∈ P.Sigma ↔ a ∈ d) ∧
      (∀ d, A0.items.lookup "stack_symbols" = some d → ∀ x, x ∈ P.Gamma ↔ x ∈ d) ∧
      (A0.items.lookup "input_symbols" = none → ∀ a, a ∈ P.Sigma ↔
          a ≠ P.eps ∧ ∃ p l q c, (p, l, q) ∈ A0.transitions ∧ l.head? = some c ∧ a = String.singleton c) := by
  obtain ⟨A0, h0, h⟩ := parsePda_eq_ok.mp h
  obtain ⟨A, eps, Sigma, Gamma, h1, h2, h3, h4, _, h⟩ := pdaOfRaw_eq_ok.mp h
  obtain ⟨rfl, hv⟩ := PDA.checked_ok h
  obtain ⟨rfl, hu, hok, hi⟩ := commonChecks_ok h1
  have hlab := parseRaw_labels h0
  refine ⟨A0, h0, ?_, ?_, rfl, rfl, ?_, ?_, ?_, ?_, ?_⟩
  · simp only [List.append_nil]
    rw [usedStates, dedup_dedup]
  · exact initial_eq_of_length hi
  · intro p a u q v
    show (q, v) ∈ ((pdaDelta A0.transitions).lookup (p, a, u)).getD [] ↔ _
    simp only [mem_pdaDelta_lookup, List.mem_map, pdaDec, Prod.mk.injEq]
    constructor
    · rintro ⟨⟨p', l, q'⟩, ht, ⟨rfl, rfl, rfl⟩, rfl, rfl⟩
      obtain ⟨a', u', v', rfl, _⟩ := labelOk_pda (hlab _ ht)
      exact ⟨_, ht, by simp [ch], by simp [ch], by simp [ch], by simp [ch]⟩
    · rintro ⟨l, ht, rfl, ha, hu', hv'⟩
      obtain ⟨a', rfl⟩ := eq_singleton_of_length ha
      obtain ⟨u', rfl⟩ := eq_singleton_of_length hu'
      obtain ⟨v', rfl⟩ := eq_singleton_of_length hv'
      exact ⟨_, ht, by simp [ch], by simp [ch]⟩
  · intro v hv'
    have := parseSymbol_ok h2
    rwa [show List.lookup "epsilon" A0.items = some [v] from hv'] at this
  · intro d hd a
    rw [((getSymbolSet_some hd).mp h3).2, mem_dedup]
  · intro d hd a
    rw [((getSymbolSet_some hd).mp h4).2, mem_dedup]
  · intro hd a
    rw [(getSymbolSet_none hd).mp h3]
    simp only [pdaUsedIn, mem_dedup, List.mem_filter, List.mem_map, ne_eq, decide_eq_true_eq]
    constructor
    · rintro ⟨⟨⟨p, l, q⟩, ht, rfl⟩, hne⟩
      obtain ⟨a', u', v', rfl, _⟩ := labelOk_pda (hlab _ ht)
      exact ⟨hne, p, _, q, a', ht, rfl, rfl⟩
    · rintro ⟨hne, p, l, q, c, ht, hc, rfl⟩
      refine ⟨⟨(p, l, q), ht, ?_⟩, hne⟩
      obtain ⟨a', u', v', rfl, _⟩ := labelOk_pda (hlab _ ht)
      simp only [List.head?_cons, Option.some.injEq] at hc
      subst hc; rfl

/-- an accepted text: two labels on one line, ε in all three positions -/
example : Parse.parsePda "initial p\nfinal q\np p a,εA a,εB\np q b,Aε ε,εε".toList =
    .ok { Q := ["p", "q"], Sigma := ["a", "b"], Gamma := ["B", "A"], q0 := "p", F := ["q"], eps := "ε", epsG := "ε",
          delta := [(("p", "a", "ε"), [("p", "A"), ("p", "B")]), (("p", "b", "A"), [("q", "ε")]),
                    (("p", "ε", "ε"), [("q", "ε")])] } := by rw [String.toList_ofList]; decide +kernel

/-- `parse_tm` builds exactly what was written: initial / accept / reject / blank as declared; the input alphabet is the
    declared one — also when it is declared EMPTY — and `Γ ∖ {blank}` when there is no declaration; the blank is a
    tape symbol; and `δ(p, x) = (q, y, d)` exactly when `x`, `y` are single characters `a`, `b` and the LAST
    transition entry from `p` whose label starts with `a` is `p q ab,d` (`delta[(p, a)] = …` overwrites). -/
theorem parseTm_builds (text : List Char) (T : TM String String) (h : Parse.parseTm text = .ok T) :
    ∃ A0, Parse.parseRaw .tm Parse.isWord text = .ok A0 ∧ A0.initial = [T.q0] ∧
      (∀ v, A0.items.lookup "accept" = some [v] → T.qAccept = v) ∧
      (∀ v, A0.items.lookup "reject" = some [v] → T.qReject = v) ∧
      (A0.items.lookup "input_symbols" = none → ∀ a, a ∈ T.Sigma ↔ (a ∈ T.Gamma ∧ a ≠ T.blank)) ∧
      (∀ d, A0.items.lookup "input_symbols" = some d → ∀ a, a ∈ T.Sigma ↔ a ∈ d) ∧ T.blank ∈ T.Gamma ∧
      (∀ p x q y d, T.delta.lookup (p, x) = some (q, y, d) ↔
        ∃ a b pre post, x = String.singleton a ∧ y = String.singleton b ∧
          A0.transitions = pre ++ (p, [a, b, ','] ++ (dirStr d).toList, q) :: post ∧
          ∀ t, t ∈ post → ¬ (t.1 = p ∧ t.2.1.head? = some a)) ∧
      (∀ v, A0.items.lookup "blank" = some [v] → T.blank = v) ∧
      (∀ d, A0.items.lookup "tape_symbols" = some d → ∀ x, x ∈ T.Gamma ↔ x ∈ d ∨ x = T.blank) := by
  obtain ⟨A0, h0, h⟩ := parseTm_eq_ok.mp h
  obtain ⟨qa, qr, A, blank, tape, ha, hr, h1, h2, h3, h⟩ := tmOfRaw_eq_ok.mp h
  obtain ⟨rfl, hv⟩ := TM.checked_ok h
  obtain ⟨rfl, hu, hok, hi⟩ := commonChecks_ok h1
  have hlab := parseRaw_labels h0
  refine ⟨A0, h0, initial_eq_of_length hi, fun v hd => getState_declared ha hd, fun v hd => getState_declared hr hd,
    ?_, ?_, by simp, ?_, ?_, ?_⟩
  · intro hd a
    show a ∈ tmSigma _ tape blank ↔ a ∈ sinsert tape blank ∧ a ≠ blank
    have : List.lookup "input_symbols" A0.items = none := hd
    simp only [tmSigma, this, List.mem_filter, mem_sinsert, ne_eq, decide_eq_true_eq]
    constructor
    · rintro ⟨h1, h2⟩; exact ⟨Or.inl h1, h2⟩
    · rintro ⟨h1 | h1, h2⟩
      · exact ⟨h1, h2⟩
      · exact absurd h1 h2
  · intro d hd a
    show a ∈ tmSigma _ tape blank ↔ _
    have : List.lookup "input_symbols" A0.items = some d := hd
    simp only [tmSigma, this, mem_dedup]
  · intro p x q y d
    show (tmDelta A0.transitions).lookup (p, x) = some (q, y, d) ↔ _
    unfold tmDelta
    rw [Dict.lookup_foldl_set (fun t : String × Word × String => (t.1, ch t.2.1 0))
      (fun t => (t.2.2, ch t.2.1 1, tmDir t.2.1))]
    simp only [List.lookup_nil, false_and, or_false, reduceCtorEq]
    constructor
    · rintro ⟨pre, ⟨p', l, q'⟩, post, he, hk, hv', hpost⟩
      simp only [Prod.mk.injEq] at hk hv'
      obtain ⟨rfl, rfl⟩ := hk
      obtain ⟨rfl, rfl, rfl⟩ := hv'
      have ht : (p', l, q') ∈ A0.transitions := by rw [he]; simp
      obtain ⟨a, b, dc, rfl, _, _, hdc⟩ := labelOk_tm (hlab _ ht)
      refine ⟨a, b, pre, post, rfl, rfl, ?_, ?_⟩
      · rw [he]
        rcases hdc with rfl | rfl <;> simp [tmDir, dirStr]
      · rintro ⟨p2, l2, q2⟩ ht2 ⟨hp2, hh⟩
        apply hpost _ ht2
        cases l2 with
        | nil => cases hh
        | cons c cs =>
          simp only [List.head?_cons, Option.some.injEq] at hh hp2
          subst hh hp2; rfl
    · rintro ⟨a, b, pre, post, rfl, rfl, he, hpost⟩
      refine ⟨pre, _, post, he, rfl, ?_, ?_⟩
      · simp only [Prod.mk.injEq, true_and]
        exact ⟨rfl, by cases d <;> simp [tmDir, dirStr]⟩
      · rintro ⟨p2, l2, q2⟩ ht2 hk
        apply hpost _ ht2
        have ht : (p2, l2, q2) ∈ A0.transitions := by rw [he]; simp [ht2]
        obtain ⟨a2, b2, dc, rfl, _⟩ := labelOk_tm (hlab _ ht)
        simp only [ch, List.getD_cons_zero, Prod.mk.injEq, String.singleton_inj] at hk
        simp [hk.1, hk.2]
  · intro v hv'
    have := parseSymbol_ok h2
    rwa [show List.lookup "blank" A0.items = some [v] from hv'] at this
  · intro d hd x
    rw [((getSymbolSet_some hd).mp h3).2]
    simp

/-- an accepted text in which `(p, a)` is written twice: the last entry wins; the declared empty input alphabet
    stays empty -/
example : Parse.parseTm "initial p\ninput_symbols\np p aa,R\np q ab,L\np accept __,R".toList =
    .ok { Q := ["q", "p", "accept", "reject"], Sigma := [], Gamma := ["a", "b", "_"], q0 := "p",
          qAccept := "accept", qReject := "reject", blank := "_",
          delta := [(("p", "a"), ("q", "b", Dir.L)), (("p", "_"), ("accept", "_", Dir.R))] } := by
  rw [String.toList_ofList]; decide +kernel

/-! ### C16 — the TM and PDA round trips -/

/-- `parse_tm (print_tm T)` succeeds and gives `T` back — same states, input alphabet, tape alphabet (as sets), same
    initial / accepting / rejecting state and blank, same transition function — for every valid TM whose transition table
    has no repeated key, whose state names are words other than the keywords of the format, and whose tape symbols are
    single characters of the label class `[\w~!@#$%^&*□]`.  In particular an EMPTY input alphabet comes back empty
    (the `input_symbols` line is printed even then).  (`Parse.TmNameOk`, `Parse.Char1` are defined in Proofs/C16c.lean;
    the hypothesis on the blank follows from the one on `Γ` since `blank ∈ Γ`, it is kept for readability.) -/
theorem parse_print_tm (T : TM String String) (hv : T.valid = true) (hk : (T.delta.map (·.1)).Nodup)
    (hQ : ∀ q, q ∈ T.Q → Parse.TmNameOk q)
    (hG : ∀ x, x ∈ T.Gamma → Parse.Char1 (Parse.isLabelSym true) x)
    (_hb : Parse.Char1 (Parse.isLabelSym true) T.blank) :
    ∃ T', Parse.parseTm (Parse.printTm T).toList = .ok T' ∧
      (∀ q, q ∈ T'.Q ↔ q ∈ T.Q) ∧ (∀ a, a ∈ T'.Sigma ↔ a ∈ T.Sigma) ∧ (∀ x, x ∈ T'.Gamma ↔ x ∈ T.Gamma) ∧
      T'.q0 = T.q0 ∧ T'.qAccept = T.qAccept ∧ T'.qReject = T.qReject ∧ T'.blank = T.blank ∧
      ∀ k, T'.delta.lookup k = T.delta.lookup k := by
  obtain ⟨T', hp, _, hQ', hS', hG', h0, ha, hr, hb', hd'⟩ := Parse.parse_print_tm_explicit T hv hk hQ hG
  have hbG : T.blank ∈ T.Gamma := ((TM.valid_iff T).mp hv).2.2.2.2.2.1
  refine ⟨T', hp, ?_, ?_, ?_, h0, ha, hr, hb', ?_⟩
  · intro q; rw [hQ']; exact mem_sortStrings_dedup
  · intro a; rw [hS', mem_dedup]; exact mem_sortStrings_dedup
  · intro x
    rw [hG', mem_sinsert, mem_dedup, mem_sortStrings_dedup]
    constructor
    · rintro (h | rfl)
      · exact h
      · exact hbG
    · exact Or.inl
  · intro k
    exact lookup_eq_of_perm hd' ((hd'.map (·.1)).nodup_iff.mpr hk) k

/-- a TM with an EMPTY input alphabet (it writes `x` on the blank tape, steps back and accepts) -/
def C16.exT : TM String String :=
  { Q := ["s", "qr", "qa"], Sigma := [], Gamma := ["x", "_"], q0 := "s", qAccept := "qa", qReject := "qr", blank := "_",
    delta := [(("s", "_"), ("s", "x", Dir.R)), (("s", "x"), ("qa", "_", Dir.L))] }

/-- the hypotheses of `parse_print_tm` hold for it -/
example : C16.exT.valid = true ∧ (C16.exT.delta.map (·.1)).Nodup ∧ (∀ q, q ∈ C16.exT.Q → Parse.TmNameOk q) ∧
    (∀ x, x ∈ C16.exT.Gamma → Parse.Char1 (Parse.isLabelSym true) x) ∧
    Parse.Char1 (Parse.isLabelSym true) C16.exT.blank := by
  refine ⟨by decide +kernel, by decide +kernel, ?_, ?_, ⟨'_', rfl, by decide +kernel⟩⟩
  · unfold Parse.TmNameOk; decide
  · intro x hx
    simp only [C16.exT, List.mem_cons, List.not_mem_nil, or_false] at hx
    rcases hx with rfl | rfl
    · exact ⟨'x', rfl, by decide +kernel⟩
    · exact ⟨'_', rfl, by decide +kernel⟩

theorem C16.exT_print : Parse.printTm C16.exT =
    "states qa qr s\ninitial s\naccept qa\nreject qr\ninput_symbols \ntape_symbols _ x\nblank _\ns qa x_,L\ns s _x,R\n" := by
  simp only [Parse.printTm, Parse.transLines, sortStrings_eq_isort]
  decide +kernel

/-- … and the round trip evaluated: the sets come back sorted, the transition entries in printing order, the input
    alphabet EMPTY -/
example : Parse.parseTm (Parse.printTm C16.exT).toList =
    .ok { C16.exT with Q := ["qa", "qr", "s"], Sigma := [], Gamma := ["_", "x"],
                       delta := [(("s", "x"), ("qa", "_", Dir.L)), (("s", "_"), ("s", "x", Dir.R))] } := by
  rw [C16.exT_print, String.toList_ofList]; decide +kernel

/-- the name condition is needed: a source state called `accept` prints a second `accept` declaration -/
example : Parse.parseTm "states accept r\ninitial accept\naccept accept\nreject r\ninput_symbols \ntape_symbols _\nblank _\naccept r __,R\n".toList =
    .error .runtimeError := by rw [String.toList_ofList]; decide +kernel

/-- `parse_pda (print_pda P)` succeeds and gives `P` back — same states, alphabets, final states (as sets), same initial
    state and ε, and the same transition relation — for every valid PDA whose transition table has no repeated key,
    whose ε is one string for both roles, whose state names are words other than the keywords of the format, whose
    input symbols and ε are single `\w` characters and whose stack symbols are single characters of the label class
    `[\w~!@#$%^&*]`.  (`Parse.PdaNameOk`, `Parse.Char1` are defined in Proofs/C16c.lean.) -/
theorem parse_print_pda (P : SPDA) (hv : P.valid = true) (hk : (P.delta.map (·.1)).Nodup) (heq : P.epsG = P.eps)
    (hQ : ∀ q, q ∈ P.Q → Parse.PdaNameOk q)
    (hS : ∀ a, a ∈ P.Sigma → Parse.Char1 Text.isWordChar a)
    (hG : ∀ x, x ∈ P.Gamma → Parse.Char1 (Parse.isLabelSym false) x)
    (he : Parse.Char1 Text.isWordChar P.eps) :
    ∃ P', Parse.parsePda (Parse.printPda P).toList = .ok P' ∧
      (∀ q, q ∈ P'.Q ↔ q ∈ P.Q) ∧ (∀ a, a ∈ P'.Sigma ↔ a ∈ P.Sigma) ∧ (∀ x, x ∈ P'.Gamma ↔ x ∈ P.Gamma) ∧
      P'.q0 = P.q0 ∧ (∀ q, q ∈ P'.F ↔ q ∈ P.F) ∧ P'.eps = P.eps ∧ P'.epsG = P.epsG ∧
      ∀ k t, t ∈ (P'.delta.lookup k).getD [] ↔ t ∈ (P.delta.lookup k).getD [] := by
  obtain ⟨P', hp, _, hQ', hS', hG', h0, hF', he1, he2, hd'⟩ :=
    Parse.parse_print_pda_explicit P ⟨hv, heq, hS, hG, he⟩ hk hQ
  refine ⟨P', hp, ?_, ?_, ?_, h0, ?_, he1, he2.trans heq.symm, hd'⟩
  · intro q; rw [hQ']; exact mem_sortStrings_dedup
  · intro a; rw [hS', mem_dedup]; exact mem_sortStrings_dedup
  · intro x; rw [hG', mem_dedup]; exact mem_sortStrings_dedup
  · intro q; rw [hF']; exact mem_sortStrings_dedup

/-- an `aⁿbⁿ`-style PDA with single-character symbols (`C09.exPDA` itself calls ε `"eps"`, which the label syntax
    cannot carry); `δ(p, a, ε)` has two targets, printed on one line -/
def C16.exP : SPDA :=
  { Q := ["s", "p", "q", "f"], Sigma := ["b", "a"], Gamma := ["A", "$"],
    delta := [(("s", "ε", "ε"), [("p", "$")]), (("p", "a", "ε"), [("p", "A"), ("p", "$")]),
              (("p", "ε", "ε"), [("q", "ε")]), (("q", "b", "A"), [("q", "ε")]), (("q", "ε", "$"), [("f", "ε")])],
    q0 := "s", F := ["f"], eps := "ε", epsG := "ε" }

/-- the hypotheses of `parse_print_pda` hold for it -/
example : C16.exP.valid = true ∧ (C16.exP.delta.map (·.1)).Nodup ∧ C16.exP.epsG = C16.exP.eps ∧
    (∀ q, q ∈ C16.exP.Q → Parse.PdaNameOk q) ∧ (∀ a, a ∈ C16.exP.Sigma → Parse.Char1 Text.isWordChar a) ∧
    (∀ x, x ∈ C16.exP.Gamma → Parse.Char1 (Parse.isLabelSym false) x) ∧ Parse.Char1 Text.isWordChar C16.exP.eps := by
  refine ⟨by decide +kernel, by decide +kernel, rfl, ?_, ?_, ?_, ⟨'ε', rfl, by decide +kernel⟩⟩
  · unfold Parse.PdaNameOk; decide
  · intro x hx
    simp only [C16.exP, List.mem_cons, List.not_mem_nil, or_false] at hx
    rcases hx with rfl | rfl
    · exact ⟨'b', rfl, by decide +kernel⟩
    · exact ⟨'a', rfl, by decide +kernel⟩
  · intro x hx
    simp only [C16.exP, List.mem_cons, List.not_mem_nil, or_false] at hx
    rcases hx with rfl | rfl
    · exact ⟨'A', rfl, by decide +kernel⟩
    · exact ⟨'$', rfl, by decide +kernel⟩

theorem C16.exP_print : Parse.printPda C16.exP =
    "states f p q s\nfinal f\ninitial s\ninput_symbols a b\nstack_symbols $ A\nepsilon ε\np p a,εA a,ε$\np q ε,εε\nq f ε,$ε\nq q b,Aε\ns p ε,ε$\n" := by
  simp only [Parse.printPda, Parse.transLines, sortStrings_eq_isort]
  decide +kernel

set_option maxRecDepth 8192 in
/-- … and the round trip evaluated: the sets come back sorted, the transition entries in printing order -/
example : Parse.parsePda (Parse.printPda C16.exP).toList =
    .ok { C16.exP with Q := ["f", "p", "q", "s"], Sigma := ["a", "b"], Gamma := ["$", "A"],
                       delta := [(("p", "a", "ε"), [("p", "A"), ("p", "$")]), (("p", "ε", "ε"), [("q", "ε")]),
                                 (("q", "ε", "$"), [("f", "ε")]), (("q", "b", "A"), [("q", "ε")]),
                                 (("s", "ε", "ε"), [("p", "$")])] } := by
  rw [C16.exP_print, String.toList_ofList]; decide +kernel

/-- the single-character conditions are needed: with ε called `eps` (as in `C09.exPDA`) the printed label
    `eps,epsA` is not of the form `\w,SS` and the line parser rejects it -/
example : Parse.parsePda "states p\nfinal \ninitial p\ninput_symbols a\nstack_symbols A\nepsilon eps\np p eps,epsA\n".toList =
    .error .runtimeError := by rw [String.toList_ofList]; decide +kernel

/-- a table listing the key `(p, a, ε)` twice, with targets `A` then `B` -/
def C16.exDup : SPDA :=
  { Q := ["p"], Sigma := ["a"], Gamma := ["A", "B"], q0 := "p", F := [], eps := "ε", epsG := "ε",
    delta := [(("p", "a", "ε"), [("p", "A")]), (("p", "a", "ε"), [("p", "B")])] }

theorem C16.exDup_print : Parse.printPda C16.exDup =
    "states p\nfinal \ninitial p\ninput_symbols a\nstack_symbols A B\nepsilon ε\np p a,εA a,εB\n" := by
  simp only [Parse.printPda, Parse.transLines, sortStrings_eq_isort]
  decide +kernel

/-- the condition on repeated keys is needed: both entries are printed (on one line) and read back as ONE entry with
    two targets, while the first-match lookup of the original only sees the first -/
example : ∃ P', Parse.parsePda (Parse.printPda C16.exDup).toList = .ok P' ∧
    P'.delta.lookup ("p", "a", "ε") = some [("p", "A"), ("p", "B")] ∧
    C16.exDup.delta.lookup ("p", "a", "ε") = some [("p", "A")] := by
  rw [C16.exDup_print, String.toList_ofList]
  exact ⟨{ C16.exDup with delta := [(("p", "a", "ε"), [("p", "A"), ("p", "B")])] }, by decide +kernel, rfl, rfl⟩

#print axioms parsePda_builds
#print axioms parseTm_builds
#print axioms parse_print_tm
#print axioms parse_print_pda

end Gamba
