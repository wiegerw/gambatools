/-
  Gamba.Props.C16b — the text format, continued: the parsers build exactly what was written (C17, DFA and NFA),
  and `parse_nfa (print_nfa N)` gives `N` back (C16, NFA).
-/
import Gamba.Proofs.C16b
import Gamba.Proofs.DecEq
namespace Gamba

/-! ### C17 — the parser builds exactly what was written -/

/-- C17: the parser builds exactly what was written — the returned DFA is a function of the parsed lines in the
    documented way -/
theorem parseDfa_builds (text : List Char) (D : DFA String String) (h : Parse.parseDfa text = .ok D) :
    ∃ A0, Parse.parseRaw .dfa Parse.isWord text = .ok A0 ∧
      D.Q = (if A0.states.isEmpty then Parse.usedStates A0 else A0.states) ∧
      A0.initial = [D.q0] ∧ D.F = A0.final ∧
      (∀ p a q, D.delta.lookup (p, a) = some q ↔ (p, a.toList, q) ∈ A0.transitions) ∧
      (∀ a, a ∈ D.Sigma ↔ (match A0.items.lookup "input_symbols" with
                           | some declared => a ∈ declared
                           | none => ∃ p q, (p, a.toList, q) ∈ A0.transitions)) := by
  obtain ⟨A0, h0, h⟩ := Parse.parseDfa_eq_ok.mp h
  obtain ⟨A, Sigma, h1, h2, h3, _, _, hc⟩ := Parse.dfaOfRaw_eq_ok.mp h
  obtain ⟨rfl, _⟩ := DFA.checked_ok hc
  -- the checks return the record itself with its `states` filled in: the other fields are those of `A0` by `rfl`
  obtain ⟨rfl, _, _, hi⟩ := Parse.commonChecks_ok h1
  refine ⟨A0, h0, Parse.states_of_nil A0, Parse.initial_eq_of_length hi, rfl, ?_, ?_⟩
  · intro p a q
    have hnd : ((A0.transitions.map fun t => ((t.1, Text.str t.2.1), t.2.2)).map (·.1)).Nodup := by
      rw [List.map_map]
      exact Parse.hasDupPairs_eq_false_iff.mp h2
    show List.lookup (p, a) (A0.transitions.map fun t => ((t.1, Text.str t.2.1), t.2.2)) = some q ↔ _
    rw [Dict.lookup_eq_some_iff_mem hnd, List.mem_map]
    constructor
    · rintro ⟨⟨p', l, q'⟩, ht, he⟩
      simp only [Prod.mk.injEq] at he
      obtain ⟨⟨rfl, rfl⟩, rfl⟩ := he
      simpa using ht
    · intro ht
      exact ⟨_, ht, by simp⟩
  · intro a
    show a ∈ Sigma ↔ _
    rw [Parse.getSymbolSet_mem h3 a]
    show (match A0.items.lookup "input_symbols" with | some d => a ∈ d | none => _) ↔ _
    cases A0.items.lookup "input_symbols" with
    | some declared => exact Iff.rfl
    | none =>
      simp only [mem_dedup, List.mem_map]
      constructor
      · rintro ⟨⟨p, l, q⟩, ht, rfl⟩
        exact ⟨p, q, by simpa using ht⟩
      · rintro ⟨p, q, ht⟩
        exact ⟨_, ht, by simp⟩

/-- non-vacuity: an accepted text without `states` / `input_symbols` declarations … -/
example : Parse.parseDfa "initial p\nfinal q\np q a b\nq q a\nq p b".toList =
    .ok { Q := ["q", "p"], Sigma := ["a", "b"], q0 := "p", F := ["q"],
          delta := [(("p", "a"), "q"), (("p", "b"), "q"), (("q", "a"), "q"), (("q", "b"), "p")] } := by
  repeat rw [String.toList_ofList]
  decide +kernel
/-- … and one with both -/
example : Parse.parseDfa "states q p r\ninput_symbols b a\ninitial p\nfinal q\np q a b\nq q a\nq p b\nr r a b".toList =
    .ok { Q := ["q", "p", "r"], Sigma := ["b", "a"], q0 := "p", F := ["q"],
          delta := [(("p", "a"), "q"), (("p", "b"), "q"), (("q", "a"), "q"), (("q", "b"), "p"),
                    (("r", "a"), "r"), (("r", "b"), "r")] } := by
  repeat rw [String.toList_ofList]
  decide +kernel

theorem parseNfa_builds (text : List Char) (N : NFA String String) (h : Parse.parseNfa text = .ok N) :
    ∃ A0, Parse.parseRaw .nfa Parse.isWord text = .ok A0 ∧
      N.Q = (if A0.states.isEmpty then Parse.usedStates A0 else A0.states) ∧
      A0.initial = [N.q0] ∧ N.F = A0.final ∧
      (∀ p a q, q ∈ N.succ p a ↔ (p, a.toList, q) ∈ A0.transitions) ∧
      (match A0.items.lookup "epsilon" with
       | some [v] => N.eps = v
       | some _ => False
       | none => N.eps = (if A0.transitions.any (fun t => t.2.1.contains 'ε') then "ε" else "_")) ∧
      (∀ a, a ∈ N.Sigma ↔ (match A0.items.lookup "input_symbols" with
                           | some declared => a ∈ declared
                           | none => a ≠ N.eps ∧ ∃ p q, (p, a.toList, q) ∈ A0.transitions)) := by
  obtain ⟨A0, h0, h⟩ := Parse.parseNfa_eq_ok.mp h
  obtain ⟨A, eps, Sigma, h1, h2, h3, _, hc⟩ := Parse.nfaOfRaw_eq_ok.mp h
  obtain ⟨rfl, _⟩ := NFA.checked_ok hc
  obtain ⟨rfl, _, _, hi⟩ := Parse.commonChecks_ok h1
  refine ⟨A0, h0, Parse.states_of_nil A0, Parse.initial_eq_of_length hi, rfl, ?_, Parse.parseSymbol_ok h2, ?_⟩
  · intro p a q
    show q ∈ ((Parse.groupNfa (A0.transitions.map fun t => (t.1, Text.str t.2.1, t.2.2))).lookup (p, a)).getD [] ↔ _
    rw [Parse.mem_groupNfa_lookup, List.mem_map]
    constructor
    · rintro ⟨⟨p', l, q'⟩, ht, he⟩
      simp only [Prod.mk.injEq] at he
      obtain ⟨rfl, rfl, rfl⟩ := he
      simpa using ht
    · intro ht
      exact ⟨_, ht, by simp⟩
  · intro a
    show a ∈ Sigma ↔ _
    rw [Parse.getSymbolSet_mem h3 a]
    show (match A0.items.lookup "input_symbols" with | some d => a ∈ d | none => _) ↔ _
    cases A0.items.lookup "input_symbols" with
    | some declared => exact Iff.rfl
    | none =>
      show _ ↔ a ≠ eps ∧ _
      simp only [mem_dedup, List.mem_filter, List.mem_map, decide_eq_true_eq]
      constructor
      · rintro ⟨⟨⟨p, l, q⟩, ht, rfl⟩, hne⟩
        exact ⟨hne, p, q, by simpa using ht⟩
      · rintro ⟨hne, p, q, ht⟩
        exact ⟨⟨_, ht, by simp⟩, hne⟩

/-- non-vacuity: ε inferred from a label, Σ inferred from the labels -/
example : Parse.parseNfa "initial p\nfinal q\np q a ε\nq q a".toList =
    .ok { Q := ["p", "q"], Sigma := ["a"], q0 := "p", F := ["q"], eps := "ε",
          delta := [(("p", "a"), ["q"]), (("p", "ε"), ["q"]), (("q", "a"), ["q"])] } := by
  repeat rw [String.toList_ofList]
  decide +kernel
/-- … and everything declared -/
example : Parse.parseNfa "states p q\nepsilon e\ninput_symbols a b\ninitial p\nfinal q\np q a e\np p a".toList =
    .ok { Q := ["p", "q"], Sigma := ["a", "b"], q0 := "p", F := ["q"], eps := "e",
          delta := [(("p", "a"), ["q", "p"]), (("p", "e"), ["q"])] } := by
  repeat rw [String.toList_ofList]
  decide +kernel

/-! ### C16 — the NFA round trip -/

/-- `parse_nfa (print_nfa N)` succeeds and gives `N` back — same states, alphabet, initial and final states (as sets),
    the same ε and the same successor sets (a `δ` entry with an empty target set prints no line and comes back as a
    missing entry, which `succ` reads as ∅) — for every valid NFA whose `δ` has no repeated key, whose state names are
    words other than the five keywords of the format, and whose symbols and ε are words.
    (`Parse.NfaNameOk` is defined in Proofs/C16b.lean.) -/
theorem parse_print_nfa (N : NFA String String) (hv : N.valid = true) (hk : (N.delta.map (·.1)).Nodup)
    (hQ : ∀ q, q ∈ N.Q → Parse.NfaNameOk q) (hS : ∀ a, a ∈ N.Sigma → Parse.isWord a.toList = true)
    (he : Parse.isWord N.eps.toList = true) :
    ∃ N', Parse.parseNfa (Parse.printNfa N).toList = .ok N' ∧
      (∀ q, q ∈ N'.Q ↔ q ∈ N.Q) ∧ (∀ a, a ∈ N'.Sigma ↔ a ∈ N.Sigma) ∧ N'.q0 = N.q0 ∧ (∀ q, q ∈ N'.F ↔ q ∈ N.F) ∧
      N'.eps = N.eps ∧ ∀ q a x, x ∈ N'.succ q a ↔ x ∈ N.succ q a := by
  obtain ⟨N', hp, h⟩ := Parse.parse_print_nfa_sim N hv hk hQ hS he
  exact ⟨N', hp, h.Q, h.Sigma, h.q0, h.F, h.eps, h.succ⟩

/-- the line parser alone: it reads back exactly the declarations and the transition entries that were printed
    (no hypothesis on repeated keys is needed here) -/
theorem parse_print_nfa_raw (N : NFA String String) (hv : N.valid = true)
    (hQ : ∀ q, q ∈ N.Q → Parse.NfaNameOk q) (hS : ∀ a, a ∈ N.Sigma → Parse.isWord a.toList = true)
    (he : Parse.isWord N.eps.toList = true) :
    ∃ A, Parse.parseRaw .nfa Parse.isWord (Parse.printNfa N).toList = .ok A ∧
      A.states = sortStrings (dedup N.Q) ∧ A.final = sortStrings (dedup N.F) ∧ A.initial = [N.q0] ∧
      A.items.lookup "input_symbols" = some (sortStrings (dedup N.Sigma)) ∧
      A.items.lookup "epsilon" = some [N.eps] ∧
      ∀ p a x, (p, a, x) ∈ A.transitions ↔
        (∃ T, ((p, Text.str a), T) ∈ N.delta ∧ x ∈ T) ∧ a = (Text.str a).toList :=
  ⟨_, Parse.parseRaw_printNfa N hv hQ hS he, rfl, rfl, rfl, rfl, rfl, by
    intro p a x
    show (p, a, x) ∈ Parse.transOf (Parse.nfaTrans N) ↔ _
    rw [Parse.mem_transOf]
    constructor
    · rintro ⟨t, ht, he⟩
      obtain ⟨T, hm, hx⟩ := Parse.mem_nfaTrans.mp ht
      simp only [Prod.mk.injEq] at he
      obtain ⟨rfl, rfl, rfl⟩ := he
      exact ⟨⟨T, by simpa using hm, hx⟩, by simp⟩
    · rintro ⟨⟨T, hm, hx⟩, ha⟩
      exact ⟨(p, x, Text.str a), Parse.mem_nfaTrans.mpr ⟨T, hm, hx⟩, by simp⟩⟩

/-- a 3-state NFA with ε = "_", no accepting state, unsorted declarations, two labels (`b` and ε) on the edge
    `p → q`, two targets for `(q, a)`, and an isolated state `r` whose only `δ` entry has an empty target set -/
def C16.exN : NFA String String :=
  { Q := ["q", "p", "r"], Sigma := ["b", "a"], q0 := "p", F := [], eps := "_",
    delta := [(("p", "b"), ["q"]), (("p", "_"), ["q"]), (("q", "a"), ["q", "p"]), (("r", "a"), [])] }

/-- the hypotheses of `parse_print_nfa` hold for it -/
example : C16.exN.valid = true ∧ (C16.exN.delta.map (·.1)).Nodup ∧ (∀ q, q ∈ C16.exN.Q → Parse.NfaNameOk q) ∧
    (∀ a, a ∈ C16.exN.Sigma → Parse.isWord a.toList = true) ∧ Parse.isWord C16.exN.eps.toList = true := by
  refine ⟨by decide +kernel, by decide +kernel, ?_, by decide +kernel, by decide +kernel⟩
  unfold Parse.NfaNameOk
  decide

theorem C16.exN_print :
    Parse.printNfa C16.exN =
      "states p q r\nfinal \ninitial p\ninput_symbols a b\nepsilon _\np q b _\nq p a\nq q a\n" := by
  simp only [Parse.printNfa, Parse.transLines, sortStrings_eq_isort]
  decide +kernel

/-- … and the round trip evaluated: the sets come back sorted, the entry with the empty target set is gone, the
    targets of `(q, a)` come back in printing order -/
example : Parse.parseNfa (Parse.printNfa C16.exN).toList =
    .ok { C16.exN with Q := ["p", "q", "r"], Sigma := ["a", "b"],
                       delta := [(("p", "b"), ["q"]), (("p", "_"), ["q"]), (("q", "a"), ["p", "q"])] } := by
  rw [C16.exN_print, String.toList_ofList]; decide +kernel

/-- the name condition is needed: a state called `epsilon` prints its transitions as a second `epsilon` declaration -/
example : Parse.parseNfa "states epsilon p\nfinal \ninitial p\ninput_symbols a\nepsilon _\nepsilon p a\np epsilon a\n".toList =
    .error .runtimeError := by rw [String.toList_ofList]; decide +kernel

/-- the condition on repeated keys is needed: a `δ` listing the key `(p, a)` twice — `succ` only reads the first entry —
    prints both targets, and both come back -/
example : Parse.parseNfa "states p q\nfinal \ninitial p\ninput_symbols a\nepsilon _\np p a\np q a\n".toList =
    .ok { Q := ["p", "q"], Sigma := ["a"], q0 := "p", F := [], eps := "_", delta := [(("p", "a"), ["p", "q"])] } := by
  rw [String.toList_ofList]; decide +kernel

#print axioms parseDfa_builds
#print axioms parseNfa_builds
#print axioms parse_print_nfa
#print axioms parse_print_nfa_raw

end Gamba
