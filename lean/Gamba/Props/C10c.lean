/-
  Gamba.Props.C10c — end-to-end correctness of the model of `pda_to_cfg` (`SPDA.toCfg`, as repaired: the PDA is
  first brought to accept on the empty stack with the drain state, then to push/pop form, then Sipser's triple
  construction is applied): the grammar generates exactly the language of the PDA (acceptance by final state,
  any stack content).

  Hypotheses inherited from the parts (counterexamples without them in Props/C10a and Props/C10b):
  `heq` (the two ε fields are the same string), `hε` (the bottom marker chosen by `fresh_symbol` is not the PDA's ε),
  `hd` (the PDA's ε is not the dummy stack symbol `∅`), and `hnames`: no state name contains the character `'`
  which `pdaVar p q = p ++ "'" ++ q` uses as the separator in variable names (the fresh names `q_initial<i>`,
  `q_drain<i>`, `q_accept<i>`, `M<i>` never contain it).
-/
import Gamba.Props.C10b
import Gamba.Proofs.C10c
namespace Gamba

open C10a C10c

/-- the grammar produced from a PDA generates exactly the PDA's language (also when the PDA accepts with symbols left on its stack) -/
theorem pda_toCfg_lang (P : SPDA) (hv : P.valid = true) (hk : (P.delta.map (·.1)).Nodup) (heq : P.epsG = P.eps)
    (hε : freshSymbol P.Gamma ≠ .ok P.epsG) (hd : P.epsG ≠ "∅")
    (hnames : ∀ q, q ∈ P.Q → '\'' ∉ q.toList)
    (G : CFG) (h : P.toCfg = .ok G) : ∀ w, G.Lang w ↔ P.Accepts w := by
  intro w
  obtain ⟨P', qa', l, hn, hF', rfl⟩ := toCfg_eq h
  obtain ⟨qa, hF, hv', hk', hpp, hinj, heq', hes, hl⟩ := normalize_spec P hv hk heq hε hd hnames P' hn
  have hqa : qa' = qa := by rw [hF] at hF'; exact (List.cons.inj hF').1.symm
  rw [hqa]
  exact (tripleCfg_lang P' hv' hk' hpp hinj heq' qa hF hes w).trans (hl w)

/-- the hypotheses hold for `exNE` (`q0 --a,ε→x--> q1`, `F = [q1]`), which accepts `a` only with the non-empty
    stack `[x]`: the witness of the repaired defect -/
example : exNE.valid = true ∧ (exNE.delta.map (·.1)).Nodup ∧ exNE.epsG = exNE.eps ∧
    freshSymbol exNE.Gamma ≠ .ok exNE.epsG ∧ exNE.epsG ≠ "∅" ∧ (∀ q, q ∈ exNE.Q → '\'' ∉ q.toList) ∧
    exNE.toCfg = .ok (exNEnorm.tripleCfg "q_accept1") ∧ exNE.Run (exNE.q0, []) ["a"] ("q1", ["x"]) :=
  ⟨exNE_valid, exNE_keys, by decide +kernel, exNE_marker, by decide +kernel, by decide +kernel, exNE_toCfg, exNE_run⟩

/-- … and its grammar (36 variables, 225 rules, start variable `q_initial1'q_accept1`) generates `a` -/
example : ∃ G, exNE.toCfg = .ok G ∧ G.S = "q_initial1'q_accept1" ∧ G.Lang ["a"] :=
  ⟨_, exNE_toCfg, by decide +kernel,
    (pda_toCfg_lang exNE exNE_valid exNE_keys rfl exNE_marker (by decide +kernel) (by decide +kernel) _ exNE_toCfg ["a"]).mpr
      exNE_accepts⟩

/-- … and nothing else of length ≤ 1 over `{a}`: the empty word is not generated -/
example : ∃ G, exNE.toCfg = .ok G ∧ ¬ G.Lang [] := by
  refine ⟨_, exNE_toCfg, fun h => ?_⟩
  have := (pda_toCfg_lang exNE exNE_valid exNE_keys rfl exNE_marker (by decide +kernel) (by decide +kernel) _ exNE_toCfg []).mp h
  exact absurd (PDA.accepts_complete exNE 20 [] [] (by decide +kernel) this) (by decide +kernel)

end Gamba

#print axioms Gamba.pda_toCfg_lang
