/-
  Gamba.Props.C02reg — property C02, regular part: the bounded enumerations `dfa_words_up_to_n` and `nfa_words_up_to_n` return
  exactly the accepted words over Σ of length ≤ n (lists read as sets).
-/
import Gamba.Proofs.C02reg
import Gamba.Proofs.DecEq
namespace Gamba
variable {σ τ : Type} [DecidableEq σ] [DecidableEq τ]

/-- `dfa_words_up_to_n` is exact -/
theorem dfa_words_exact (D : DFA σ τ) (hv : D.valid = true) (n : Nat) (w : List τ) :
    w ∈ D.wordsUpTo n ↔ w.length ≤ n ∧ (∀ a, a ∈ w → a ∈ D.Sigma) ∧ D.Accepts w := by
  rw [D.mem_wordsUpTo n w]
  constructor
  · rintro ⟨hl, hs, hf⟩; exact ⟨hl, hs, (DFA.Accepts_iff_runT hv hs).mpr hf⟩
  · rintro ⟨hl, hs, hf⟩; exact ⟨hl, hs, (DFA.Accepts_iff_runT hv hs).mp hf⟩

example : C01.exDFA.valid = true ∧ C01.exDFA.wordsUpTo 2 = [["a"], ["a", "b"], ["b", "a"]] :=
  by decide +kernel

example : C01.exDFA.Accepts ["b", "a"] ∧ ¬ C01.exDFA.Accepts ["a", "a"] := by
  simp only [DFA.Accepts_iff_accepts]; decide +kernel

/-- `nfa_words_up_to_n` is exact, for every pop order -/
theorem nfa_words_exact (N : NFA σ τ) (hv : N.valid = true) (s : Sched) (n : Nat) :
    ∃ L, N.wordsUpTo s n = .ok L ∧ ∀ w, w ∈ L ↔ w.length ≤ n ∧ (∀ a, a ∈ w → a ∈ N.Sigma) ∧ N.Accepts w :=
  NFA.wordsUpTo_spec hv s n

example : C01.exNFA.valid = true ∧
    C01.exNFA.wordsUpTo [3, 1, 2, 5] 1 = .ok [[], ["x"], ["x"], ["x"], ["y"], ["y"], ["y"]] :=
  by decide +kernel

example : C01.exNFA.Accepts ["y", "x"] := by
  obtain ⟨L, hL, hm⟩ := nfa_words_exact C01.exNFA (by decide +kernel) [] 2
  have h : C01.exNFA.wordsUpTo [] 2 = .ok [[], ["x"], ["x"], ["x"], ["y"], ["y"], ["y"],
      ["x", "x"], ["x", "x"], ["x", "x"], ["x", "y"], ["x", "y"], ["x", "y"],
      ["y", "y"], ["y", "y"], ["y", "y"], ["y", "x"], ["y", "x"], ["y", "x"]] := by decide +kernel
  rw [h] at hL
  cases hL
  exact ((hm ["y", "x"]).mp (by decide +kernel)).2.2

#print axioms dfa_words_exact
#print axioms nfa_words_exact

end Gamba
