/-
  Gamba.Props.C02pda — property C02 (PDA part): the model of `pda_words_up_to_n` (`PDA.wordsUpTo`, with the
  ε-closure iteration limit) is always sound w.r.t. the semantics of `Gamba.Spec.PDA`, and returns exactly the
  accepted words of length ≤ n over Σ whenever no ε-closure it computes was truncated by the limit.
-/
import Gamba.Proofs.C02pda
namespace Gamba
variable {σ τ γ : Type} [DecidableEq σ] [DecidableEq τ] [DecidableEq γ]

/-- soundness for every limit and pop order: every enumerated word is over Σ, has length ≤ n and has an
    accepting computation -/
theorem pda_words_sound (P : PDA σ τ γ) (hk : (P.delta.map (·.1)).Nodup) (hv : P.valid = true)
    (limit : Nat) (s : Sched) (n : Nat) (w : List τ) (h : w ∈ (P.wordsUpTo limit s n).1) :
    w.length ≤ n ∧ (∀ a, a ∈ w → a ∈ P.Sigma) ∧ P.Accepts w := by
  rw [PDA.wordsUpTo_eq] at h
  have hR0 : ∀ c, c ∈ (P.epsClosure limit s [(P.q0, [])]).1 → P.Run (P.q0, []) [] c :=
    fun _ => P.epsClosure_run hk limit s fun _ hc => List.mem_singleton.mp hc ▸ .nil _
  have := P.wordsLoop_sound hk hv limit s n 0 _ _ _ ?_ ?_ w h
  · simpa using this
  · intro x hx
    obtain ⟨c, hc, rfl⟩ := List.mem_map.mp hx
    exact ⟨rfl, by simp, hR0 c hc⟩
  · intro w' hw'
    split at hw'
    · rename_i hany
      have := List.mem_singleton.mp hw'
      subst this
      simp only [List.any_eq_true, decide_eq_true_eq] at hany
      obtain ⟨c, hc, hf⟩ := hany
      exact ⟨by simp, by simp, c.1, c.2, hf, hR0 c hc⟩
    · cases hw'

example : (C09.exPDA.delta.map (·.1)).Nodup ∧ C09.exPDA.valid = true := by decide +kernel

/-- the enumeration the examples below refer to, evaluated once -/
theorem C02pda.exPDA_words4 :
    C09.exPDA.wordsUpTo 1000 [] 4 = ([[], ["a", "b"], ["a", "a", "b", "b"]], false) := by decide +kernel

example : C09.exPDA.wordsUpTo 1000 [] 2 = ([[], ["a", "b"]], false) ∧
    C09.exPDA.wordsUpTo 1000 [] 4 = ([[], ["a", "b"], ["a", "a", "b", "b"]], false) ∧
    C09.exPDA.wordsUpTo 3 [] 2 = ([[], ["a", "b"]], true) :=
  ⟨by decide +kernel, C02pda.exPDA_words4, by decide +kernel⟩

/-- soundness also holds for truncated enumerations: limit 3 truncates the first closure of `exPDA` -/
example : C09.exPDA.Accepts ["a", "b"] :=
  (pda_words_sound C09.exPDA C09.exPDA_keys C09.exPDA_valid 3 [] 2 ["a", "b"] (by decide +kernel)).2.2

/-- exactness below the limit: if the enumerator's truncation flag is false, it returns exactly the accepted
    words of length ≤ n over Σ -/
theorem pda_words_exact (P : PDA σ τ γ) (hk : (P.delta.map (·.1)).Nodup) (hv : P.valid = true)
    (limit : Nat) (s : Sched) (n : Nat) (ht : (P.wordsUpTo limit s n).2 = false) (w : List τ) :
    w ∈ (P.wordsUpTo limit s n).1 ↔ (w.length ≤ n ∧ (∀ a, a ∈ w → a ∈ P.Sigma) ∧ P.Accepts w) :=
  ⟨pda_words_sound P hk hv limit s n w,
   fun h => P.wordsUpTo_complete limit s n ht w h.1 h.2.1 h.2.2⟩

example : (C09.exPDA.wordsUpTo 1000 [] 4).2 = false := by rw [C02pda.exPDA_words4]

/-- used contrapositively: `abab`, `aab` are not accepted by `exPDA` -/
example : ¬ C09.exPDA.Accepts ["a", "b", "a", "b"] ∧ ¬ C09.exPDA.Accepts ["a", "a", "b"] := by
  refine ⟨fun h => ?_, fun h => ?_⟩
  · have := (pda_words_exact C09.exPDA C09.exPDA_keys C09.exPDA_valid 1000 [] 4 (by rw [C02pda.exPDA_words4]) _).mpr
      ⟨by decide +kernel, by decide +kernel, h⟩
    rw [C02pda.exPDA_words4] at this
    exact absurd this (by decide +kernel)
  · have := (pda_words_exact C09.exPDA C09.exPDA_keys C09.exPDA_valid 1000 [] 4 (by rw [C02pda.exPDA_words4]) _).mpr
      ⟨by decide +kernel, by decide +kernel, h⟩
    rw [C02pda.exPDA_words4] at this
    exact absurd this (by decide +kernel)

/-- and then it agrees with the acceptance test (same limit, any pop orders) on every word whose own run is
    untruncated -/
theorem pda_words_matches_accepts (P : PDA σ τ γ) (hk : (P.delta.map (·.1)).Nodup) (hv : P.valid = true)
    (limit : Nat) (s s' : Sched) (n : Nat) (ht : (P.wordsUpTo limit s n).2 = false) (w : List τ)
    (hw : ∀ a, a ∈ w → a ∈ P.Sigma) (hl : w.length ≤ n) (ht' : (P.acceptsT limit s' w).2 = false) :
    w ∈ (P.wordsUpTo limit s n).1 ↔ P.accepts limit s' w = true := by
  rw [pda_words_exact P hk hv limit s n ht w]
  constructor
  · intro h
    exact P.accepts_complete limit s' w ht' h.2.2
  · intro h
    exact ⟨hl, hw, P.accepts_sound hk limit s' w (fun a ha => PDA.valid_eps hv (hw a ha)) h⟩

example : (C09.exPDA.wordsUpTo 1000 [] 4).2 = false ∧
    (C09.exPDA.acceptsT 1000 [3, 1] ["a", "a", "b", "b"]).2 = false ∧
    (C09.exPDA.acceptsT 1000 [3, 1] ["a", "b", "b"]).2 = false :=
  ⟨by rw [C02pda.exPDA_words4], by decide +kernel⟩

example : (["a", "a", "b", "b"] ∈ (C09.exPDA.wordsUpTo 1000 [] 4).1 ↔
      C09.exPDA.accepts 1000 [3, 1] ["a", "a", "b", "b"] = true) ∧
    (["a", "b", "b"] ∈ (C09.exPDA.wordsUpTo 1000 [] 4).1 ↔
      C09.exPDA.accepts 1000 [3, 1] ["a", "b", "b"] = true) :=
  ⟨pda_words_matches_accepts C09.exPDA C09.exPDA_keys C09.exPDA_valid 1000 [] [3, 1] 4 (by rw [C02pda.exPDA_words4]) _
      (by decide +kernel) (by decide +kernel) (by decide +kernel),
   pda_words_matches_accepts C09.exPDA C09.exPDA_keys C09.exPDA_valid 1000 [] [3, 1] 4 (by rw [C02pda.exPDA_words4]) _
      (by decide +kernel) (by decide +kernel) (by decide +kernel)⟩

/-! ### The truncation hypothesis of `pda_words_exact` cannot be dropped

`C09.exLoopPDA` (stack-growing ε-cycle; every closure from `(s, [])` is truncated) accepts `aaa`,
but with limit 2 the enumeration up to length 3 is empty (flag `true`). -/

example : C09.exLoopPDA.wordsUpTo 2 [] 3 = ([], true) ∧
    C09.exLoopPDA.wordsUpTo 3 [] 3 = ([["a", "a", "a"]], true) := by decide +kernel

example : C09.exLoopPDA.Accepts ["a", "a", "a"] ∧ ["a", "a", "a"] ∉ (C09.exLoopPDA.wordsUpTo 2 [] 3).1 :=
  ⟨(pda_words_sound C09.exLoopPDA C09.exLoopPDA_keys C09.exLoopPDA_valid 3 [] 3 _ (by decide +kernel)).2.2, by decide +kernel⟩

#print axioms pda_words_sound
#print axioms pda_words_exact
#print axioms pda_words_matches_accepts

end Gamba
