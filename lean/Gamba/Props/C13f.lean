/-
  Gamba.Props.C13f — C13 at the TEXT level: the answer keys the library prints pass the checkers as the notebooks
  call them (`Gamba.Model.CheckText`): the reference argument is an arbitrary text that parses, the answer is the
  printed key.
-/
import Gamba.Proofs.C13f
import Gamba.Props.C16a
import Gamba.Props.C13c
import Gamba.Props.C13d
import Gamba.Props.C13e
import Gamba.Proofs.C12ex
namespace Gamba
open Parse

/-! ### the example texts, parsed once

  Every reference text of the examples of this file is parsed once, here or in Proofs/C12ex, to a named object; an example rewrites the
  text-level checker with these equations — through `C13f.complement_of_parse`, `product_of_parse`, `minimal_of_parse`,
  `nfa2dfa_of_parse` where the answer text (which occurs once) is parsed on the spot, directly with `rw [CheckText.f, …]`
  for the other checkers — and evaluates the object-level check on the objects.  Why the test vectors have this shape: see the header of Proofs/C12ex. -/

/-- the grammar of the text `a -> b` (a lower-case "variable") -/
def C13f.exLower : CFG := { V := ["a"], Sigma := ["b"], R := [⟨"a", 0, [.t "b"]⟩], S := "a" }

/-- the even-length DFA, written without declarations -/
def C13f.exEven : DFA String String :=
  { Q := ["o", "e"], Sigma := ["a", "b"], q0 := "e", F := ["e"],
    delta := [(("e", "a"), "o"), (("e", "b"), "o"), (("o", "a"), "e"), (("o", "b"), "e")] }

/-- a DFA whose only state is called `epsilon` -/
def C13f.exEps : DFA String String :=
  { Q := ["epsilon"], Sigma := ["a"], delta := [(("epsilon", "a"), "epsilon")], q0 := "epsilon", F := [] }

/-- an NFA with an ε-move written as text (ε inferred from the label `ε`) -/
def C13f.exN : NFA String String :=
  { Q := ["p", "q"], Sigma := ["a"], q0 := "p", F := ["q"], eps := "ε",
    delta := [(("p", "a"), ["q"]), (("p", "ε"), ["q"]), (("q", "a"), ["q"])] }

/-- an NFA with the declared ε-label `e` and the input symbol `_` -/
def C13f.exUs : NFA String String :=
  { Q := ["p"], Sigma := ["_"], q0 := "p", F := [], eps := "e", delta := [(("p", "_"), ["p"])] }

namespace C13f

/-- the key of the complement exercise for `C16.exDFA`, as it is read back -/
def exComplKey : DFA String String :=
  { Q := ["p", "q"], Sigma := ["a", "b"], q0 := "p", F := ["p"],
    delta := [(("p", "a"), "q"), (("p", "b"), "q"), (("q", "b"), "p"), (("q", "a"), "q")] }

/-- the key of the intersection exercise for `C16.exDFA`, `exEven`, as it is read back -/
def exInterKey : DFA String String :=
  { Q := ["(p,e)", "(p,o)", "(q,e)", "(q,o)"], Sigma := ["a", "b"], q0 := "(p,e)", F := ["(q,e)"],
    delta := [(("(p,e)", "a"), "(q,o)"), (("(p,e)", "b"), "(q,o)"), (("(p,o)", "a"), "(q,e)"), (("(p,o)", "b"), "(q,e)"),
              (("(q,e)", "a"), "(q,o)"), (("(q,e)", "b"), "(p,o)"), (("(q,o)", "a"), "(q,e)"), (("(q,o)", "b"), "(p,e)")] }

/-- the key of the minimal-DFA exercise for `exC04b`, as it is read back -/
def exQuotKey : DFA String String :=
  { Q := ["{0}", "{1,2}", "{3}"], Sigma := ["a", "b"], q0 := "{0}", F := ["{3}"],
    delta := [(("{0}", "a"), "{1,2}"), (("{0}", "b"), "{1,2}"), (("{1,2}", "b"), "{0}"), (("{1,2}", "a"), "{3}"),
              (("{3}", "a"), "{3}"), (("{3}", "b"), "{3}")] }

/-- the key of the NFA → DFA exercise for `exN`, as `parse_nfa` reads it back -/
def exSubsetKey : NFA String String :=
  { Q := ["{p,q}", "{q}"], Sigma := ["a"], q0 := "{p,q}", F := ["{p,q}", "{q}"], eps := "_",
    delta := [(("{p,q}", "a"), ["{q}"]), (("{q}", "a"), ["{q}"])] }

theorem exG_key : (do let X ← C13c.exG.cykMatrix ("aab".toList.map String.singleton); Keys.printCyk X "aab".length) =
    .ok "{}   \n{}     {S}  \n{A,S}  {A,S}  {B}  " := by
  have h : C13c.exG.cykMatrix ("aab".toList.map String.singleton) = .ok C13c.exX := by decide +kernel
  rw [h]
  exact C13c.exX_print

theorem exG15_parse : CfgText.parseSimpleCfg "S -> a | AB\nA -> a\nB -> b".toList = .ok (C15b.exG, "_") := by
  rw [String.toList_ofList]; decide +kernel

theorem exLong_parse : CfgText.parseSimpleCfg "S0 -> a".toList = .ok (C13c.exLong, "_") := by
  rw [String.toList_ofList]; decide +kernel

theorem exLower_parse : CfgText.parseSimpleCfg "a -> b".toList = .ok (exLower, "_") := by
  rw [String.toList_ofList]; decide +kernel

theorem exDFA_parse : Parse.parseDfa "% a DFA\nstates p q\ninitial p\nfinal q\n\np q a b\nq q a\nq p b".toList = .ok C16.exDFA := by
  rw [String.toList_ofList]; decide +kernel

theorem evenA_parse : Parse.parseDfa "initial q0\nfinal q0\nq0 q1 a\nq0 q0 b\nq1 q0 a\nq1 q1 b".toList = .ok C06b.evenA := by
  rw [String.toList_ofList]; decide +kernel

theorem exC04b_parse : Parse.parseDfa "states 0 1 2 3\ninput_symbols a b\ninitial 0\nfinal 3\n0 1 a\n0 2 b\n1 3 a\n1 0 b\n2 3 a\n2 0 b\n3 3 a b".toList =
    .ok exC04b := by
  rw [String.toList_ofList]; decide +kernel

/-- the same text written as two pieces -/
theorem exC04b_parse' : Parse.parseDfa ("states 0 1 2 3\ninput_symbols a b\ninitial 0\nfinal 3\n0 1 a\n0 2 b\n1 3 a\n1 0 b\n" ++
    "2 3 a\n2 0 b\n3 3 a b").toList = .ok exC04b := by
  rw [String.toList_append, String.toList_ofList, String.toList_ofList]; decide +kernel

theorem exEps_parse : Parse.parseDfa "initial epsilon\nepsilon epsilon a".toList = .ok exEps := by
  rw [String.toList_ofList]; decide +kernel

/-- the key of the reverse exercise for `exEps` does not parse: its last line is read as a second `epsilon` declaration -/
theorem exEpsKey_parse : Parse.parseNfa "states epsilon q1\nfinal epsilon\ninitial q1\ninput_symbols a\nepsilon ε\nepsilon epsilon a\n".toList =
    .error .runtimeError := by
  rw [String.toList_ofList]; decide +kernel

theorem exN_parse : Parse.parseNfa "initial p\nfinal q\np q a ε\nq q a".toList = .ok exN := by
  rw [String.toList_ofList]; decide +kernel

theorem exUs_parse : Parse.parseNfa "initial p\nepsilon e\np p _".toList = .ok exUs := by
  rw [String.toList_ofList]; decide +kernel

/-- the key of the NFA → DFA exercise for `exUs` is rejected by the NFA constructor -/
theorem exUsKey_parse : Parse.parseNfa "states {p}\nfinal \ninitial {p}\ninput_symbols _\n{p} {p} _".toList CheckText.setStateOk =
    .error .assertion := by
  rw [String.toList_ofList]; decide +kernel

end C13f

/-- the statement with no condition on the variable names -/
def own_cyk_text_ok_stmt : Prop :=
  ∀ (cfg : String) (G : CFG) (e : String), CfgText.parseSimpleCfg cfg.toList = .ok (G, e) →
    ∀ (word : String), word ≠ "" → G.isChomsky = true → ∀ (key : String),
    (do let X ← G.cykMatrix (word.toList.map String.singleton); Keys.printCyk X word.length) = .ok key →
    CheckText.cyk cfg word key = .ok

/-- CYK exercise at the text level.  Hypothesis `hV` (cannot be dropped: `own_cyk_text_ok_stmt_false`): every variable of the parsed grammar is a single
    character (`parse_simple_cfg` accepts `\w+` on the left of `->`, e.g. `S0 -> a`, and the cell syntax
    `{\w(,\w)*}` of the checker cannot express such a name). -/
theorem own_cyk_text_ok (cfg : String) (G : CFG) (e : String) (hp : CfgText.parseSimpleCfg cfg.toList = .ok (G, e))
    (hV : ∀ A, A ∈ G.V → A.length = 1)
    (word : String) (hw : word ≠ "") (hc : G.isChomsky = true) (key : String)
    (hk : (do let X ← G.cykMatrix (word.toList.map String.singleton); Keys.printCyk X word.length) = .ok key) :
    CheckText.cyk cfg word key = .ok := by
  obtain ⟨hv, _, _, hVars, _⟩ := CfgText.parsedCfg_of hp
  have h1 : G.SimpleVars := C13f.simpleVars_of_length (fun A hA => Parse.isWord_iff.mp (hVars A hA)) hV
  have hw' := C13f.symbols_ne_nil hw
  cases hX : G.cykMatrix (word.toList.map String.singleton) with
  | error err => rw [hX] at hk; cases hk
  | ok X =>
    rw [hX] at hk
    obtain ⟨key', hk', hck⟩ := own_cyk_ok G _ hw' hc hv h1 X hX
    have hl : (word.toList.map String.singleton).length = word.length := by simp [String.length_toList]
    rw [hl] at hk'
    have hk2 : Keys.printCyk X word.length = .ok key := hk
    rw [hk2] at hk'
    cases hk'
    unfold CheckText.cyk
    rw [hp]
    simp only [hck]
    rfl

/-- non-vacuity: the text `S -> AB | a`, `A -> a`, `B -> b` parses to `C13c.exG`; word `aab` -/
example : CfgText.parseSimpleCfg "S -> AB | a\nA -> a\nB -> b".toList = .ok (C13c.exG, "_") ∧
    (∀ A, A ∈ C13c.exG.V → A.length = 1) ∧ "aab" ≠ "" ∧ C13c.exG.isChomsky = true ∧
    (do let X ← C13c.exG.cykMatrix ("aab".toList.map String.singleton); Keys.printCyk X "aab".length) =
      .ok "{}   \n{}     {S}  \n{A,S}  {A,S}  {B}  " :=
  ⟨C12ex.exG_parse, by decide +kernel, by decide +kernel, by decide +kernel, C13f.exG_key⟩

example : CheckText.cyk "S -> AB | a\nA -> a\nB -> b" "aab" "{}   \n{}     {S}  \n{A,S}  {A,S}  {B}  " = .ok :=
  own_cyk_text_ok _ C13c.exG "_" C12ex.exG_parse (by decide +kernel) "aab" (by decide +kernel) (by decide +kernel) _ C13f.exG_key

/-- the same verdict, by evaluation of the model (independent of the theorem); a wrong cell gives feedback -/
example : CheckText.cyk "S -> AB | a\nA -> a\nB -> b" "aab" "{}   \n{}     {S}  \n{A,S}  {A,S}  {B}  " = .ok ∧
    CheckText.cyk "S -> AB | a\nA -> a\nB -> b" "aab" "{}   \n{S}    {S}  \n{A,S}  {A,S}  {B}  " = .feedback ∧
    CheckText.cyk "S -> AB | a\nA -> " "aab" "{}" = .error := by
  rw [CheckText.cyk, CheckText.cyk, CheckText.cyk, C12ex.exG_parse]
  decide +kernel

/-- `hV` cannot be dropped: `S0 -> a` parses (the left-hand side of a production is `\w+`), the grammar is in CNF, the
    answer key for the word `a` is `{S0}`, and the checker's cell syntax rejects it -/
theorem own_cyk_text_ok_stmt_false : ¬ own_cyk_text_ok_stmt := by
  intro h
  have hk : (do let X ← C13c.exLong.cykMatrix ("a".toList.map String.singleton); Keys.printCyk X "a".length) =
      .ok "{S0}" := by
    have h1 : C13c.exLong.cykMatrix ("a".toList.map String.singleton) = .ok [((0, 0), ["S0"])] := by rfl
    rw [h1]
    exact C13c.exLong_print
  have := h "S0 -> a" C13c.exLong "_" C13f.exLong_parse "a" (by decide) (by decide) "{S0}" hk
  rw [CheckText.cyk, C13f.exLong_parse] at this
  revert this
  decide +kernel

/-- the statement with no condition on the variable names -/
def own_derivation_text_ok_stmt : Prop :=
  ∀ (cfg : String) (G : CFG) (e : String), CfgText.parseSimpleCfg cfg.toList = .ok (G, e) →
    ∀ (word : String), word ≠ "" → G.isChomsky = true → G.Lang (word.toList.map String.singleton) →
    ∀ (leftmost : Bool), ∃ d, G.deriveWord (word.toList.map String.singleton) leftmost = .ok d ∧
      CheckText.derivation cfg (Keys.printDerivation d) word (if leftmost then 1 else 2) = .ok

/-- derivation exercise at the text level.  Hypothesis `hV` (cannot be dropped: `own_derivation_text_ok_stmt_false`): every variable of the parsed grammar is a single
    UPPER-CASE character (`parse_simple_cfg` accepts any `\w+` on the left of `->`, e.g. `a -> b` or `S0 -> a`; the
    checker reads the printed derivation one character at a time and takes exactly the upper-case ones for variables). -/
theorem own_derivation_text_ok (cfg : String) (G : CFG) (e : String) (hp : CfgText.parseSimpleCfg cfg.toList = .ok (G, e))
    (hV : ∀ A, A ∈ G.V → ∃ c, A = String.singleton c ∧ c.isUpper = true)
    (word : String) (hw : word ≠ "") (hc : G.isChomsky = true) (hL : G.Lang (word.toList.map String.singleton))
    (leftmost : Bool) :
    ∃ d, G.deriveWord (word.toList.map String.singleton) leftmost = .ok d ∧
      CheckText.derivation cfg (Keys.printDerivation d) word (if leftmost then 1 else 2) = .ok := by
  obtain ⟨hv, hS, _, _, _⟩ := CfgText.parsedCfg_of hp
  have hw' := C13f.symbols_ne_nil hw
  obtain ⟨d, hd, hck⟩ := own_derivation_ok G hc hv hS (C13f.simpleNames_of_parse hp hV) _ hw' hL leftmost
  refine ⟨d, hd, ?_⟩
  unfold CheckText.derivation
  rw [hp]
  simp only [hck]
  rfl

/-- non-vacuity: the text `S -> a | AB`, `A -> a`, `B -> b` parses to `C15b.exG`; word `ab` -/
example : CfgText.parseSimpleCfg "S -> a | AB\nA -> a\nB -> b".toList = .ok (C15b.exG, "_") ∧
    (∀ A, A ∈ C15b.exG.V → ∃ c, A = String.singleton c ∧ c.isUpper = true) ∧ "ab" ≠ "" ∧
    C15b.exG.isChomsky = true ∧ C15b.exG.Lang ("ab".toList.map String.singleton) :=
  ⟨C13f.exG15_parse, C13d.exG_simple.vars, by decide +kernel, by decide +kernel, C15b.exG_lang⟩

example (leftmost : Bool) : ∃ d, C15b.exG.deriveWord ("ab".toList.map String.singleton) leftmost = .ok d ∧
    CheckText.derivation "S -> a | AB\nA -> a\nB -> b" (Keys.printDerivation d) "ab" (if leftmost then 1 else 2) = .ok :=
  own_derivation_text_ok _ C15b.exG "_" C13f.exG15_parse C13d.exG_simple.vars "ab" (by decide +kernel) (by decide +kernel) C15b.exG_lang leftmost

/-- the verdicts by evaluation of the model: the leftmost key passes as a leftmost derivation and fails as a
    rightmost one -/
example : CheckText.derivation "S -> a | AB\nA -> a\nB -> b" "S => AB => aB => ab" "ab" 1 = .ok ∧
    CheckText.derivation "S -> a | AB\nA -> a\nB -> b" "S => AB => aB => ab" "ab" 2 = .feedback := by
  rw [CheckText.derivation, CheckText.derivation, C13f.exG15_parse]
  decide +kernel

/-- `hV` cannot be dropped: `a -> b` parses, the grammar is in CNF and generates `b`; the answer key is `a => b`, and
    the checker reads the lower-case `a` as a terminal that is not in Σ -/
theorem own_derivation_text_ok_stmt_false : ¬ own_derivation_text_ok_stmt := by
  intro h
  have hL : C13f.exLower.Lang ("b".toList.map String.singleton) :=
    CFG.gen_v_iff.mpr ⟨[.t "b"], ⟨⟨"a", 0, [.t "b"]⟩, by decide, rfl, rfl⟩, CFG.gen_t_iff.mpr rfl⟩
  obtain ⟨d, hd, hc⟩ := h "a -> b" C13f.exLower "_" C13f.exLower_parse "b" (by decide) (by decide) hL true
  have hd' : C13f.exLower.deriveWord ("b".toList.map String.singleton) true = .ok [[.v "a"], [.t "b"]] := by rfl
  rw [hd'] at hd
  cases hd
  rw [CheckText.derivation, C13f.exLower_parse] at hc
  revert hc
  decide +kernel

/-- complement exercise at the text level (`hn`: the state names of the reference are not keywords of the format) -/
theorem own_complement_text_ok (dfa1 : String) (D1 : DFA String String) (hp : Parse.parseDfa dfa1.toList = .ok D1)
    (hn : ∀ q, q ∈ D1.Q → Parse.DfaNameOk q) :
    CheckText.complement (Parse.printDfa D1.complement) dfa1 = .ok := by
  have hD := parsedDfa_of hp
  obtain ⟨A', hA', hsim⟩ := parse_print_dfa_sim D1.complement (complement_valid D1 hD.valid) hD.keys hn hD.syms
  rw [C13f.complement_of_parse hp hA', C13a.complementCheck_key hsim hD.keys]
  rfl

/-- non-vacuity: a text with a comment, a blank line and two labels on one line; it parses to `C16.exDFA` -/
example : Parse.parseDfa "% a DFA\nstates p q\ninitial p\nfinal q\n\np q a b\nq q a\nq p b".toList = .ok C16.exDFA ∧
    (∀ q, q ∈ C16.exDFA.Q → Parse.DfaNameOk q) := by
  refine ⟨C13f.exDFA_parse, ?_⟩
  unfold Parse.DfaNameOk
  decide

example : CheckText.complement (Parse.printDfa C16.exDFA.complement)
    "% a DFA\nstates p q\ninitial p\nfinal q\n\np q a b\nq q a\nq p b" = .ok :=
  own_complement_text_ok _ C16.exDFA C13f.exDFA_parse (by unfold Parse.DfaNameOk; decide)

/-- the printed answer key … -/
theorem C13f.exCompl_print :
    Parse.printDfa C16.exDFA.complement = "states p q\nfinal p\ninitial p\ninput_symbols a b\np q a b\nq p b\nq q a" := by
  simp only [Parse.printDfa, Parse.transLines, sortStrings_eq_isort]
  decide +kernel

/-- … and the verdict by evaluation of the model (independent of the theorem); the reference itself gives feedback -/
example : CheckText.complement "states p q\nfinal p\ninitial p\ninput_symbols a b\np q a b\nq p b\nq q a"
      "% a DFA\nstates p q\ninitial p\nfinal q\n\np q a b\nq q a\nq p b" = .ok ∧
    CheckText.complement "states p q\nfinal q\ninitial p\ninput_symbols a b\np q a b\nq p b\nq q a"
      "% a DFA\nstates p q\ninitial p\nfinal q\n\np q a b\nq q a\nq p b" = .feedback := by
  refine ⟨?_, ?_⟩
  · rw [C13f.complement_of_parse C13f.exDFA_parse (A := C13f.exComplKey) ?_]
    · decide +kernel
    · rw [String.toList_ofList]; decide +kernel
  · rw [C13f.complement_of_parse C13f.exDFA_parse (A := { C13f.exComplKey with F := ["q"] }) ?_]
    · decide +kernel
    · rw [String.toList_ofList]; decide +kernel

/-- DFA → regexp exercise at the text level: no hypothesis beyond the single-letter alphabet of `own_dfa2regexp_ok` -/
theorem own_dfa2regexp_text_ok (dfa : String) (D : DFA String String) (hp : Parse.parseDfa dfa.toList = .ok D)
    (hsig : ∀ a, a ∈ D.Sigma → ∃ c : Char, a = String.singleton c ∧ c.isAlpha = true)
    (order : List String) (ho : order.Nodup) (hm : ∀ q, q ∈ order ↔ q ∈ D.Q) (len : Nat) :
    CheckText.dfa2regexp dfa (RegexpText.printSimple (D.toRegexp (gnfaNames D.Q).1 (gnfaNames D.Q).2 order)) len = .ok := by
  have hD := parsedDfa_of hp
  obtain ⟨r', hr', hck⟩ := own_dfa2regexp_ok D hD.valid hD.keys hD.nodupQ hsig order ho hm len
  unfold CheckText.dfa2regexp
  rw [hp, hr']
  simp only [hck]
  rfl

/-- non-vacuity: the even-number-of-`a`s DFA as text (no `states` / `input_symbols` declarations) -/
example : Parse.parseDfa "initial q0\nfinal q0\nq0 q1 a\nq0 q0 b\nq1 q0 a\nq1 q1 b".toList = .ok C06b.evenA ∧
    (∀ a, a ∈ C06b.evenA.Sigma → ∃ c : Char, a = String.singleton c ∧ c.isAlpha = true) ∧
    ["q1", "q0"].Nodup ∧ (∀ q, q ∈ ["q1", "q0"] ↔ q ∈ C06b.evenA.Q) :=
  ⟨C13f.evenA_parse, C13e.evenA_sig, by decide +kernel, C13e.evenA_order⟩

example (len : Nat) : CheckText.dfa2regexp "initial q0\nfinal q0\nq0 q1 a\nq0 q0 b\nq1 q0 a\nq1 q1 b"
    (RegexpText.printSimple (C06b.evenA.toRegexp (gnfaNames C06b.evenA.Q).1 (gnfaNames C06b.evenA.Q).2 ["q1", "q0"]))
    len = .ok :=
  own_dfa2regexp_text_ok _ C06b.evenA C13f.evenA_parse C13e.evenA_sig ["q1", "q0"] (by decide +kernel) C13e.evenA_order len

/-- the key is `(ab*a+b)*`; verdicts by evaluation of the model -/
example : RegexpText.printSimple (C06b.evenA.toRegexp (gnfaNames C06b.evenA.Q).1 (gnfaNames C06b.evenA.Q).2 ["q1", "q0"]) =
      "(ab*a+b)*" ∧
    CheckText.dfa2regexp "initial q0\nfinal q0\nq0 q1 a\nq0 q0 b\nq1 q0 a\nq1 q1 b" "(ab*a+b)*" 3 = .ok ∧
    CheckText.dfa2regexp "initial q0\nfinal q0\nq0 q1 a\nq0 q0 b\nq1 q0 a\nq1 q1 b" "(ab*a)*" 3 = .feedback := by
  rw [CheckText.dfa2regexp, CheckText.dfa2regexp, C13f.evenA_parse]
  decide +kernel

/-- the statement with no condition on the state names and input symbols of the reference -/
def own_reverse_text_ok_stmt : Prop :=
  ∀ (dfa : String) (D : DFA String String), Parse.parseDfa dfa.toList = .ok D → ∀ (s : Sched) (len : Nat),
    CheckText.reverse dfa (Parse.printNfa (D.reverse (freshState D.Q "q") "ε")) s len = .ok

/-- reverse exercise at the text level.  Hypotheses (`hn` cannot be dropped: `own_reverse_text_ok_stmt_false`; `he`: example below): `hn` — no state of the reference is called like a keyword
    of the NFA format (a DFA may have a state called `epsilon`; its reversal prints a transition line that starts with
    `epsilon`, which `parse_nfa` takes for a second `epsilon` declaration); `he` — `ε` is not an input symbol of the
    reference (`ε` matches `\w`, so `parse_dfa` accepts it as a symbol; the reversal uses `ε` as its ε-label). -/
theorem own_reverse_text_ok (dfa : String) (D : DFA String String) (hp : Parse.parseDfa dfa.toList = .ok D)
    (hn : ∀ q, q ∈ D.Q → Parse.NfaNameOk q) (he : "ε" ∉ D.Sigma) (s : Sched) (len : Nat) :
    CheckText.reverse dfa (Parse.printNfa (D.reverse (freshState D.Q "q") "ε")) s len = .ok := by
  have hD := parsedDfa_of hp
  obtain ⟨N', hN', hsim⟩ := C13f.reverse_roundtrip D hD hn he
  unfold CheckText.reverse
  rw [hp, hN']
  simp only [C13a.reverseCheck_key D hD.valid hD.keys _ _ (freshState_fresh D.Q "q") he hsim s len]
  rfl

/-- non-vacuity on `C16.exDFA` -/
example : Parse.parseDfa "% a DFA\nstates p q\ninitial p\nfinal q\n\np q a b\nq q a\nq p b".toList = .ok C16.exDFA ∧
    (∀ q, q ∈ C16.exDFA.Q → Parse.NfaNameOk q) ∧ "ε" ∉ C16.exDFA.Sigma := by
  refine ⟨C13f.exDFA_parse, ?_, by decide +kernel⟩
  unfold Parse.NfaNameOk
  decide

example (s : Sched) (len : Nat) :
    CheckText.reverse "% a DFA\nstates p q\ninitial p\nfinal q\n\np q a b\nq q a\nq p b"
      (Parse.printNfa (C16.exDFA.reverse (freshState C16.exDFA.Q "q") "ε")) s len = .ok :=
  own_reverse_text_ok _ C16.exDFA C13f.exDFA_parse (by unfold Parse.NfaNameOk; decide) (by decide +kernel) s len

theorem C13f.exEps_print :
    Parse.printNfa (C13f.exEps.reverse (freshState C13f.exEps.Q "q") "ε") =
      "states epsilon q1\nfinal epsilon\ninitial q1\ninput_symbols a\nepsilon ε\nepsilon epsilon a\n" := by
  simp only [Parse.printNfa, Parse.transLines, sortStrings_eq_isort]
  decide +kernel

/-- `hn` cannot be dropped: `parse_dfa` accepts a state called `epsilon` (not a keyword of the DFA format); the
    reversed automaton prints the transition line `epsilon epsilon a`, which `parse_nfa` reads as a second `epsilon`
    declaration, and the library's own answer key is rejected with an error -/
theorem own_reverse_text_ok_stmt_false : ¬ own_reverse_text_ok_stmt := by
  intro h
  have := h "initial epsilon\nepsilon epsilon a" C13f.exEps C13f.exEps_parse [] 1
  rw [C13f.exEps_print, CheckText.reverse, C13f.exEps_parse, C13f.exEpsKey_parse] at this
  cases this

/-- `he` cannot be dropped either: `ε` is a word character of the model, so `initial p` / `p p ε` is a DFA over the
    symbol `ε`; its reversal uses `ε` as ε-label and the NFA constructor rejects the re-parsed answer key -/
example : Parse.parseDfa "initial p\np p ε".toList =
      .ok { Q := ["p"], Sigma := ["ε"], delta := [(("p", "ε"), "p")], q0 := "p", F := [] } ∧
    Parse.parseNfa "states p q1\nfinal p\ninitial q1\ninput_symbols ε\nepsilon ε\np p ε\n".toList = .error .assertion :=
  ⟨by rw [String.toList_ofList]; decide +kernel, by rw [String.toList_ofList]; decide +kernel⟩

/-! ### NFA → DFA (answer states are named `{q0,q1}`; the answer is parsed with `parse_nfa`) -/

/-- the statement with no condition on the input symbols of the reference -/
def own_nfa2dfa_text_ok_stmt : Prop :=
  ∀ (nfa : String) (N : NFA String String), Parse.parseNfa nfa.toList = .ok N → ∀ (s : Sched) (D : DFA String String),
    N.toDfa s = .ok D → ∀ (s' : Sched), CheckText.nfa2dfa nfa (Parse.printDfa D) s' = .ok

/-- NFA → DFA exercise at the text level.  Hypotheses `he`, `hu` (cannot be dropped: `own_nfa2dfa_text_ok_stmt_false`): neither `ε` nor `_` is an input symbol of the
    reference NFA.  The answer key is printed by `print_dfa` (no `epsilon` line) and read by `parse_nfa`, which then
    infers the ε-label (`ε` if that character occurs in a label, else `_`); if the inferred label is an input symbol,
    the NFA constructor rejects the answer key. -/
theorem own_nfa2dfa_text_ok (nfa : String) (N : NFA String String) (hp : Parse.parseNfa nfa.toList = .ok N)
    (he : "ε" ∉ N.Sigma) (hu : "_" ∉ N.Sigma) (s : Sched)
    (D : DFA String String) (hD : N.toDfa s = .ok D) (s' : Sched) :
    CheckText.nfa2dfa nfa (Parse.printDfa D) s' = .ok := by
  obtain ⟨A', hA', hck⟩ := C13f.nfa2dfa_text N (parsedNfa_of hp) s D hD he hu s'
  rw [C13f.nfa2dfa_of_parse hp hA', hck]
  rfl

/-- non-vacuity: the hypotheses hold for `C13f.exN`, and the subset construction succeeds -/
example : Parse.parseNfa "initial p\nfinal q\np q a ε\nq q a".toList = .ok C13f.exN ∧ "ε" ∉ C13f.exN.Sigma ∧
    "_" ∉ C13f.exN.Sigma ∧
    ∃ D, C13f.exN.toDfa [] = .ok D ∧ CheckText.nfa2dfa "initial p\nfinal q\np q a ε\nq q a" (Parse.printDfa D) [2, 1] = .ok := by
  refine ⟨C13f.exN_parse, by decide +kernel, by decide +kernel, ?_⟩
  obtain ⟨D, hD, _⟩ := nfaToDfa_named_clean C13f.exN (by decide +kernel) (by decide +kernel) []
  exact ⟨D, hD, own_nfa2dfa_text_ok _ C13f.exN C13f.exN_parse (by decide +kernel) (by decide +kernel) [] D hD [2, 1]⟩

/-- the answer key of that exercise and its verdict, by evaluation of the model (independent of the theorem);
    an answer with a wrong target gives feedback -/
example : CheckText.nfa2dfa "initial p\nfinal q\np q a ε\nq q a"
      "states {p,q} {q}\nfinal {p,q} {q}\ninitial {p,q}\ninput_symbols a\n{p,q} {q} a\n{q} {q} a" [2, 1] = .ok ∧
    CheckText.nfa2dfa "initial p\nfinal q\np q a ε\nq q a"
      "states {p,q} {q}\nfinal {p,q} {q}\ninitial {p,q}\ninput_symbols a\n{p,q} {p,q} a\n{q} {q} a" [] = .feedback := by
  refine ⟨?_, ?_⟩
  · rw [C13f.nfa2dfa_of_parse C13f.exN_parse (A := C13f.exSubsetKey) ?_]
    · decide +kernel
    · rw [String.toList_ofList]; decide +kernel
  · rw [C13f.nfa2dfa_of_parse C13f.exN_parse
      (A := { C13f.exSubsetKey with delta := [(("{p,q}", "a"), ["{p,q}"]), (("{q}", "a"), ["{q}"])] }) ?_]
    · decide +kernel
    · rw [String.toList_ofList]; decide +kernel

/-- the answer key of the NFA → DFA exercise for `exUs`: one state `{p}` -/
def C13f.exUsD : DFA String String :=
  { Q := ["{p}"], Sigma := ["_"], q0 := "{p}", F := [], delta := [(("{p}", "_"), "{p}")] }

theorem C13f.exUs_toDfa : C13f.exUs.toDfa [] = .ok C13f.exUsD := by
  have h : C13f.exUs.toDfaSets [] =
      .ok { Q := [["p"]], Sigma := ["_"], q0 := ["p"], F := [], delta := [((["p"], "_"), ["p"])] } := by rfl
  have hn : printStateSet ["p"] = "{p}" := by simp [printStateSet, sortStrings, dedup]
  rw [NFA.toDfa_eq_ok h]
  simp [DFA.mapStates, C13f.exUsD, hn]

theorem C13f.exUsD_print :
    Parse.printDfa C13f.exUsD = "states {p}\nfinal \ninitial {p}\ninput_symbols _\n{p} {p} _" := by
  simp only [Parse.printDfa, Parse.transLines, sortStrings_eq_isort]
  decide +kernel

/-- `hu` cannot be dropped: the answer key has no `epsilon` line, `parse_nfa` infers the ε-label `_`, which is an
    input symbol, and the NFA constructor rejects the library's own answer key (verdict: error) -/
theorem own_nfa2dfa_text_ok_stmt_false : ¬ own_nfa2dfa_text_ok_stmt := by
  intro h
  have := h "initial p\nepsilon e\np p _" C13f.exUs C13f.exUs_parse [] C13f.exUsD C13f.exUs_toDfa []
  rw [C13f.exUsD_print, CheckText.nfa2dfa, C13f.exUs_parse, C13f.exUsKey_parse] at this
  cases this

/-! ### minimal DFA (answer states are named `{q0,q1}`) -/

/-- minimal-DFA exercise at the text level: no side condition -/
theorem own_minimal_text_ok (dfa : String) (D : DFA String String) (hp : Parse.parseDfa dfa.toList = .ok D) (len : Nat)
    (M : DFA (List String) String) (hM : D.quotient = .ok M) :
    CheckText.minimal dfa (Parse.printDfa (M.mapStates printStateSet)) len = .ok := by
  obtain ⟨A', hA', hck⟩ := C13f.minimal_text D (parsedDfa_of hp) len M hM
  rw [C13f.minimal_of_parse hp hA', hck]
  rfl

/-- non-vacuity: `exC04b` (states `1` and `2` are equivalent) as text; its quotient has the blocks `{3}`, `{0}`, `{1,2}` -/
example : Parse.parseDfa ("states 0 1 2 3\ninput_symbols a b\ninitial 0\nfinal 3\n0 1 a\n0 2 b\n1 3 a\n1 0 b\n" ++
      "2 3 a\n2 0 b\n3 3 a b").toList = .ok exC04b ∧ exC04b.quotient = .ok C13a.exQuot ∧
    (C13a.exQuot.mapStates printStateSet).Q = ["{3}", "{0}", "{1,2}"] := by
  refine ⟨C13f.exC04b_parse', C13a.exQuot_eq, ?_⟩
  rw [C13a.exQuot_named]; rfl

example (len : Nat) : CheckText.minimal
    ("states 0 1 2 3\ninput_symbols a b\ninitial 0\nfinal 3\n0 1 a\n0 2 b\n1 3 a\n1 0 b\n" ++ "2 3 a\n2 0 b\n3 3 a b")
    (Parse.printDfa (C13a.exQuot.mapStates printStateSet)) len = .ok :=
  own_minimal_text_ok _ exC04b C13f.exC04b_parse' len C13a.exQuot C13a.exQuot_eq

/-- the verdict on the text of that key, by evaluation of the model; the reference itself (4 states) gives feedback -/
example : CheckText.minimal "states 0 1 2 3\ninput_symbols a b\ninitial 0\nfinal 3\n0 1 a\n0 2 b\n1 3 a\n1 0 b\n2 3 a\n2 0 b\n3 3 a b"
      "states {0} {1,2} {3}\nfinal {3}\ninitial {0}\ninput_symbols a b\n{0} {1,2} a b\n{1,2} {0} b\n{1,2} {3} a\n{3} {3} a b" 4 = .ok ∧
    CheckText.minimal "states 0 1 2 3\ninput_symbols a b\ninitial 0\nfinal 3\n0 1 a\n0 2 b\n1 3 a\n1 0 b\n2 3 a\n2 0 b\n3 3 a b"
      "states 0 1 2 3\ninput_symbols a b\ninitial 0\nfinal 3\n0 1 a\n0 2 b\n1 3 a\n1 0 b\n2 3 a\n2 0 b\n3 3 a b" 4 = .feedback := by
  refine ⟨?_, ?_⟩
  · rw [C13f.minimal_of_parse C13f.exC04b_parse (A := C13f.exQuotKey) ?_]
    · decide +kernel
    · rw [String.toList_ofList]; decide +kernel
  · rw [C13f.minimal_of_parse C13f.exC04b_parse (A := exC04b) ?_]
    · decide +kernel
    · rw [String.toList_ofList]; decide +kernel

/-! ### product automata (answer states are named `(p,q)`) -/

/-- product exercises at the text level: no side condition beyond equal alphabets -/
theorem own_product_text_ok (t : ProductType) (dfa1 dfa2 : String) (D1 D2 : DFA String String)
    (h1 : Parse.parseDfa dfa1.toList = .ok D1) (h2 : Parse.parseDfa dfa2.toList = .ok D2)
    (hS : ∀ a, a ∈ D1.Sigma ↔ a ∈ D2.Sigma) (len : Nat) :
    CheckText.product t (Parse.printDfa ((D1.product D2 t).mapStates productName)) dfa1 dfa2 len = .ok := by
  obtain ⟨A', hA', hck⟩ := C13f.product_text t D1 D2 (parsedDfa_of h1) (parsedDfa_of h2) hS len
  rw [C13f.product_of_parse h1 h2 hA', hck]
  rfl

/-- non-vacuity: two different texts over the same alphabet -/
example : Parse.parseDfa "% a DFA\nstates p q\ninitial p\nfinal q\n\np q a b\nq q a\nq p b".toList = .ok C16.exDFA ∧
    Parse.parseDfa "initial e\nfinal e\ne o a b\no e a b".toList = .ok C13f.exEven ∧
    (∀ a, a ∈ C16.exDFA.Sigma ↔ a ∈ C13f.exEven.Sigma) := ⟨C13f.exDFA_parse, C12ex.evenLen_parse, fun _ => Iff.rfl⟩

example (t : ProductType) (len : Nat) :
    CheckText.product t (Parse.printDfa ((C16.exDFA.product C13f.exEven t).mapStates productName))
      "% a DFA\nstates p q\ninitial p\nfinal q\n\np q a b\nq q a\nq p b" "initial e\nfinal e\ne o a b\no e a b" len = .ok :=
  own_product_text_ok t _ _ C16.exDFA C13f.exEven C13f.exDFA_parse C12ex.evenLen_parse (fun _ => Iff.rfl) len

/-- the verdict on a text of the intersection automaton, by evaluation of the model; with the final states of the
    union it gives feedback -/
example : CheckText.product .intersection
      "states (p,e) (p,o) (q,e) (q,o)\nfinal (q,e)\ninitial (p,e)\ninput_symbols a b\n(p,e) (q,o) a b\n(p,o) (q,e) a b\n(q,e) (q,o) a\n(q,e) (p,o) b\n(q,o) (q,e) a\n(q,o) (p,e) b"
      "% a DFA\nstates p q\ninitial p\nfinal q\n\np q a b\nq q a\nq p b" "initial e\nfinal e\ne o a b\no e a b" 3 = .ok ∧
    CheckText.product .intersection
      "states (p,e) (p,o) (q,e) (q,o)\nfinal (q,e) (p,e) (q,o)\ninitial (p,e)\ninput_symbols a b\n(p,e) (q,o) a b\n(p,o) (q,e) a b\n(q,e) (q,o) a\n(q,e) (p,o) b\n(q,o) (q,e) a\n(q,o) (p,e) b"
      "% a DFA\nstates p q\ninitial p\nfinal q\n\np q a b\nq q a\nq p b" "initial e\nfinal e\ne o a b\no e a b" 3 = .feedback := by
  refine ⟨?_, ?_⟩
  · rw [C13f.product_of_parse C13f.exDFA_parse C12ex.evenLen_parse (A := C13f.exInterKey) ?_]
    · decide +kernel
    · rw [String.toList_ofList]; decide +kernel
  · rw [C13f.product_of_parse C13f.exDFA_parse C12ex.evenLen_parse
      (A := { C13f.exInterKey with F := ["(q,e)", "(p,e)", "(q,o)"] }) ?_]
    · decide +kernel
    · rw [String.toList_ofList]; decide +kernel

#print axioms own_cyk_text_ok
#print axioms own_derivation_text_ok
#print axioms own_complement_text_ok
#print axioms own_dfa2regexp_text_ok
#print axioms own_reverse_text_ok
#print axioms own_nfa2dfa_text_ok
#print axioms own_minimal_text_ok
#print axioms own_product_text_ok
#print axioms own_cyk_text_ok_stmt_false
#print axioms own_derivation_text_ok_stmt_false
#print axioms own_reverse_text_ok_stmt_false
#print axioms own_nfa2dfa_text_ok_stmt_false

end Gamba
