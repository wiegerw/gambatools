/-
  Gamba.Props.C12d — the two `check_*_language_from_file` checkers AS THE NOTEBOOKS CALL THEM, on text
  (`CheckText.dfaLanguageFile`, `CheckText.nfaLanguageFile`; the reference automaton is the content of a `.dfa` / `.nfa`
  file).  Soundness: the verdict `OK` is only printed when both texts parse to valid automata whose languages agree on
  all words of length ≤ `length`.  Conversely the reference text handed in as the answer is always accepted.
  No hypothesis other than "the verdict is OK" (resp. "the reference text parses").
  The two checkers are `CheckAll.languageFile .dfa .dfa` and `.nfa .nfa` (`languageFile_dfa_dfa_eq`, `_nfa_nfa_eq`): the
  soundness theorems are the generic one of C12h read for these kinds.
-/
import Gamba.Props.C12h
namespace Gamba
open Parse C12ex

/-- `check_dfa_language_from_file` on text: OK ⇒ both texts parse to valid DFAs which accept the same words of
    length ≤ len (each over its own alphabet) -/
theorem dfaLanguageFile_text_sound (answer refText : String) (len : Nat)
    (h : CheckText.dfaLanguageFile answer refText len = .ok) :
    ∃ A D, Parse.parseDfa answer.toList = .ok A ∧ Parse.parseDfa refText.toList = .ok D ∧ A.valid = true ∧ D.valid = true ∧
      ∀ w, w.length ≤ len → ((∀ a, a ∈ w → a ∈ A.Sigma) ∧ A.Accepts w ↔ (∀ a, a ∈ w → a ∈ D.Sigma) ∧ D.Accepts w) := by
  obtain ⟨n1, L1, n2, L2, hL1, hL2, hw⟩ :=
    languageFile_text_sound .dfa .dfa answer refText {} len (languageFile_dfa_dfa_eq .. ▸ h)
  obtain ⟨A, h1, _, rfl⟩ := C12h.langOfText_dfa_some hL1
  obtain ⟨D, h2, _, rfl⟩ := C12h.langOfText_dfa_some hL2
  have vA := (parsedDfa_of h1).valid
  have vD := (parsedDfa_of h2).valid
  exact ⟨A, D, h1, h2, vA, vD, (Enum.same_iff (dfa_words_exact A vA len) (dfa_words_exact D vD len)).mp hw⟩

/-- … in the strongest form: a valid DFA accepts no word with a foreign symbol, so the alphabet side conditions can be
    dropped altogether: the two DFAs accept the same words of length ≤ len, whatever their alphabets -/
theorem dfaLanguageFile_text_lang (answer refText : String) (len : Nat)
    (h : CheckText.dfaLanguageFile answer refText len = .ok) :
    ∃ A D, Parse.parseDfa answer.toList = .ok A ∧ Parse.parseDfa refText.toList = .ok D ∧
      ∀ w, w.length ≤ len → (A.Accepts w ↔ D.Accepts w) := by
  obtain ⟨A, D, h1, h2, vA, vD, hL⟩ := dfaLanguageFile_text_sound answer refText len h
  exact ⟨A, D, h1, h2, fun w hl => (and_iff_right_of_imp (DFA.Accepts.over vA)).symm.trans
    ((hL w hl).trans (and_iff_right_of_imp (DFA.Accepts.over vD)))⟩

-- test vectors: their proof shape is explained in the header of Proofs/C12ex.lean
-- reference: words ending in `a` (2 states); the answer has a redundant third state and another declaration order
example : CheckText.dfaLanguageFile "initial p\nfinal q r\np q a\np p b\nq r a\nq p b\nr q a\nr p b"
    "initial p\nfinal q\np q a\np p b\nq q a\nq p b" 3 = .ok := by
  rw [CheckText.dfaLanguageFile, endsA3_parse, endsA_parse]; decide +kernel
-- words containing an `a` instead: feedback (`ab` is accepted by the answer only)
example : CheckText.dfaLanguageFile "initial p\nfinal q\np q a\np p b\nq q a b"
    "initial p\nfinal q\np q a\np p b\nq q a\nq p b" 3 = .feedback := by
  rw [CheckText.dfaLanguageFile, hasA_parse, endsA_parse]; decide +kernel
-- … but the two agree on all words of length ≤ 1: the bound `len` in the conclusion is sharp
example : CheckText.dfaLanguageFile "initial p\nfinal q\np q a\np p b\nq q a b"
    "initial p\nfinal q\np q a\np p b\nq q a\nq p b" 1 = .ok := by
  rw [CheckText.dfaLanguageFile, hasA_parse, endsA_parse]; decide +kernel
-- a partial transition table does not parse: `Error`; likewise an unreadable reference file
example : CheckText.dfaLanguageFile "initial p\nfinal q\np q a\np p b\nq q a"
    "initial p\nfinal q\np q a\np p b\nq q a\nq p b" 3 = .error := by
  rw [CheckText.dfaLanguageFile, endsA_parse]; decide +kernel
example : CheckText.dfaLanguageFile "initial p\nfinal q\np q a\np p b\nq q a\nq p b" "initial p q" 3 = .error := by
  rw [CheckText.dfaLanguageFile, endsA_parse]; decide +kernel
-- an answer over a LARGER alphabet (`c` leads to a trap): accepted words are over the smaller alphabet on both sides
example : CheckText.dfaLanguageFile "initial p\nfinal q\np q a\np p b\nq q a\nq p b\np t c\nq t c\nt t a b c"
    "initial p\nfinal q\np q a\np p b\nq q a\nq p b" 2 = .ok := by
  rw [CheckText.dfaLanguageFile, endsA_parse]; decide +kernel
-- consequence on the first example: the three-state answer accepts `b a` and rejects `a b`
example : ∃ A, Parse.parseDfa "initial p\nfinal q r\np q a\np p b\nq r a\nq p b\nr q a\nr p b".toList = .ok A ∧
    A.Accepts ["b", "a"] ∧ ¬ A.Accepts ["a", "b"] := by
  obtain ⟨A, D, h1, h2, hL⟩ := dfaLanguageFile_text_lang
    "initial p\nfinal q r\np q a\np p b\nq r a\nq p b\nr q a\nr p b" "initial p\nfinal q\np q a\np p b\nq q a\nq p b" 3
    (by rw [CheckText.dfaLanguageFile, endsA3_parse, endsA_parse]; decide +kernel)
  rw [endsA_parse] at h2
  cases h2
  refine ⟨A, h1, (hL _ (by decide +kernel)).mpr ?_, fun hc => ?_⟩
  · exact (DFA.Accepts_iff_acceptsT (by decide +kernel) (w := ["b", "a"]) (by decide +kernel)).mpr (by decide +kernel)
  · have := (DFA.Accepts_iff_acceptsT (by decide +kernel) (w := ["a", "b"]) (by decide +kernel)).mp ((hL _ (by decide +kernel)).mp hc)
    revert this
    decide

/-- the reference text itself is accepted, for every bound -/
theorem dfaLanguageFile_own_ok (refText : String) (D : DFA String String) (hp : Parse.parseDfa refText.toList = .ok D)
    (len : Nat) : CheckText.dfaLanguageFile refText refText len = .ok := by
  unfold CheckText.dfaLanguageFile
  rw [hp]
  exact (ofBool_ok_iff _).mpr (C12a.equalLanguages_refl _)

example : ∃ D, Parse.parseDfa "initial p\nfinal q\np q a\np p b\nq q a\nq p b".toList = .ok D ∧ D.Q = ["q", "p"] :=
  ⟨_, endsA_parse, rfl⟩
-- the hypothesis is needed: a text that does not parse is answered by `Error`, also against itself
example : CheckText.dfaLanguageFile "initial p q" "initial p q" 3 = .error := by decide +kernel

/-- `check_nfa_language_from_file` on text, for every pop order of the ε-closure worklists: OK ⇒ both texts parse to NFAs
    which accept the same words of length ≤ len (a valid NFA accepts no word with a foreign symbol: no alphabet clause) -/
theorem nfaLanguageFile_text_lang (answer refText : String) (s : Sched) (len : Nat)
    (h : CheckText.nfaLanguageFile answer refText s len = .ok) :
    ∃ A N, Parse.parseNfa answer.toList = .ok A ∧ Parse.parseNfa refText.toList = .ok N ∧
      ∀ w, w.length ≤ len → (A.Accepts w ↔ N.Accepts w) := by
  obtain ⟨n1, L1, n2, L2, hL1, hL2, hw⟩ :=
    languageFile_text_sound .nfa .nfa answer refText { sched := s } len (languageFile_nfa_nfa_eq .. ▸ h)
  obtain ⟨A, h1, _, h3⟩ := C12h.langOfText_nfa_some hL1
  obtain ⟨N, h2, _, h4⟩ := C12h.langOfText_nfa_some hL2
  exact ⟨A, N, h1, h2, ((NFA.enum (parsedNfa_of h1).valid h3).same_iff
    (NFA.enum (parsedNfa_of h2).valid h4)).mp hw⟩

/-- … with validity, and each side restricted to words over its own alphabet -/
theorem nfaLanguageFile_text_sound (answer refText : String) (s : Sched) (len : Nat)
    (h : CheckText.nfaLanguageFile answer refText s len = .ok) :
    ∃ A N, Parse.parseNfa answer.toList = .ok A ∧ Parse.parseNfa refText.toList = .ok N ∧ A.valid = true ∧ N.valid = true ∧
      ∀ w, w.length ≤ len → ((∀ a, a ∈ w → a ∈ A.Sigma) ∧ A.Accepts w ↔ (∀ a, a ∈ w → a ∈ N.Sigma) ∧ N.Accepts w) := by
  obtain ⟨A, N, h1, h2, hL⟩ := nfaLanguageFile_text_lang answer refText s len h
  have vA := (parsedNfa_of h1).valid
  have vN := (parsedNfa_of h2).valid
  exact ⟨A, N, h1, h2, vA, vN, fun w hl => (and_iff_right_of_imp (NFA.Accepts.over vA)).trans
    ((hL w hl).trans (and_iff_right_of_imp (NFA.Accepts.over vN)).symm)⟩

-- reference: `A -x-> B`, `A -ε-> B`, accepting `B` (language {ε, x}); the answer is a deterministic automaton for it
example : CheckText.nfaLanguageFile "initial s\nfinal s t\ns t x" "initial A\nfinal B\nA B x ε" [3, 1, 2] 3 = .ok := by
  rw [CheckText.nfaLanguageFile, exN_parse]; decide +kernel
-- ε not accepted by the answer: feedback
example : CheckText.nfaLanguageFile "initial s\nfinal t\ns t x" "initial A\nfinal B\nA B x ε" [] 3 = .feedback := by
  rw [CheckText.nfaLanguageFile, exN_parse]; decide +kernel
-- two initial states: `Error`
example : CheckText.nfaLanguageFile "initial s u\nfinal s t\ns t x" "initial A\nfinal B\nA B x ε" [] 3 = .error := by
  rw [CheckText.nfaLanguageFile, exN_parse]; decide +kernel

/-- the reference text itself is accepted, for every bound and every pop order: the enumeration `wordsUpTo` cannot fail
    on a parser result (`nfa_words_exact`) -/
theorem nfaLanguageFile_own_ok (refText : String) (N : NFA String String) (hp : Parse.parseNfa refText.toList = .ok N)
    (s : Sched) (len : Nat) : CheckText.nfaLanguageFile refText refText s len = .ok := by
  have vN := (parsedNfa_of hp).valid
  obtain ⟨L, hL, _⟩ := nfa_words_exact N vN s len
  unfold CheckText.nfaLanguageFile
  rw [hp]
  simp only [hL]
  exact (ofBool_ok_iff _).mpr (C12a.equalLanguages_refl _)

example : ∃ N, Parse.parseNfa "initial A\nfinal B\nA B x ε".toList = .ok N ∧ N.Q = ["A", "B"] := ⟨_, exN_parse, rfl⟩
example : CheckText.nfaLanguageFile "initial A B" "initial A B" [] 3 = .error := by decide +kernel

/-- the verdict `OK` is returned only if both arguments parse (the clauses of `text_ok_not_error` for the two file checkers) -/
theorem languageFile_ok_not_error :
    (∀ answer refText len, CheckText.dfaLanguageFile answer refText len = .ok →
      (∃ A, parseDfa answer.toList = .ok A) ∧ ∃ D, parseDfa refText.toList = .ok D) ∧
    (∀ answer refText s len, CheckText.nfaLanguageFile answer refText s len = .ok →
      (∃ A, parseNfa answer.toList = .ok A) ∧ ∃ N, parseNfa refText.toList = .ok N) := by
  refine ⟨?_, ?_⟩
  · intro answer refText len h
    obtain ⟨A, D, h1, h2, _⟩ := dfaLanguageFile_text_lang answer refText len h
    exact ⟨⟨A, h1⟩, D, h2⟩
  · intro answer refText s len h
    obtain ⟨A, N, h1, h2, _⟩ := nfaLanguageFile_text_lang answer refText s len h
    exact ⟨⟨A, h1⟩, N, h2⟩

#print axioms dfaLanguageFile_text_sound
#print axioms dfaLanguageFile_text_lang
#print axioms dfaLanguageFile_own_ok
#print axioms nfaLanguageFile_text_sound
#print axioms nfaLanguageFile_text_lang
#print axioms nfaLanguageFile_own_ok
#print axioms languageFile_ok_not_error

end Gamba
