/-
  Gamba.Props.C13b — the library's own answer key of the NFA→DFA exercise (`nfa_to_dfa` with `print_state_set`
  names, re-read by the checker as an NFA) passes the library's checker `check_nfa_to_dfa_answer`, whatever pop
  orders the construction and the checker use, provided the NFA's state names are words (`\w+`):
  `WordName q` (Proofs/C13b) says that `q` is not empty and consists of word characters.
-/
import Gamba.Proofs.C13b
namespace Gamba

/-- the answer key produced by `nfa_to_dfa` is accepted by `check_nfa_to_dfa_answer`
    (`hk`, unique keys of δ, is part of the exercise's precondition; the proof does not use it) -/
theorem own_nfa2dfa_ok (N : NFA String String) (hv : N.valid = true) (hk : (N.delta.map (·.1)).Nodup)
    (hn : ∀ q, q ∈ N.Q → WordName q) (s s' : Sched) (eps : String) (he : eps ∉ N.Sigma) :
    ∃ D, N.toDfa s = .ok D ∧ Check.nfaToDfaCheck N (Keys.dfaAsNfa D eps) s' = .ok true := by
  have _ := hk
  obtain ⟨D0, hD0, hval, hSig, _⟩ := NFA.toDfaSets_spec_canon hv s
  have hD := NFA.toDfa_eq_ok hD0
  refine ⟨_, hD, C13b.nfaToDfaCheck_key N hv hn s s' hD eps (fun _ => Iff.rfl) (fun _ => Iff.rfl) rfl (fun _ => Iff.rfl)
    (fun _ _ => rfl) ?_⟩
  intro e hem hc
  obtain ⟨e0, he0, rfl⟩ := List.mem_map.mp hem
  obtain ⟨e1, he1, rfl⟩ := List.mem_map.mp he0
  have hc' : e1.1.2 = eps := hc
  exact he (hc' ▸ hSig ▸ (DFA.valid_closed hval he1).2.1)

/-- non-vacuity: an NFA with an ε-move, a nondeterministic move and a partial δ whose names are words; its answer
    key (four subsets, among them `{}`) is computed with one pop order and checked with another -/
example : C03.exN.valid = true ∧ (C03.exN.delta.map (·.1)).Nodup ∧ (∀ q, q ∈ C03.exN.Q → WordName q) ∧
    "eps" ∉ C03.exN.Sigma ∧ C03.exN.toDfa [] = .ok C03.exDnamed ∧
    Check.nfaToDfaCheck C03.exN (Keys.dfaAsNfa C03.exDnamed "eps") [2, 1] = .ok true := by
  refine ⟨C03.exN_valid, by decide +kernel, ?_, by decide +kernel, C03.exN_toDfa, by decide +kernel⟩
  intro q hq
  simp only [C03.exN, List.mem_cons, List.not_mem_nil, or_false] at hq
  rcases hq with rfl | rfl | rfl <;> exact ⟨by decide +kernel, by decide +kernel⟩

/-- the text-level key lemma on a concrete set: printing sorts, extracting splits at the commas -/
example : printStateSet ["q2", "q0", "q2"] = "{q0,q2}" ∧ Check.isStateSetLabel "{q0,q2}" = true ∧
    Check.extractSet "{q0,q2}" = ["q0", "q2"] ∧ Check.extractSet "{}" = [] := by
  refine ⟨by rw [printStateSet_eq_isort]; decide +kernel, by decide +kernel, by decide +kernel, by decide +kernel⟩

/-- the hypothesis `WordName` cannot be dropped: with a state called `a,b` the key names the singleton subset
    `{a,b}`, the checker splits that name at the comma into `a` and `b`, which are not states of the NFA, and the
    library's own answer is rejected -/
example : C13b.cexN.valid = true ∧ (C13b.cexN.delta.map (·.1)).Nodup ∧ "eps" ∉ C13b.cexN.Sigma ∧
    (∃ D, C13b.cexN.toDfa [] = .ok D ∧ Check.nfaToDfaCheck C13b.cexN (Keys.dfaAsNfa D "eps") [] = .ok false) :=
  ⟨by decide +kernel, by decide +kernel, by decide +kernel, C13b.cexN_rejected⟩

#print axioms own_nfa2dfa_ok

end Gamba
