/-
  Gamba.Props.C08b — phase 3 of the CNF conversion: unit-rule elimination (`CFG.elimUnit`).
  (`CFG.UnitReach` and `CFG.unitRhs` are defined in `Gamba.Proofs.C08b`.)
-/
import Gamba.Proofs.C08b
namespace Gamba

/-- example: a cycle of unit rules `A → B`, `B → A | b`, `S → A` -/
def C08b.exG : CFG :=
  { V := ["S", "A", "B"], Sigma := ["b"], S := "S",
    R := [⟨"S", 0, [.v "A"]⟩, ⟨"A", 1, [.v "B"]⟩, ⟨"B", 2, [.v "A"]⟩, ⟨"B", 3, [.t "b"]⟩] }

theorem C08b.exG_valid : C08b.exG.valid = true := by decide
theorem C08b.exG_disjoint : C08b.exG.Disjoint := by
  intro x hx; revert x; decide

/-- for a valid grammar whose terminals and variables are disjoint as strings, the Python test
    `len(rhs) == 1 and rhs[0] in V` (`unitTarget`) recognises exactly the rules `A → B`, `B` a variable -/
theorem unitTarget_exact (G : CFG) (hv : G.valid = true) (hd : G.Disjoint) (r : CRule) (hr : r ∈ G.R)
    (B : String) : CFG.unitTarget G r = some B ↔ r.rhs = [.v B] :=
  CFG.unitTarget_eq_some_iff hv hd hr B

example : CFG.unitTarget C08b.exG ⟨"A", 1, [.v "B"]⟩ = some "B" ∧
    CFG.unitTarget C08b.exG ⟨"B", 3, [.t "b"]⟩ = none := by decide +kernel

/-- unit-derivability: for a valid grammar whose terminals and variables are disjoint as strings,
    `derivable G A` is exactly the set of variables B ≠ A reachable from A by a non-empty chain of unit rules -/
theorem derivable_exact (G : CFG) (hv : G.valid = true) (hd : G.Disjoint) (A B : String) :
    B ∈ G.derivable A ↔ (G.UnitReach A B ∧ B ≠ A) :=
  CFG.mem_derivable_iff_unitReach hv hd A B

-- the cycle A → B → A: `A` reaches itself but is filtered out
example : C08b.exG.derivable "S" = ["A", "B"] ∧ C08b.exG.derivable "A" = ["B"] ∧
    C08b.exG.derivable "B" = ["A"] := by decide +kernel

example : C08b.exG.UnitReach "S" "B" ∧ "B" ≠ "S" :=
  (derivable_exact C08b.exG C08b.exG_valid C08b.exG_disjoint "S" "B").mp (by decide +kernel)

example : C08b.exG.UnitReach "A" "A" :=
  .step (.one ⟨⟨"A", 1, [.v "B"]⟩, by decide +kernel, rfl, rfl⟩) ⟨⟨"B", 2, [.v "A"]⟩, by decide +kernel, rfl, rfl⟩

/-- the (lhs, rhs) pairs of `elimUnit G`, for ANY grammar: the non-unit rules of `G`, plus `(A, α)`
    for `A ∈ V`, `B ∈ derivable G A` and `(B, α)` a non-unit rule of `G` -/
theorem elimUnit_rules (G : CFG) (A : String) (rhs : List Sym) :
    G.elimUnit.HasRule A rhs ↔
      CFG.unitRhs rhs = false ∧ (G.HasRule A rhs ∨
        (A ∈ G.V ∧ ∃ B, B ∈ G.derivable A ∧ G.HasRule B rhs)) :=
  CFG.elimUnit_hasRule_iff G A rhs

/-- unit-rule elimination does not change what a sentential form generates -/
theorem elimUnit_gen (G : CFG) (hv : G.valid = true) (hd : G.Disjoint) (f : List Sym) (w : List String) :
    (G.elimUnit).Gen f w ↔ G.Gen f w :=
  ⟨CFG.elimUnit_gen_sound hv hd, CFG.elimUnit_gen_complete hv hd⟩

/-- phase 3: unit-rule elimination preserves the language, removes every unit rule, keeps the other postconditions -/
theorem elimUnit_spec (G : CFG) (hv : G.valid = true) (hd : G.Disjoint) :
    (G.elimUnit).valid = true ∧ (G.elimUnit).S = G.S ∧ (G.elimUnit).V = G.V ∧
    CFG.NoUnit G.elimUnit ∧
    (CFG.NoEpsExceptStart G → CFG.StartNotOnRhs G → CFG.NoEpsExceptStart G.elimUnit) ∧
    (CFG.StartNotOnRhs G → CFG.StartNotOnRhs G.elimUnit) ∧
    (CFG.AliasOK G → CFG.AliasOK G.elimUnit) ∧
    ∀ w, (G.elimUnit).Lang w ↔ G.Lang w :=
  ⟨CFG.elimUnit_valid hv, rfl, rfl, CFG.elimUnit_noUnit G, CFG.elimUnit_noEps hv hd,
    CFG.elimUnit_startNotOnRhs, CFG.elimUnit_aliasOK,
    fun w => elimUnit_gen G hv hd [.v G.S] w⟩

-- all three new rules share the `Alternative` (aid 3) of `B → b`; the start rule is moved in front
example : C08b.exG.elimUnit.R = [⟨"S", 3, [.t "b"]⟩, ⟨"B", 3, [.t "b"]⟩, ⟨"A", 3, [.t "b"]⟩] ∧
    C08b.exG.elimUnit.V = ["S", "A", "B"] ∧ C08b.exG.elimUnit.S = "S" := by decide +kernel

-- the hypotheses of the inner implications hold on the example
example : CFG.NoEpsExceptStart C08b.exG ∧ CFG.StartNotOnRhs C08b.exG ∧ CFG.AliasOK C08b.exG :=
  ⟨by decide +kernel, by decide +kernel, CFG.C08c.aliasOK_of_b (by decide +kernel)⟩

example : C08b.exG.elimUnit.Lang ["b"] :=
  ((elimUnit_spec C08b.exG C08b.exG_valid C08b.exG_disjoint).2.2.2.2.2.2.2 ["b"]).mpr
    (.v (u := ["b"]) (w := []) ⟨⟨"S", 0, [.v "A"]⟩, by decide +kernel, rfl, rfl⟩
      (.v (u := ["b"]) (w := []) ⟨⟨"A", 1, [.v "B"]⟩, by decide +kernel, rfl, rfl⟩
        (.v (u := ["b"]) (w := []) ⟨⟨"B", 3, [.t "b"]⟩, by decide +kernel, rfl, rfl⟩ (.t .nil) .nil) .nil) .nil)

/-- the set of rules produced does not depend on the order in which the variables are visited
    (Python iterates a set): same (lhs, rhs) pairs for any list V' with the members of V -/
theorem elimUnit_order_indep (G : CFG) (V' : List String) (hp : ∀ A, A ∈ V' ↔ A ∈ G.V) (A : String) (rhs : List Sym) :
    ({ G with V := V' } : CFG).elimUnit.HasRule A rhs ↔ G.elimUnit.HasRule A rhs := by
  rw [CFG.elimUnit_hasRule_iff, CFG.elimUnit_hasRule_iff]
  have h1 : ∀ B, ({ G with V := V' } : CFG).HasRule B rhs ↔ G.HasRule B rhs := fun _ => Iff.rfl
  simp only [h1, hp, CFG.mem_derivable_congr G V' hp]

example : ∀ A, A ∈ ["B", "S", "A", "B"] ↔ A ∈ C08b.exG.V := by
  intro A; simp only [C08b.exG, List.mem_cons, List.not_mem_nil, or_false]
  constructor
  · rintro (h | h | h | h) <;> simp [h]
  · rintro (h | h | h) <;> simp [h]

-- a different order (and a duplicate) gives the same rule list
example : ({ C08b.exG with V := ["B", "S", "A", "B"] } : CFG).elimUnit.R =
    [⟨"S", 3, [.t "b"]⟩, ⟨"B", 3, [.t "b"]⟩, ⟨"A", 3, [.t "b"]⟩] := by decide +kernel

#print axioms unitTarget_exact
#print axioms derivable_exact
#print axioms elimUnit_rules
#print axioms elimUnit_spec
#print axioms elimUnit_gen
#print axioms elimUnit_order_indep
end Gamba
