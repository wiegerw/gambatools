/-
  Gamba.Props.C14a — the DFA closure constructions (`dfa_product`, `dfa_complement`, state renaming,
  `dfa_no_prefix`, `dfa_make_total`, `fresh_state`) produce valid automata with the intended languages.
  `DFA.pvalid` (validity without totality, the hypothesis of `makeTotal_*`) is defined in `Gamba.Proofs.C14a`.
-/
import Gamba.Proofs.C14a
import Gamba.Proofs.C01
import Gamba.Proofs.DecEq
namespace Gamba
variable {σ σ₂ τ : Type} [DecidableEq σ] [DecidableEq σ₂] [DecidableEq τ]

open C14a

theorem product_valid (D1 : DFA σ τ) (D2 : DFA σ₂ τ) (t : ProductType)
    (h1 : D1.valid = true) (h2 : D2.valid = true) (hS : ∀ a, a ∈ D1.Sigma ↔ a ∈ D2.Sigma) :
    (D1.product D2 t).valid = true :=
  DFA.product_valid D1 D2 t h1 h2 hS

example : (exD1.product exD2 .union).valid = true :=
  product_valid exD1 exD2 .union exD1_valid exD2_valid exD12_sigma

/-- (`hw` is not needed, here and in the next two: off the alphabet no side accepts.) -/
theorem product_union_lang (D1 : DFA σ τ) (D2 : DFA σ₂ τ)
    (h1 : D1.valid = true) (h2 : D2.valid = true) (hS : ∀ a, a ∈ D1.Sigma ↔ a ∈ D2.Sigma)
    (w : List τ) (hw : ∀ a, a ∈ w → a ∈ D1.Sigma) :
    (D1.product D2 .union).Accepts w ↔ (D1.Accepts w ∨ D2.Accepts w) := by
  have _ := hw
  rw [DFA.product_accepts_iff D1 D2 .union h1 h2 hS w]
  simp only [ProductType.accept, Bool.or_eq_true, decide_eq_true_eq]

example : (∀ a, a ∈ ["a", "b"] → a ∈ exD1.Sigma) ∧ (exD1.product exD2 .union).Accepts ["a", "b"] ∧
    ¬ exD1.Accepts ["a", "b"] ∧ exD2.Accepts ["a", "b"] := by
  simp only [DFA.Accepts_iff_accepts]; decide +kernel

theorem product_intersection_lang (D1 : DFA σ τ) (D2 : DFA σ₂ τ)
    (h1 : D1.valid = true) (h2 : D2.valid = true) (hS : ∀ a, a ∈ D1.Sigma ↔ a ∈ D2.Sigma)
    (w : List τ) (hw : ∀ a, a ∈ w → a ∈ D1.Sigma) :
    (D1.product D2 .intersection).Accepts w ↔ (D1.Accepts w ∧ D2.Accepts w) := by
  have _ := hw
  rw [DFA.product_accepts_iff D1 D2 .intersection h1 h2 hS w]
  simp only [ProductType.accept, Bool.and_eq_true, decide_eq_true_eq]

example : (exD1.product exD2 .intersection).Accepts ["b", "a"] ∧
    ¬ (exD1.product exD2 .intersection).Accepts ["a", "b"] := by
  simp only [DFA.Accepts_iff_accepts]; decide +kernel

theorem product_symdiff_lang (D1 : DFA σ τ) (D2 : DFA σ₂ τ)
    (h1 : D1.valid = true) (h2 : D2.valid = true) (hS : ∀ a, a ∈ D1.Sigma ↔ a ∈ D2.Sigma)
    (w : List τ) (hw : ∀ a, a ∈ w → a ∈ D1.Sigma) :
    (D1.product D2 .symmetricDifference).Accepts w ↔
      ((D1.Accepts w ∧ ¬ D2.Accepts w) ∨ (¬ D1.Accepts w ∧ D2.Accepts w)) := by
  have _ := hw
  rw [DFA.product_accepts_iff D1 D2 .symmetricDifference h1 h2 hS w]
  simp only [ProductType.accept, Bool.or_eq_true, Bool.and_eq_true, Bool.not_eq_true',
    decide_eq_true_eq, decide_eq_false_iff_not]

example : (exD1.product exD2 .symmetricDifference).Accepts ["a", "b"] ∧
    ¬ (exD1.product exD2 .symmetricDifference).Accepts ["b", "a"] := by
  simp only [DFA.Accepts_iff_accepts]; decide +kernel

theorem complement_valid (D : DFA σ τ) (h : D.valid = true) : D.complement.valid = true :=
  DFA.complement_valid D h

example : exD1.complement.valid = true := complement_valid exD1 exD1_valid

theorem complement_lang (D : DFA σ τ) (h : D.valid = true) (w : List τ)
    (hw : ∀ a, a ∈ w → a ∈ D.Sigma) : D.complement.Accepts w ↔ ¬ D.Accepts w :=
  DFA.complement_accepts_iff D h w hw

example : exD1.complement.Accepts ["a", "b"] ∧ ¬ exD1.complement.Accepts ["b", "a"] := by
  simp only [DFA.Accepts_iff_accepts]; decide +kernel

/-! ### renaming of states: a renaming that is injective on `Q` preserves validity and the language -/

theorem mapStates_valid {σ' : Type} [DecidableEq σ'] (f : σ → σ') (D : DFA σ τ) (h : D.valid = true)
    (hf : ∀ p q, p ∈ D.Q → q ∈ D.Q → f p = f q → p = q) : (D.mapStates f).valid = true :=
  DFA.mapStates_valid' f D h hf

theorem mapStates_lang {σ' : Type} [DecidableEq σ'] (f : σ → σ') (D : DFA σ τ) (h : D.valid = true)
    (hf : ∀ p q, p ∈ D.Q → q ∈ D.Q → f p = f q → p = q) (w : List τ)
    (hw : ∀ a, a ∈ w → a ∈ D.Sigma) : (D.mapStates f).Accepts w ↔ D.Accepts w :=
  DFA.mapStates_accepts_iff f D h hf w hw

example : (exD1.mapStates (· ++ "'")).valid = true ∧ (exD1.mapStates (· ++ "'")).Q = ["p'", "q'"] :=
  ⟨mapStates_valid _ exD1 exD1_valid exRename_inj, by decide +kernel⟩

example : (exD1.mapStates (· ++ "'")).Accepts ["b", "a"] := by
  simp only [DFA.Accepts_iff_accepts]; decide +kernel

/-- product states renamed to the Python names `"(p,q)"` -/
example : ((exD1.product exD2 .union).mapStates productName).Q = ["(p,e)", "(p,o)", "(q,e)", "(q,o)"] ∧
    ((exD1.product exD2 .union).mapStates productName).valid = true := by
  decide +kernel

theorem noPrefix_valid (D : DFA σ τ) (eps : τ) (h : D.valid = true) (he : eps ∉ D.Sigma) :
    (D.noPrefix eps).valid = true :=
  DFA.noPrefix_valid' D eps h he

example : (exD1.noPrefix "").valid = true := noPrefix_valid exD1 "" exD1_valid (by decide +kernel)

/-- `dfa_no_prefix`: the NFA obtained by cutting the transitions that leave accepting states accepts exactly
    the words of L(D) none of whose proper prefixes is in L(D) -/
theorem noPrefix_lang (D : DFA σ τ) (eps : τ) (h : D.valid = true) (he : eps ∉ D.Sigma)
    (w : List τ) (hw : ∀ a, a ∈ w → a ∈ D.Sigma) :
    (D.noPrefix eps).Accepts w ↔ (D.Accepts w ∧ ∀ u v, w = u ++ v → v ≠ [] → ¬ D.Accepts u) :=
  DFA.noPrefix_accepts_iff D eps h he w hw

/-- `b a` is accepted by the prefix-free automaton, `a a` (which has the accepted proper prefix `a`) is not
    although `exD1` accepts it -/
example : (exD1.noPrefix "").Accepts ["b", "a"] ∧ exD1.Accepts ["a", "a"] ∧
    ¬ (exD1.noPrefix "").Accepts ["a", "a"] := by
  have hv := noPrefix_valid exD1 "" exD1_valid (by decide +kernel)
  exact ⟨(NFA.Accepts_iff_eval (s := []) (b := true) hv (by decide +kernel) (by decide +kernel)).mpr rfl,
    (DFA.Accepts_iff_accepts _ _).mpr (by decide +kernel),
    fun h => nomatch (NFA.Accepts_iff_eval (s := []) (b := false) hv (by decide +kernel) (by decide +kernel)).mp h⟩

/-- `dfa_make_total` on a partial DFA (`pvalid` = valid except for totality) -/
theorem makeTotal_valid (D : DFA σ τ) (trap : σ) (h : D.pvalid = true) (ht : trap ∉ D.Q) :
    (D.makeTotal trap).valid = true := by
  -- freshness of the trap state is not needed for validity (only for the language)
  have _ := ht
  exact DFA.makeTotal_valid' D trap h

example : exP.valid = false ∧ (exP.makeTotal "trap1").valid = true :=
  ⟨exP_not_valid, makeTotal_valid exP "trap1" exP_pvalid (by decide +kernel)⟩

theorem makeTotal_lang (D : DFA σ τ) (trap : σ) (h : D.pvalid = true) (ht : trap ∉ D.Q) (w : List τ) :
    (D.makeTotal trap).Accepts w ↔ D.Accepts w :=
  DFA.makeTotal_accepts_iff D trap h ht w

example : (exP.makeTotal "trap1").Accepts ["a"] ∧ ¬ (exP.makeTotal "trap1").Accepts ["a", "b"] := by
  simp only [DFA.Accepts_iff_accepts]; decide +kernel

example : exP.Accepts ["a"] := by rw [DFA.Accepts_iff_accepts]; decide +kernel

/-- `fresh_state(Q, hint)` returns a name that is not in Q -/
theorem freshState_fresh (Q : List String) (hint : String) : freshState Q hint ∉ Q :=
  freshState_not_mem Q hint

example : freshState ["q1", "q2", "p"] "q" = "q3" := by decide +kernel

#print axioms product_valid
#print axioms product_union_lang
#print axioms product_intersection_lang
#print axioms product_symdiff_lang
#print axioms complement_valid
#print axioms complement_lang
#print axioms mapStates_valid
#print axioms mapStates_lang
#print axioms noPrefix_valid
#print axioms noPrefix_lang
#print axioms makeTotal_valid
#print axioms makeTotal_lang
#print axioms freshState_fresh

end Gamba
