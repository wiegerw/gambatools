/-
  Gamba.Props.C19 — determinism of the observable results and absence of operand mutation.

  PART A: alias micro-model (`Gamba.Model.Heap`).  The repaired `nfa_repetition` / `nfa_concatenation`
  (which copy δ's set objects) never write to a pre-existing address, hence leave their operands intact;
  the original versions (which shared the set objects) do modify their operand.
  PART B: order-independence corollaries of theorems proved for C01–C09, C20: every routine whose control flow
  depends on a `set.pop()` / set-iteration order returns the same observable value for every order.
-/
import Gamba.Proofs.C19
import Gamba.Props.C01
import Gamba.Props.C02reg
import Gamba.Props.C03
import Gamba.Props.C04a
import Gamba.Props.C04b
import Gamba.Props.C04c
import Gamba.Props.C06b
import Gamba.Props.C08b
import Gamba.Props.C09
import Gamba.Props.C20
namespace Gamba
variable {σ τ : Type} [DecidableEq σ] [DecidableEq τ]

/-! ## PART A — the alias micro-model -/

/-- the repaired constructions never write to an address that existed before the call: every old address keeps its
    content.  `hwf` (resp. `h1`, `h2`) is part of the property's wording; the proofs do not use it: reads outside the
    store give `[]`. -/
theorem repetitionCopied_frame (N : Heap.HNFA σ τ) (h : Heap.Store σ) (q0 : σ) (hwf : N.WF h) (a : Heap.Addr) (ha : a < h.length) :
    (Heap.repetitionCopied N h q0).2.read a = h.read a :=
  have _ := hwf
  (Heap.repetitionCopied_frameOK N h q0).2 a ha

theorem concatCopied_frame (N1 N2 : Heap.HNFA σ τ) (h : Heap.Store σ) (h1 : N1.WF h) (h2 : N2.WF h) (a : Heap.Addr) (ha : a < h.length) :
    (Heap.concatCopied N1 N2 h).2.read a = h.read a :=
  have _ := h1
  have _ := h2
  (Heap.concatCopied_frameOK N1 N2 h).2 a ha

/-- hence the observable content of the operands is unchanged -/
theorem repetitionCopied_operand_intact (N : Heap.HNFA σ τ) (h : Heap.Store σ) (q0 : σ) (hwf : N.WF h) :
    N.view (Heap.repetitionCopied N h q0).2 = N.view h :=
  Heap.view_eq_of_frame N hwf (Heap.repetitionCopied_frameOK N h q0)

theorem concatCopied_operands_intact (N1 N2 : Heap.HNFA σ τ) (h : Heap.Store σ) (h1 : N1.WF h) (h2 : N2.WF h) :
    N1.view (Heap.concatCopied N1 N2 h).2 = N1.view h ∧ N2.view (Heap.concatCopied N1 N2 h).2 = N2.view h :=
  ⟨Heap.view_eq_of_frame N1 h1 (Heap.concatCopied_frameOK N1 N2 h),
   Heap.view_eq_of_frame N2 h2 (Heap.concatCopied_frameOK N1 N2 h)⟩

namespace C19
/-- `p -a-> f`, and an ε-transition `f -ε-> p` out of the final state `f`; the two target sets live at addresses 0 and 1 -/
def exN : Heap.HNFA String String :=
  { Q := ["p", "f"], delta := [(("p", "a"), 0), (("f", "eps"), 1)], q0 := "p", F := ["f"], eps := "eps" }
/-- a second operand (for concatenation): `r -b-> r`, target set at address 2 -/
def exN2 : Heap.HNFA String String :=
  { Q := ["r"], delta := [(("r", "b"), 2)], q0 := "r", F := ["r"], eps := "eps" }
def exH : Heap.Store String := [["f"], ["p"], ["r"]]

theorem exN_wf : exN.WF exH := by
  intro e he
  simp only [exN, List.mem_cons, List.not_mem_nil, or_false] at he
  rcases he with rfl | rfl <;> decide
theorem exN2_wf : exN2.WF exH := by
  intro e he
  simp only [exN2, List.mem_cons, List.not_mem_nil, or_false] at he
  subst he; decide

/-- two keys that share one set object (address 0): allowed by `WF` -/
def exAlias : Heap.HNFA String String :=
  { Q := ["f", "g"], delta := [(("f", "e"), 0), (("g", "a"), 0)], q0 := "f", F := ["f"], eps := "e" }
def exAliasH : Heap.Store String := [["g"]]
theorem exAlias_wf : exAlias.WF exAliasH := by
  intro e he
  simp only [exAlias, List.mem_cons, List.not_mem_nil, or_false] at he
  rcases he with rfl | rfl <;> decide
end C19

-- non-vacuity: the operands are well-formed, non-empty, and the repaired versions do write (to fresh cells only)
example : C19.exN.WF C19.exH ∧ C19.exN2.WF C19.exH ∧ (1 : Heap.Addr) < C19.exH.length := ⟨C19.exN_wf, C19.exN2_wf, by decide +kernel⟩
example : (Heap.repetitionCopied C19.exN C19.exH "s").2 = [["f"], ["p"], ["r"], ["f"], ["p"], ["p"], ["p"]] ∧
    (Heap.repetitionCopied C19.exN C19.exH "s").1.delta =
      [(("p", "a"), 3), (("f", "eps"), 4), (("s", "eps"), 6)] := by decide +kernel
example : (Heap.concatCopied C19.exN C19.exN2 C19.exH).2 = [["f"], ["p"], ["r"], ["f"], ["p", "r"], ["r"]] ∧
    (Heap.concatCopied C19.exN C19.exN2 C19.exH).1.delta =
      [(("p", "a"), 3), (("f", "eps"), 4), (("r", "b"), 5)] := by decide +kernel
example : C19.exN.view (Heap.repetitionCopied C19.exN C19.exH "s").2 = [(("p", "a"), ["f"]), (("f", "eps"), ["p"])] := by
  rw [repetitionCopied_operand_intact _ _ _ C19.exN_wf]; decide

/-- the ORIGINAL (shared) versions do modify their operand: concrete witnesses -/
theorem repetitionShared_mutates : ∃ (N : Heap.HNFA String String) (h : Heap.Store String) (q0 : String),
    N.WF h ∧ N.view (Heap.repetitionShared N h q0).2 ≠ N.view h :=
  ⟨{ C19.exN with q0 := "f" }, C19.exH, "s", C19.exN_wf, by decide⟩

theorem concatShared_mutates : ∃ (N1 N2 : Heap.HNFA String String) (h : Heap.Store String),
    N1.WF h ∧ N2.WF h ∧ N1.view (Heap.concatShared N1 N2 h).2 ≠ N1.view h :=
  ⟨C19.exN, C19.exN2, C19.exH, C19.exN_wf, C19.exN2_wf, by decide⟩

-- what the operand looks like after the original calls: the ε-target set of the final state `f` has grown
example : ({ C19.exN with q0 := "f" } : Heap.HNFA String String).view
      (Heap.repetitionShared { C19.exN with q0 := "f" } C19.exH "s").2 = [(("p", "a"), ["f"]), (("f", "eps"), ["p", "f"])] := by
  decide +kernel
example : C19.exN.view (Heap.concatShared C19.exN C19.exN2 C19.exH).2 = [(("p", "a"), ["f"]), (("f", "eps"), ["p", "r"])] := by
  decide +kernel

/-- "the repaired and the original `nfa_repetition` show the same result" with the hypothesis that the KEYS of δ are
    duplicate-free, and none on the addresses -/
def repetition_same_result_stmt : Prop :=
  ∀ (σ τ : Type) [DecidableEq σ] [DecidableEq τ] (N : Heap.HNFA σ τ) (h : Heap.Store σ) (q0 : σ), N.WF h →
    (N.delta.map (·.1)).Nodup →
    ∀ k, ((Heap.repetitionCopied N h q0).1.delta.lookup k).map ((Heap.repetitionCopied N h q0).2.read) =
         ((Heap.repetitionShared N h q0).1.delta.lookup k).map ((Heap.repetitionShared N h q0).2.read)

/-- it is FALSE in the model: `WF` allows two keys of the operand to share one set object; the in-place update of the
    shared version then also changes the other key's set, the copying version does not. -/
theorem repetition_same_result_stmt_false : ¬ repetition_same_result_stmt := by
  intro hst
  have := hst String String C19.exAlias C19.exAliasH "s" C19.exAlias_wf (by decide) ("g", "a")
  revert this
  decide

/-- and the copied result is observably the same as what the shared version computes (the repair changes aliasing,
    not the result) — under the extra hypothesis that the operand itself has no aliasing (distinct keys own distinct
    set objects).  No hypothesis on the keys is needed. -/
theorem repetition_same_result_partial (N : Heap.HNFA σ τ) (h : Heap.Store σ) (q0 : σ) (hwf : N.WF h)
    (hna : (N.delta.map (·.2)).Nodup) :
    ∀ k, ((Heap.repetitionCopied N h q0).1.delta.lookup k).map ((Heap.repetitionCopied N h q0).2.read) =
         ((Heap.repetitionShared N h q0).1.delta.lookup k).map ((Heap.repetitionShared N h q0).2.read) := by
  -- the repaired construction is the original one run on the copy, and the copy shows what the operand shows
  have hC := Heap.repetitionShared_view (N := { N with delta := (Heap.copyDelta N.delta h).1 })
    (Heap.shows_copyDelta N.delta h hwf) q0
  have hS := Heap.repetitionShared_view (N := N) ⟨hna, hwf, rfl⟩ q0
  intro k
  exact (Heap.lookup_view (_, _) k).symm.trans ((congrArg (·.lookup k) (hC.trans hS.symm)).trans (Heap.lookup_view (_, _) k))

example : C19.exN.WF C19.exH ∧ (C19.exN.delta.map (·.2)).Nodup ∧
    ((Heap.repetitionCopied C19.exN C19.exH "s").1.delta.lookup ("f", "eps")).map ((Heap.repetitionCopied C19.exN C19.exH "s").2.read)
      = some ["p"] ∧
    ((Heap.repetitionShared C19.exN C19.exH "s").1.delta.lookup ("f", "eps")).map ((Heap.repetitionShared C19.exN C19.exH "s").2.read)
      = some ["p"] := ⟨C19.exN_wf, by decide +kernel, by decide +kernel, by decide +kernel⟩

/-! ## PART B — the observable value does not depend on the pop / iteration order -/

/-- acceptance tests and enumerators: identical VALUE for every pop order -/
theorem c19_nfa_accepts (N : NFA σ τ) (hv : N.valid = true) (s s' : Sched) (w : List τ) (hw : ∀ a, a ∈ w → a ∈ N.Sigma) :
    N.accepts s w = N.accepts s' w :=
  nfa_accepts_sched_indep N hv s s' w hw

example : C01.exNFA.valid = true ∧ (∀ a, a ∈ ["x", "y"] → a ∈ C01.exNFA.Sigma) ∧
    C01.exNFA.accepts [2, 0, 1] ["x", "y"] = .ok true ∧ C01.exNFA.accepts [7, 7, 7, 7] ["x", "y"] = .ok true :=
  by decide +kernel

theorem c19_nfa_words (N : NFA σ τ) (hv : N.valid = true) (s s' : Sched) (n : Nat) :
    ∃ L L', N.wordsUpTo s n = .ok L ∧ N.wordsUpTo s' n = .ok L' ∧ ∀ w, w ∈ L ↔ w ∈ L' := by
  obtain ⟨L, hL, h⟩ := nfa_words_exact N hv s n
  obtain ⟨L', hL', h'⟩ := nfa_words_exact N hv s' n
  exact ⟨L, L', hL, hL', fun w => (h w).trans (h' w).symm⟩

example : C01.exNFA.valid = true ∧
    C01.exNFA.wordsUpTo [3, 1, 2, 5] 1 = .ok [[], ["x"], ["x"], ["x"], ["y"], ["y"], ["y"]] ∧
    C01.exNFA.wordsUpTo [] 1 = .ok [[], ["x"], ["x"], ["x"], ["y"], ["y"], ["y"]] :=
  by decide +kernel

/-- subset construction: same language for every pop order -/
theorem c19_nfaToDfa (N : NFA σ τ) (hv : N.valid = true) (s s' : Sched) :
    ∃ D D', N.toDfaSets s = .ok D ∧ N.toDfaSets s' = .ok D' ∧
      ∀ w, (∀ a, a ∈ w → a ∈ N.Sigma) → (D.Accepts w ↔ D'.Accepts w) :=
  nfaToDfa_sched_indep N hv s s'

example : C03.exN.valid = true ∧ C03.exN.toDfaSets [] = .ok C03.exD := ⟨C03.exN_valid, by decide +kernel⟩

/-- Hopcroft: the same set of blocks for every pop order -/
theorem c19_hopcroft (D : DFA σ τ) (hv : D.valid = true) (hQ : D.Q.Nodup) (s s' : Sched) :
    ∃ M M', D.hopcroft s = .ok M ∧ D.hopcroft s' = .ok M' ∧
      ∀ B, B ∈ M.Q → ∃ B', B' ∈ M'.Q ∧ ∀ q, q ∈ B ↔ q ∈ B' := by
  obtain ⟨M, hM⟩ := hopcroft_terminates D hv hQ s
  obtain ⟨M', hM'⟩ := hopcroft_terminates D hv hQ s'
  have hN := (hopcroft_spec D hv hQ s M hM).2.2.1
  have hN' := (hopcroft_spec D hv hQ s' M' hM').2.2.1
  exact ⟨M, M', hM, hM', hN.block_corr hN'⟩

example : C04c.exD.valid = true ∧ C04c.exD.Q.Nodup ∧
    (C04c.exD.hopcroft []).toOption.map (·.Q) = some [["q3"], ["q1", "q2"], ["q0"], ["q4"]] ∧
    (C04c.exD.hopcroft [2, 0, 1]).toOption.map (·.Q) = some [["q3"], ["q1", "q2"], ["q0"], ["q4"]] :=
  by decide +kernel

/-- the three minimisers agree with each other (same classes) -/
theorem c19_minimizers_agree (D : DFA σ τ) (hv : D.valid = true) (hQ : D.Q.Nodup) (s : Sched) :
    ∃ M1 M2 M3, D.minimizeTable = .ok M1 ∧ D.quotient = .ok M2 ∧ D.hopcroft s = .ok M3 ∧
      (∀ B, B ∈ M1.Q → ∃ B', B' ∈ M2.Q ∧ ∀ q, q ∈ B ↔ q ∈ B') ∧ (∀ B, B ∈ M2.Q → ∃ B', B' ∈ M3.Q ∧ ∀ q, q ∈ B ↔ q ∈ B') := by
  obtain ⟨M1, h1, _, _, hN1, _⟩ := minimizeTable_spec D hv hQ
  obtain ⟨M2, h2, _, _, hN2, _⟩ := quotient_spec D hv hQ
  obtain ⟨M3, h3⟩ := hopcroft_terminates D hv hQ s
  have hN3 := (hopcroft_spec D hv hQ s M3 h3).2.2.1
  exact ⟨M1, M2, M3, h1, h2, h3, hN1.block_corr hN2, hN2.block_corr hN3⟩

-- the three routines on one DFA: the same three classes, listed (and internally ordered) differently
example : exC04.valid = true ∧ exC04.Q.Nodup ∧
    exC04.minimizeTable.toOption.map (·.Q) = some [["q0"], ["q1", "q2"], ["q3"]] ∧
    exC04.quotient.toOption.map (·.Q) = some [["q3"], ["q0"], ["q1", "q2"]] ∧
    (exC04.hopcroft [1]).toOption.map (·.Q) = some [["q3"], ["q1", "q2"], ["q0"]] :=
  by decide +kernel

/-- state elimination: the same LANGUAGE for every elimination order -/
theorem c19_toRegexp (D : DFA σ τ) (hv : D.valid = true) (hk : (D.delta.map (·.1)).Nodup) (hQ : D.Q.Nodup)
    (qs qa : σ) (hs : qs ∉ D.Q) (ha : qa ∉ D.Q) (hne : qs ≠ qa)
    (order order' : List σ) (ho : order.Nodup) (ho' : order'.Nodup)
    (hm : ∀ q, q ∈ order ↔ q ∈ D.Q) (hm' : ∀ q, q ∈ order' ↔ q ∈ D.Q) (w : List τ) :
    (D.toRegexp qs qa order).Lang w ↔ (D.toRegexp qs qa order').Lang w :=
  (toRegexp_lang D hv hk hQ qs qa hs ha hne order ho hm w).trans
    (toRegexp_lang D hv hk hQ qs qa hs ha hne order' ho' hm' w).symm

-- the two orders give different expressions, with the same language
example (w : List String) :
    (C06b.evenA.toRegexp "start" "accept" ["q0", "q1"]).Lang w ↔ (C06b.evenA.toRegexp "start" "accept" ["q1", "q0"]).Lang w :=
  have ⟨hv, hk, hs, ha, hne⟩ := C06b.evenA_ok
  c19_toRegexp C06b.evenA hv hk (by decide +kernel) "start" "accept" hs ha hne ["q0", "q1"] ["q1", "q0"] (by decide +kernel) (by decide +kernel) (by intro q; simp [C06b.evenA])
    (by intro q; simp [C06b.evenA]; exact Or.comm) w
example : C06b.evenA.toRegexp "start" "accept" ["q0", "q1"] ≠ C06b.evenA.toRegexp "start" "accept" ["q1", "q0"] := by decide +kernel

/-- unit elimination: the same rule set for every iteration order of V -/
theorem c19_elimUnit (G : CFG) (V' : List String) (hp : ∀ A, A ∈ V' ↔ A ∈ G.V) (A : String) (rhs : List Sym) :
    ({ G with V := V' } : CFG).elimUnit.HasRule A rhs ↔ G.elimUnit.HasRule A rhs :=
  elimUnit_order_indep G V' hp A rhs

example : (∀ A, A ∈ ["B", "S", "A", "B"] ↔ A ∈ C08b.exG.V) ∧
    ({ C08b.exG with V := ["B", "S", "A", "B"] } : CFG).elimUnit.R =
      [⟨"S", 3, [.t "b"]⟩, ⟨"B", 3, [.t "b"]⟩, ⟨"A", 3, [.t "b"]⟩] := by
  refine ⟨?_, by decide +kernel⟩
  intro A; simp only [C08b.exG, List.mem_cons, List.not_mem_nil, or_false]
  constructor
  · rintro (h | h | h | h) <;> simp [h]
  · rintro (h | h | h) <;> simp [h]

/-- isomorphism tests: the same verdict for every exploration order -/
theorem c19_isomorphic {σ₂ : Type} [DecidableEq σ₂] (D1 : DFA σ τ) (D2 : DFA σ₂ τ) (h1 : D1.valid = true)
    (h2 : D2.valid = true) (hS : ∀ a, a ∈ D1.Sigma ↔ a ∈ D2.Sigma) (s s' : Sched) :
    D1.isomorphic1 D2 s = D1.isomorphic1 D2 s' ∧ D1.isomorphic D2 s = D1.isomorphic D2 s' ∧
      D1.isomorphic1 D2 s = D1.isomorphic D2 s' := by
  obtain ⟨b, e1, e2, _, _⟩ := isomorphic_agree D1 D2 h1 h2 hS s s'
  obtain ⟨b', e1', e2', _, _⟩ := isomorphic_agree D1 D2 h1 h2 hS s' s
  obtain ⟨b'', e1'', e2'', _, _⟩ := isomorphic_agree D1 D2 h1 h2 hS s s
  rw [e1] at e1''
  rw [e2'] at e2''
  cases e1''
  cases e2''
  exact ⟨e1.trans e1'.symm, e2'.trans e2.symm, e1.trans e2.symm⟩

example : C20.exA.valid = true ∧ C20.exB.valid = true ∧ (∀ a, a ∈ C20.exA.Sigma ↔ a ∈ C20.exB.Sigma) ∧
    C20.exA.isomorphic1 C20.exB [0, 1] = .ok true ∧ C20.exA.isomorphic1 C20.exB [4] = .ok true ∧
    C20.exA.isomorphic C20.exB [4] = .ok true :=
  ⟨C20.exA_valid, C20.exB_valid, C20.exAB_sigma, by decide +kernel, by decide +kernel, by decide +kernel⟩

/-- PDA acceptance below the limit: the same verdict for every pop order (and every limit), provided neither run was truncated -/
theorem c19_pda_accepts {γ : Type} [DecidableEq γ] (P : PDA σ τ γ) (hk : (P.delta.map (·.1)).Nodup) (hv : P.valid = true)
    (limit limit' : Nat) (s s' : Sched) (w : List τ) (hw : ∀ a, a ∈ w → a ∈ P.Sigma)
    (ht : (P.acceptsT limit s w).2 = false) (ht' : (P.acceptsT limit' s' w).2 = false) :
    P.accepts limit s w = P.accepts limit' s' w := by
  apply Bool.eq_iff_iff.mpr
  constructor
  · intro h
    exact pda_accepts_complete P hk hv limit' s' w hw ht' (pda_accepts_sound P hk hv limit s w hw h)
  · intro h
    exact pda_accepts_complete P hk hv limit s w hw ht (pda_accepts_sound P hk hv limit' s' w hw h)

example : (C09.exPDA.delta.map (·.1)).Nodup ∧ C09.exPDA.valid = true ∧
    (∀ a, a ∈ ["a", "a", "b", "b"] → a ∈ C09.exPDA.Sigma) ∧
    (C09.exPDA.acceptsT 1000 [] ["a", "a", "b", "b"]).2 = false ∧
    (C09.exPDA.acceptsT 50 [1, 2] ["a", "a", "b", "b"]).2 = false ∧
    C09.exPDA.accepts 1000 [] ["a", "a", "b", "b"] = true ∧ C09.exPDA.accepts 50 [1, 2] ["a", "a", "b", "b"] = true :=
  by decide +kernel

#print axioms repetitionCopied_frame
#print axioms concatCopied_frame
#print axioms repetitionCopied_operand_intact
#print axioms concatCopied_operands_intact
#print axioms repetitionShared_mutates
#print axioms concatShared_mutates
#print axioms repetition_same_result_stmt_false
#print axioms repetition_same_result_partial
#print axioms c19_nfa_accepts
#print axioms c19_nfa_words
#print axioms c19_nfaToDfa
#print axioms c19_hopcroft
#print axioms c19_minimizers_agree
#print axioms c19_toRegexp
#print axioms c19_elimUnit
#print axioms c19_isomorphic
#print axioms c19_pda_accepts
end Gamba
