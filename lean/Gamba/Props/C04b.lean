/-
  Gamba.Props.C04b — property C04 for the Moore-style refinement `dfa_quotient` (`DFA.quotient`):
  the loop terminates within its fuel `|Q| + 2`, and the result is the valid quotient of `D` by the Nerode
  partition of ALL states (same alphabet, same language, pairwise distinguishable states).

  The fuel bound comes from a pigeonhole on the heads of the pairwise disjoint non-empty blocks, which holds for any
  list `Q`, duplicate-free or not.
-/
import Gamba.Proofs.C04b
import Gamba.Proofs.DecEq
namespace Gamba
variable {σ τ : Type} [DecidableEq σ] [DecidableEq τ]

/-- `dfa_quotient`: terminates within its fuel; result valid, same alphabet and language, states = Nerode classes of
    ALL states, pairwise distinguishable.  `hQ` is part of the property's wording; the proof does not use it. -/
theorem quotient_spec (D : DFA σ τ) (hv : D.valid = true) (hQ : D.Q.Nodup) :
    ∃ M, D.quotient = .ok M ∧ M.valid = true ∧ M.Sigma = D.Sigma ∧ D.IsNerode M.Q ∧
      (∀ w, (∀ a, a ∈ w → a ∈ D.Sigma) → (M.Accepts w ↔ D.Accepts w)) ∧
      (∀ B C, B ∈ M.Q → C ∈ M.Q → B ≠ C → M.Dist B C) :=
  have _ := hQ
  let ⟨R, hR, hN, _⟩ := C04b.quotient_ok D hv
  D.minimiser_spec hv ⟨R, hR, hN⟩

/-! ### non-vacuity: a 4-state DFA with two equivalent states (`"1"` and `"2"`) -/

/-- also the example automaton of Props/C04n and of the minimal-DFA checker and answer properties (Proofs/C12a, C12ex, C13a,
    Props/C12a, C13a, C13e, C13f) -/
def exC04b : DFA String String :=
  { Q := ["0", "1", "2", "3"], Sigma := ["a", "b"],
    delta := [(("0", "a"), "1"), (("0", "b"), "2"), (("1", "a"), "3"), (("1", "b"), "0"),
              (("2", "a"), "3"), (("2", "b"), "0"), (("3", "a"), "3"), (("3", "b"), "3")],
    q0 := "0", F := ["3"] }

/-- the same automaton with `F = ∅`: the initial partition `[[], Q]` contains an empty block -/
def exC04bNoF : DFA String String := { exC04b with F := [] }

example : exC04b.valid = true ∧ exC04b.Q.Nodup := by decide +kernel

example : exC04bNoF.valid = true ∧ exC04bNoF.Q.Nodup := by decide +kernel

/-- `"1"` and `"2"` are merged, `"0"` and `"3"` stay alone -/
example : exC04b.quotient = .ok
    { Q := [["3"], ["0"], ["1", "2"]], Sigma := ["a", "b"],
      delta := [((["3"], "a"), ["3"]), ((["3"], "b"), ["3"]),
                ((["0"], "a"), ["1", "2"]), ((["0"], "b"), ["1", "2"]),
                ((["1", "2"], "a"), ["3"]), ((["1", "2"], "b"), ["0"])],
      q0 := ["0"], F := [["3"]] } := by decide +kernel

/-- two passes are needed (one that splits, one that confirms) and suffice -/
example : exC04b.quotientLoop 2 [exC04b.F, sdiff exC04b.Q exC04b.F] = .ok [["3"], ["0"], ["1", "2"]] ∧
    exC04b.quotientLoop 1 [exC04b.F, sdiff exC04b.Q exC04b.F] = .error .fuel := by decide +kernel

/-- `F = ∅`: the first pass only drops the empty block, the second one confirms; one class, no final state -/
example : exC04bNoF.quotient = .ok
    { Q := [["0", "1", "2", "3"]], Sigma := ["a", "b"],
      delta := [((["0", "1", "2", "3"], "a"), ["0", "1", "2", "3"]),
                ((["0", "1", "2", "3"], "b"), ["0", "1", "2", "3"])],
      q0 := ["0", "1", "2", "3"], F := [] } := by decide +kernel

example : exC04bNoF.quotientLoop 2 [exC04bNoF.F, sdiff exC04bNoF.Q exC04bNoF.F] = .ok [["0", "1", "2", "3"]] ∧
    exC04bNoF.quotientLoop 1 [exC04bNoF.F, sdiff exC04bNoF.Q exC04bNoF.F] = .error .fuel := by decide +kernel

example : ∃ M, exC04b.quotient = .ok M ∧ M.valid = true ∧ exC04b.IsNerode M.Q :=
  let ⟨M, h1, h2, _, h4, _⟩ := quotient_spec exC04b (by decide +kernel) (by decide +kernel)
  ⟨M, h1, h2, h4⟩

#print axioms quotient_spec

end Gamba
