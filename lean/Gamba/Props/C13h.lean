/-
  Gamba.Props.C13h — C13 ("the library's own answers pass its checkers") for the language exercises of EVERY kind
  (dfa, nfa, pda, tm, cfg, regexp), on text:

  1. a reference file checked against itself with `check_<kind>_language_from_file` prints `OK` whenever it can be
     enumerated at all (`own_language_file_ok`), and `Error` exactly when it cannot (`languageFile_self_error_iff`);
  2. the word list the notebook generator prints with `generate` (`CheckAll.renderWords`) is read back by
     `parse_word_list` as the same set of words, under `CheckAll.Renderable` (Proofs/C13h: every symbol is one non-blank
     character and no word is the one-symbol word `ε` or `_`) (`parseWordList_renderWords`);
  3. hence the reference text passes `check_<kind>_language_from_words` against its own generated word list
     (`own_language_words_ok`, `own_language_words_ok_unbounded`);
  4. the side condition matters: a DFA over the alphabet `{_}` (or `{ε}`) parses, but its own generated word list is read
     back with the word `_` turned into the empty word, and the checker prints feedback
     (`own_language_words_needs_renderable`).
-/
import Gamba.Props.C12h
import Gamba.Proofs.C13h
namespace Gamba
open CheckAll

/-- a reference text that can be enumerated passes the file checker of its own kind against itself -/
theorem own_language_file_ok (k : CheckAll.Kind) (text : String) (e : Env) (len : Nat) (r : Nat × CheckCex.Lang)
    (h : langOfText k text e len = some r) :
    languageFile k k text text e len = .ok :=
  (languageFile_text_ok_iff k k text text e len).mpr ⟨r.1, r.2, r.1, r.2, h, h, fun _ => Iff.rfl⟩

example : langOfText .dfa "initial p\nfinal q\np q a\np p b\nq q a\nq p b" {} 2 = some (2, [["a"], ["a", "a"], ["b", "a"]]) :=
  C12h.exDfa_lang
example : langOfText .pda "initial p\nfinal q\np p a,εA\np q b,Aε" {} 3 = some (2, [["a", "b"], ["a", "a", "b"]]) :=
  C12h.exPda_lang
example : langOfText .regexp "a(b+c)*" {} 2 = some (0, [["a"], ["a", "b"], ["a", "c"]]) := C12h.exRegexp_lang
example : languageFile .dfa .dfa "initial p\nfinal q\np q a\np p b\nq q a\nq p b"
    "initial p\nfinal q\np q a\np p b\nq q a\nq p b" {} 2 = .ok := by rw [languageFile, C12h.exDfa_lang]; decide +kernel
example : languageFile .pda .pda "initial p\nfinal q\np p a,εA\np q b,Aε" "initial p\nfinal q\np p a,εA\np q b,Aε" {} 3 = .ok := by
  rw [languageFile, C12h.exPda_lang]; decide +kernel
example : languageFile .regexp .regexp "a(b+c)*" "a(b+c)*" {} 2 = .ok := by
  rw [languageFile, C12h.exRegexp_lang]; decide +kernel

/-- … and `Error: …` is printed exactly when the parser or the enumerator raises on the reference text -/
theorem languageFile_self_error_iff (k : CheckAll.Kind) (text : String) (e : Env) (len : Nat) :
    languageFile k k text text e len = .error ↔ langOfText k text e len = none := by
  rw [languageFile_text_error_iff]
  exact ⟨fun h => h.elim id id, Or.inl⟩

example : languageFile .dfa .dfa "initial p\nfinal q\np q a" "initial p\nfinal q\np q a" {} 2 = .error ∧
    langOfText .dfa "initial p\nfinal q\np q a" {} 2 = none := by decide +kernel

/-- the self check never prints feedback -/
theorem languageFile_self_ne_feedback (k : CheckAll.Kind) (text : String) (e : Env) (len : Nat) :
    languageFile k k text text e len ≠ .feedback := by
  cases h : langOfText k text e len with
  | none => rw [(languageFile_self_error_iff k text e len).mpr h]; decide
  | some r => rw [own_language_file_ok k text e len r h]; decide

/-- the generated word list is read back as the same set of words -/
theorem parseWordList_renderWords (L : CheckCex.Lang) (h : Renderable L) :
    ∀ w, w ∈ CheckText.parseWordList (renderWords L) ↔ w ∈ L := by
  intro w
  rw [C13h.parseWordList_renderWords_eq h, mem_dedup]

example : Renderable [[], ["a", "b"], ["a", "a", "b", "b"]] ∧ renderWords [[], ["a", "b"], ["a", "a", "b", "b"]] = "ε ab aabb" ∧
    CheckText.parseWordList "ε ab aabb" = [[], ["a", "b"], ["a", "a", "b", "b"]] := by decide +kernel

/-- no word at all: the empty text, the empty list -/
theorem parseWordList_renderWords_nil : renderWords [] = "" ∧ CheckText.parseWordList (renderWords []) = [] :=
  ⟨rfl, C13h.parseWordList_renderWords_nil⟩

/-- the side condition cannot be dropped: `_` (and `ε`) as a one-symbol word is read back as the empty word -/
example : ¬ Renderable [["_"]] ∧ ¬ Renderable [["ε"]] ∧ ¬ Renderable [["a b"]] ∧ ¬ Renderable [["a", " "]] ∧
    CheckText.parseWordList (renderWords [["_"]]) = [[]] ∧ CheckText.parseWordList (renderWords [["ε"]]) = [[]] := by
  decide +kernel

/-- the reference text passes `check_<kind>_language_from_words` against its own generated word list -/
theorem own_language_words_ok (k : CheckAll.Kind) (text : String) (e : Env) (len maxStates nQ : Nat) (L : CheckCex.Lang)
    (h : langOfText k text e len = some (nQ, L)) (hr : Renderable L) (hm : Check.maxStatesOk nQ maxStates = true) :
    languageWords k text (renderWords L) e len maxStates = .ok :=
  (languageWords_text_ok_iff k text (renderWords L) e len maxStates).mpr
    ⟨nQ, L, h, hm, fun w => (parseWordList_renderWords L hr w).symm⟩

example : langOfText .dfa "initial p\nfinal q\np q a\np p b\nq q a\nq p b" {} 2 = some (2, [["a"], ["a", "a"], ["b", "a"]]) ∧
    Renderable [["a"], ["a", "a"], ["b", "a"]] ∧ Check.maxStatesOk 2 2 = true ∧
    renderWords [["a"], ["a", "a"], ["b", "a"]] = "a aa ba" ∧
    languageWords .dfa "initial p\nfinal q\np q a\np p b\nq q a\nq p b" "a aa ba" {} 2 2 = .ok := by
  rw [languageWords, C12h.exDfa_lang]; decide +kernel
example : langOfText .pda "initial p\nfinal q\np p a,εA\np q b,Aε" {} 3 = some (2, [["a", "b"], ["a", "a", "b"]]) ∧
    Renderable [["a", "b"], ["a", "a", "b"]] ∧ Check.maxStatesOk 2 3 = true ∧
    renderWords [["a", "b"], ["a", "a", "b"]] = "ab aab" ∧
    languageWords .pda "initial p\nfinal q\np p a,εA\np q b,Aε" "ab aab" {} 3 3 = .ok := by
  rw [languageWords, C12h.exPda_lang]; decide +kernel
example : langOfText .regexp "a(b+c)*" {} 2 = some (0, [["a"], ["a", "b"], ["a", "c"]]) ∧
    Renderable [["a"], ["a", "b"], ["a", "c"]] ∧ Check.maxStatesOk 0 0 = true ∧
    renderWords [["a"], ["a", "b"], ["a", "c"]] = "a ab ac" ∧
    languageWords .regexp "a(b+c)*" "a ab ac" {} 2 0 = .ok := by
  rw [languageWords, C12h.exRegexp_lang]; decide +kernel
/-- the empty word is printed as `ε` and read back as the empty word (an NFA with an `ε` move, a grammar with an `ε` rule) -/
example : langOfText .cfg "S -> aSb | ε" {} 4 = some (0, [[], ["a", "b"], ["a", "a", "b", "b"]]) ∧
    languageWords .cfg "S -> aSb | ε" (renderWords [[], ["a", "b"], ["a", "a", "b", "b"]]) {} 4 0 = .ok := by decide +kernel

/-- no state bound (`max_states = 0`, the only value the cfg / regexp checkers use) -/
theorem own_language_words_ok_unbounded (k : CheckAll.Kind) (text : String) (e : Env) (len nQ : Nat) (L : CheckCex.Lang)
    (h : langOfText k text e len = some (nQ, L)) (hr : Renderable L) :
    languageWords k text (renderWords L) e len 0 = .ok :=
  own_language_words_ok k text e len 0 nQ L h hr (by simp [Check.maxStatesOk])

example : langOfText .tm "initial p\np p aa,R\np accept __,R" {} 2 = some (3, [[], ["a"], ["a", "a"]]) ∧
    Renderable [[], ["a"], ["a", "a"]] ∧
    languageWords .tm "initial p\np p aa,R\np accept __,R" (renderWords [[], ["a"], ["a", "a"]]) {} 2 0 = .ok := by
  rw [languageWords, langOfText, C12h.exTm_parse]; decide +kernel

/-- when the state bound is exceeded the verdict is feedback even for the own word list: the hypothesis `hm` is needed -/
example : languageWords .dfa "initial p\nfinal q\np q a\np p b\nq q a\nq p b" "a aa ba" {} 2 1 = .feedback := by
  rw [languageWords, C12h.exDfa_lang]; decide +kernel

/-! ### 4. the side condition matters for parsed objects

  The DFA / PDA parsers accept `_` and `ε` as ordinary input symbols (the NFA parser reads them as the silent move, the
  regexp / cfg parsers as the empty word, so for those kinds the one-symbol words `_` / `ε` never occur).  The DFA below has
  the language `{_, __}` up to length 2; `generate` prints `_ __`; `parse_word_list` reads `_` back as the EMPTY word and the
  checker reports a difference for the library's own answer. -/

theorem own_language_words_needs_renderable :
    langOfText .dfa "initial p\nfinal q\np q _\nq q _" {} 2 = some (2, [["_"], ["_", "_"]]) ∧
    ¬ Renderable [["_"], ["_", "_"]] ∧
    renderWords [["_"], ["_", "_"]] = "_ __" ∧
    CheckText.parseWordList "_ __" = [[], ["_", "_"]] ∧
    languageWords .dfa "initial p\nfinal q\np q _\nq q _" (renderWords [["_"], ["_", "_"]]) {} 2 0 = .feedback := by
  decide +kernel

/-- the same with the alphabet `{ε}`, and for a PDA -/
theorem own_language_words_needs_renderable_eps :
    langOfText .dfa "initial p\nfinal q\np q ε\nq q ε" {} 2 = some (2, [["ε"], ["ε", "ε"]]) ∧
    languageWords .dfa "initial p\nfinal q\np q ε\nq q ε" (renderWords [["ε"], ["ε", "ε"]]) {} 2 0 = .feedback ∧
    langOfText .pda "initial p\nfinal q\np q _,εε" {} 3 = some (2, [["_"]]) ∧
    languageWords .pda "initial p\nfinal q\np q _,εε" (renderWords [["_"]]) {} 3 0 = .feedback := by
  decide +kernel

#print axioms own_language_file_ok
#print axioms languageFile_self_error_iff
#print axioms languageFile_self_ne_feedback
#print axioms parseWordList_renderWords
#print axioms parseWordList_renderWords_nil
#print axioms own_language_words_ok
#print axioms own_language_words_ok_unbounded
#print axioms own_language_words_needs_renderable
#print axioms own_language_words_needs_renderable_eps

end Gamba
