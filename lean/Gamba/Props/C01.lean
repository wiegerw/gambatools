/-
  Gamba.Props.C01 — DFA/NFA acceptance and ε-closure agree with the textbook semantics
  (`Gamba.Spec.Automata`).  `NFA.keyStates`, `NFA.epsWork` (the fuel bound of `epsClosure_total_of_fuel`) are defined
  in `Gamba.Proofs.C01`.
-/
import Gamba.Proofs.DFABasic
import Gamba.Proofs.C01
import Gamba.Proofs.DecEq
namespace Gamba
variable {σ τ : Type} [DecidableEq σ] [DecidableEq τ]

/-- DFA acceptance: for a valid DFA and a word over its alphabet the test returns (no KeyError) exactly the spec
    verdict. -/
theorem dfa_accepts_iff (D : DFA σ τ) (hv : D.valid = true) (w : List τ) (hw : ∀ a, a ∈ w → a ∈ D.Sigma) :
    ∃ b, D.accepts w = .ok b ∧ (b = true ↔ D.Accepts w) :=
  ⟨D.acceptsT w, DFA.accepts_eq_ok hv hw, (DFA.Accepts_iff_acceptsT hv hw).symm⟩

example : C01.exDFA.valid = true ∧ (∀ a, a ∈ ["a", "b", "a", "a"] → a ∈ C01.exDFA.Sigma) ∧
    C01.exDFA.accepts ["a", "b", "a", "a"] = .ok true ∧ C01.exDFA.accepts ["a", "b", "a"] = .ok false :=
  by decide +kernel

example : C01.exDFA.Accepts ["a", "b", "a", "a"] := by
  rw [DFA.Accepts_iff_accepts]; decide +kernel

/-- partial correctness of the ε-closure worklist, for every fuel and every pop order -/
theorem epsClosure_exact (N : NFA σ τ) (fuel : Nat) (s : Sched) (S R : List σ)
    (h : N.epsClosure fuel s S = .ok R) : ∀ q, q ∈ R ↔ N.EpsReach S q :=
  N.epsClosure_sound_complete fuel s S R h

example : C01.exNFA.epsClosure 3 [0, 1, 0] ["B"] = .ok ["B", "C", "A"] := by decide +kernel

/-- termination: with the fuel used by `NFA.closure` the loop never runs out, for every pop order -/
theorem closure_terminates (N : NFA σ τ) (hv : N.valid = true) (s : Sched) (S : List σ)
    (_hS : ∀ q, q ∈ S → q ∈ N.Q) : ∃ R, N.closure s S = .ok R :=
  N.closure_ok hv s S

example : C01.exNFA.valid = true ∧ (∀ q, q ∈ ["B"] → q ∈ C01.exNFA.Q) := by decide +kernel

/-- total correctness of the ε-closure worklist with NO hypothesis on `N` (not even validity): for every pop
    order, any fuel ≥ `S.length + N.epsWork` (`epsWork` = total length of the ε-successor lists of the states
    occurring as keys of δ) suffices, and the result is exactly ε-reachability. -/
theorem epsClosure_total_of_fuel (N : NFA σ τ) (s : Sched) (S : List σ) (fuel : Nat)
    (hf : S.length + N.epsWork ≤ fuel) :
    ∃ R, N.epsClosure fuel s S = .ok R ∧ ∀ q, q ∈ R ↔ N.EpsReach S q := by
  obtain ⟨R, hR⟩ := N.epsClosure_ok_of_fuel s S fuel hf
  exact ⟨R, hR, epsClosure_exact N fuel s S R hR⟩

example : ["B"].length + C01.exNFA.epsWork ≤ 4 := by decide +kernel

/-- `NFA.closure` (the fuel of `closure_terminates`) is exactly ε-reachability, independent of the scheduler -/
theorem closure_exact (N : NFA σ τ) (hv : N.valid = true) (s : Sched) (S : List σ)
    (_hS : ∀ q, q ∈ S → q ∈ N.Q) : ∃ R, N.closure s S = .ok R ∧ ∀ q, q ∈ R ↔ N.EpsReach S q :=
  ⟨_, NFA.closure_eq_ok hv s S, NFA.mem_closureT hv s S⟩

example : C01.exNFA.closure [5, 3, 1] ["B"] = .ok ["B", "C", "A"] := by decide +kernel

/-- the cache entry Eqa[(q,a)] is the ε-closure of δ(q,a) (∅ for absent keys) -/
theorem eqa_exact (N : NFA σ τ) (hv : N.valid = true) (s : Sched) (q : σ) (a : τ) (_hq : q ∈ N.Q) :
    ∃ R, N.eqa s q a = .ok R ∧ ∀ r, r ∈ R ↔ ∃ q', N.Succ q a q' ∧ N.EpsReach [q'] r :=
  ⟨_, NFA.eqa_eq_ok hv s q a, NFA.mem_eqaT hv s q a⟩

example : "A" ∈ C01.exNFA.Q ∧ C01.exNFA.eqa [] "A" "x" = .ok ["A", "B", "C"] ∧
    C01.exNFA.eqa [] "B" "x" = .ok [] := by decide +kernel

/-- NFA acceptance: for a valid NFA (ε-cycles, partial δ, F = ∅, unreachable states all allowed), every word over the
    alphabet and every pop order, the test returns exactly the spec verdict. -/
theorem nfa_accepts_iff (N : NFA σ τ) (hv : N.valid = true) (s : Sched) (w : List τ)
    (hw : ∀ a, a ∈ w → a ∈ N.Sigma) : ∃ b, N.accepts s w = .ok b ∧ (b = true ↔ N.Accepts w) :=
  N.accepts_spec hv s w hw

example : (∀ a, a ∈ ["x", "x", "y"] → a ∈ C01.exNFA.Sigma) ∧
    C01.exNFA.accepts [2, 0, 1] ["x", "x", "y"] = .ok true := by decide +kernel

example : C01.exNFA.Accepts ["x", "x", "y"] :=
  (NFA.Accepts_iff_eval (s := []) (b := true) (by decide +kernel) (by decide +kernel) (by decide +kernel)).mpr rfl

/-- corollary: the verdict does not depend on the scheduler -/
theorem nfa_accepts_sched_indep (N : NFA σ τ) (hv : N.valid = true) (s s' : Sched) (w : List τ)
    (hw : ∀ a, a ∈ w → a ∈ N.Sigma) : N.accepts s w = N.accepts s' w := by
  obtain ⟨b, hb, hiff⟩ := nfa_accepts_iff N hv s w hw
  obtain ⟨b', hb', hiff'⟩ := nfa_accepts_iff N hv s' w hw
  rw [hb, hb', Bool.eq_iff_iff.mpr (hiff.trans hiff'.symm)]

example : C01.exNFA.accepts [2, 0, 1] ["x", "y"] = C01.exNFA.accepts [7, 7, 7, 7] ["x", "y"] :=
  nfa_accepts_sched_indep C01.exNFA (by decide +kernel) _ _ _ (by decide +kernel)

#print axioms dfa_accepts_iff
#print axioms epsClosure_exact
#print axioms closure_terminates
#print axioms epsClosure_total_of_fuel
#print axioms closure_exact
#print axioms eqa_exact
#print axioms nfa_accepts_iff
#print axioms nfa_accepts_sched_indep

end Gamba
