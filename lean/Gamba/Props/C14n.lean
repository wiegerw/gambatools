/-
  Gamba.Props.C14n — the formal boundary of the hypotheses on the state names in the theorems about the
  product automaton the library REALLY returns, `(D1.product D2 t).mapStates productName` (pair `(p, q)` named
  `"(p,q)"`; `productAnswer_valid`, `own_product_ok`, … assume comma-free state names).

  `productName` is injective as soon as the first components (or the second components) contain no comma
  (`productName_inj`, `productName_inj_snd`).  Some such hypothesis is needed: with the states `a`, `a,b` in `D1`
  and `b,c`, `c` in `D2` the pairs `(a, "b,c")` and `("a,b", c)` are both named `"(a,b,c)"`
  (`productName_collision`), and the named union automaton accepts a word that neither operand accepts
  (`product_name_collision_witness`, the recorded defect `product-name-collision`).
-/
import Gamba.Proofs.C14n
import Gamba.Proofs.DFABasic
namespace Gamba

/-- the product name determines the pair when the FIRST components are comma-free
    (nothing is assumed about the second components) -/
theorem productName_inj (p q : String × String) (hp : ',' ∉ p.1.toList) (hq : ',' ∉ q.1.toList)
    (h : productName p = productName q) : p = q := by
  obtain ⟨p1, p2⟩ := p
  obtain ⟨q1, q2⟩ := q
  exact C14n.productName_inj_left hp hq h

/-- non-vacuity: the second components may contain commas -/
example : ',' ∉ ("a", "b,c").1.toList ∧ ',' ∉ ("a", "b,c,d").1.toList ∧ ',' ∈ ("a", "b,c").2.toList := by
  refine ⟨?_, ?_, ?_⟩ <;> decide

/-- symmetrically: … when the SECOND components are comma-free -/
theorem productName_inj_snd (p q : String × String) (hp : ',' ∉ p.2.toList) (hq : ',' ∉ q.2.toList)
    (h : productName p = productName q) : p = q := by
  obtain ⟨p1, p2⟩ := p
  obtain ⟨q1, q2⟩ := q
  exact C14n.productName_inj_right hp hq h

example : ',' ∉ ("a,b", "c").2.toList ∧ ',' ∉ ("a", "c").2.toList ∧ ',' ∈ ("a,b", "c").1.toList := by
  refine ⟨?_, ?_, ?_⟩ <;> decide

/-- a hypothesis is needed: the collision that the real library exhibits -/
theorem productName_collision : productName ("a", "b,c") = productName ("a,b", "c") := by
  rw [C14n.name_a_bc, C14n.name_ab_c]

/-- … between two different pairs (one comma-free component on each side is not enough) -/
example : (("a", "b,c") : String × String) ≠ ("a,b", "c") ∧
    ',' ∉ ("a", "b,c").1.toList ∧ ',' ∉ ("a,b", "c").2.toList := by
  refine ⟨?_, ?_, ?_⟩ <;> decide

/-- the recorded defect `product-name-collision`, formally: two valid DFAs over the same alphabet whose NAMED
    union automaton is not equivalent to the union of the languages.  `D1` has the states `a`, `a,b`, `D2` the
    states `b,c`, `c`; the accepting pair `(a, "b,c")` and the rejecting pair `("a,b", c)` are both named
    `"(a,b,c)"`; the word `x` leads to `("a,b", c)`: neither operand accepts it, the named automaton does. -/
theorem product_name_collision_witness : ∃ (D1 D2 : DFA String String) (w : List String),
    D1.valid = true ∧ D2.valid = true ∧ (∀ a, a ∈ D1.Sigma ↔ a ∈ D2.Sigma) ∧ (∀ a, a ∈ w → a ∈ D1.Sigma) ∧
    ¬ (((D1.product D2 .union).mapStates productName).Accepts w ↔ (D1.Accepts w ∨ D2.Accepts w)) := by
  refine ⟨C14n.badD1, C14n.badD2, ["x"], C14n.badD1_valid, C14n.badD2_valid, C14n.bad_sigma, by decide, ?_⟩
  rw [C14n.bad_named]
  simp only [DFA.Accepts_iff_accepts]; decide +kernel

/-- the witness in detail: only the names `"a,b"` and `"b,c"` contain a comma; the structured product is the
    correct union automaton (four pair states, valid, rejects `x`); two of its states are named alike, and the
    named automaton — still a valid DFA in the model — has three distinct states only and accepts `x` -/
example : ¬ (∀ q, q ∈ C14n.badD1.Q → ',' ∉ q.toList) ∧ ¬ (∀ q, q ∈ C14n.badD2.Q → ',' ∉ q.toList) ∧
    C14n.badD1.product C14n.badD2 .union = C14n.badP ∧ C14n.badP.valid = true ∧
    C14n.badP.Q = [("a", "b,c"), ("a", "c"), ("a,b", "b,c"), ("a,b", "c")] ∧
    ¬ (∀ p q, p ∈ C14n.badP.Q → q ∈ C14n.badP.Q → productName p = productName q → p = q) ∧
    (C14n.badP.mapStates productName).Q = ["(a,b,c)", "(a,c)", "(a,b,b,c)", "(a,b,c)"] ∧
    (C14n.badP.mapStates productName).valid = true ∧
    (dedup (C14n.badP.mapStates productName).Q).length = 3 ∧ (dedup C14n.badP.Q).length = 4 ∧
    (C14n.badP.mapStates productName).accepts ["x"] = .ok true ∧ C14n.badP.accepts ["x"] = .ok false ∧
    C14n.badD1.accepts ["x"] = .ok false ∧ C14n.badD2.accepts ["x"] = .ok false := by
  rw [C14n.badP_named]
  refine ⟨fun h => ?_, fun h => ?_, C14n.bad_product, C14n.badP_valid, rfl, fun h => ?_, rfl,
    C14n.badNamed_valid, by decide +kernel, by decide +kernel, by decide +kernel, by decide +kernel, by decide +kernel, by decide +kernel⟩
  · exact absurd (h "a,b" (by decide +kernel)) (by decide +kernel)
  · exact absurd (h "b,c" (by decide +kernel)) (by decide +kernel)
  · exact absurd (h ("a", "b,c") ("a,b", "c") (by decide +kernel) (by decide +kernel) productName_collision) (by decide +kernel)

#print axioms productName_inj
#print axioms productName_inj_snd
#print axioms productName_collision
#print axioms product_name_collision_witness

end Gamba
