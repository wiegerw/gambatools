/- Gamba.Props.C14c — finite-language helpers (language_algorithms.py) and `compare_languages`. -/
import Gamba.Proofs.Words
import Gamba.Proofs.C14c
namespace Gamba
variable {τ : Type} [DecidableEq τ]

theorem langUnion_spec (L1 L2 : List (List τ)) (w : List τ) : w ∈ langUnion L1 L2 ↔ w ∈ L1 ∨ w ∈ L2 := by
  simp [langUnion]

example : langUnion [[1], [1, 2]] [[1, 2], [3]] = [[1], [1, 2], [3]] := by decide +kernel

theorem langInter_spec (L1 L2 : List (List τ)) (w : List τ) : w ∈ langInter L1 L2 ↔ w ∈ L1 ∧ w ∈ L2 := by
  simp [langInter]

example : langInter [[1], [1, 2]] [[1, 2], [3]] = [[1, 2]] := by decide +kernel

theorem langSymDiff_spec (L1 L2 : List (List τ)) (w : List τ) :
    w ∈ langSymDiff L1 L2 ↔ (w ∈ L1 ∧ w ∉ L2) ∨ (w ∉ L1 ∧ w ∈ L2) := by
  simp only [langSymDiff, mem_sunion, mem_sdiff]
  constructor
  · rintro (⟨h1, h2⟩ | ⟨h1, h2⟩)
    · exact Or.inl ⟨h1, h2⟩
    · exact Or.inr ⟨h2, h1⟩
  · rintro (⟨h1, h2⟩ | ⟨h1, h2⟩)
    · exact Or.inl ⟨h1, h2⟩
    · exact Or.inr ⟨h2, h1⟩

example : langSymDiff [[1], [1, 2]] [[1, 2], [3]] = [[1], [3]] := by decide +kernel

theorem langConcat_spec (L1 L2 : List (List τ)) (w : List τ) :
    w ∈ langConcat L1 L2 ↔ ∃ u v, u ∈ L1 ∧ v ∈ L2 ∧ w = u ++ v := by
  simp only [langConcat, mem_dedup, List.mem_flatMap, List.mem_map]
  constructor
  · rintro ⟨u, hu, v, hv, rfl⟩; exact ⟨u, v, hu, hv, rfl⟩
  · rintro ⟨u, v, hu, hv, rfl⟩; exact ⟨u, hu, v, hv, rfl⟩

example : langConcat [[], [1]] [[1], [1, 1]] = [[1], [1, 1], [1, 1, 1]] := by decide +kernel

theorem langReverse_spec (L : List (List τ)) (w : List τ) : w ∈ langReverse L ↔ w.reverse ∈ L := by
  simp only [langReverse, mem_dedup, List.mem_map]
  constructor
  · rintro ⟨u, hu, rfl⟩; simpa using hu
  · intro h; exact ⟨w.reverse, h, List.reverse_reverse w⟩

example : langReverse [[1, 2], [2, 1], [3, 4, 5]] = [[2, 1], [1, 2], [5, 4, 3]] := by decide +kernel

/-- all words w in L such that no proper prefix of w is in L -/
theorem langNoPrefix_spec (L : List (List τ)) (w : List τ) :
    w ∈ langNoPrefix L ↔ w ∈ L ∧ ∀ u v, w = u ++ v → v ≠ [] → u ∉ L := by
  simp only [langNoPrefix, List.mem_filter, Bool.not_eq_eq_eq_not, Bool.not_true,
    List.any_eq_false, decide_eq_true_eq, mem_properPrefixes]
  constructor
  · rintro ⟨hw, h⟩
    exact ⟨hw, fun u v huv hv => h u ⟨v, hv, huv⟩⟩
  · rintro ⟨hw, h⟩
    exact ⟨hw, fun u ⟨v, hv, huv⟩ => h u v huv hv⟩

example : langNoPrefix [[1], [1, 2]] = [[1]] := by decide +kernel
example : langNoPrefix [[1, 2, 3], [2], [1, 2], [2, 2]] = [[2], [1, 2]] := by decide +kernel
example : langNoPrefix [[], [1], [1, 2]] = [[]] := by decide +kernel

/-- all words w in L such that w is not a proper prefix of any word in L -/
theorem langNoExtend_spec (L : List (List τ)) (w : List τ) :
    w ∈ langNoExtend L ↔ w ∈ L ∧ ∀ v, v ≠ [] → w ++ v ∉ L := by
  simp only [langNoExtend, List.mem_filter, List.all_eq_true, Bool.not_eq_eq_eq_not, Bool.not_true,
    Bool.and_eq_false_imp, List.isPrefixOf_iff_prefix, decide_eq_false_iff_not, Decidable.not_not]
  constructor
  · rintro ⟨hw, h⟩
    refine ⟨hw, fun v hv hmem => hv ?_⟩
    have := h (w ++ v) hmem ⟨v, rfl⟩
    simpa using this
  · rintro ⟨hw, h⟩
    refine ⟨hw, ?_⟩
    rintro v hv ⟨t, rfl⟩
    by_cases ht : t = []
    · simp [ht]
    · exact absurd hv (h t ht)

example : langNoExtend [[1], [1, 2]] = [[1, 2]] := by decide +kernel
example : langNoExtend [[1, 2, 3], [2], [1, 2], [2, 2]] = [[1, 2, 3], [2, 2]] := by decide +kernel

omit [DecidableEq τ] in
theorem wordsOfLength_spec (Sigma : List τ) (n : Nat) (w : List τ) :
    w ∈ wordsOfLength Sigma n ↔ w.length = n ∧ ∀ a, a ∈ w → a ∈ Sigma :=
  mem_wordsOfLength Sigma n w

example : wordsOfLength [0, 1] 2 = [[0, 0], [0, 1], [1, 0], [1, 1]] := by decide +kernel

omit [DecidableEq τ] in
theorem wordsUpTo_spec (Sigma : List τ) (n : Nat) (w : List τ) :
    w ∈ wordsUpTo Sigma n ↔ w.length ≤ n ∧ ∀ a, a ∈ w → a ∈ Sigma :=
  mem_wordsUpTo Sigma n w

example : wordsUpTo [0, 1] 2 = [[], [0], [1], [0, 0], [0, 1], [1, 0], [1, 1]] := by decide +kernel

/-- `compare_languages` returns no feedback exactly when the two languages are equal as sets -/
theorem compare_none_iff (A1 A2 : List (List τ)) :
    compareLanguages A1 A2 = none ↔ ∀ w, w ∈ A1 ↔ w ∈ A2 := by
  have hs := compareLanguages_spec A1 A2
  constructor
  · intro h; rwa [h] at hs
  · intro h
    cases hc : compareLanguages A1 A2 with
    | none => rfl
    | some p =>
      obtain ⟨w, b⟩ := p
      rw [hc] at hs
      cases b
      · exact absurd ((h w).mpr hs.1) hs.2.1
      · exact absurd ((h w).mp hs.1) hs.2.1

-- equal as sets (different order, duplicates): no feedback
example : compareLanguages [[1], [1, 2], [1]] [[1, 2], [1]] = none := by decide +kernel

/-- a reported "should not be accepted" word is in the answer but not in the reference, and no shorter such word exists -/
theorem compare_extra (A1 A2 : List (List τ)) (w : List τ) (h : compareLanguages A1 A2 = some (w, true)) :
    w ∈ A1 ∧ w ∉ A2 ∧ ∀ v, v ∈ A1 → v ∉ A2 → w.length ≤ v.length := by
  have hs := compareLanguages_spec A1 A2
  rwa [h] at hs

-- the answer has two extra words ([3,3,3] and [4]) and the reference a missing word ([2]):
-- the shortest extra word is reported, not the (equally short) missing one.
example : compareLanguages [[1], [3, 3, 3], [4]] [[1], [2]] = some ([4], true) := by decide +kernel
-- stable: first of the minimal-length extra words
example : compareLanguages [[5, 5], [3], [4]] ([] : List (List Nat)) = some ([3], true) := by decide +kernel
example : compareLanguages [['a', 'b'], ['a']] [['a']] = some (['a', 'b'], true) := by decide +kernel

/-- a reported "should be accepted" word is in the reference but not in the answer, minimal, and is only reported
    when the answer has no extra word at all (extra words are reported first) -/
theorem compare_missing (A1 A2 : List (List τ)) (w : List τ) (h : compareLanguages A1 A2 = some (w, false)) :
    w ∈ A2 ∧ w ∉ A1 ∧ (∀ v, v ∈ A2 → v ∉ A1 → w.length ≤ v.length) ∧ (∀ v, v ∈ A1 → v ∈ A2) := by
  have hs := compareLanguages_spec A1 A2
  rwa [h] at hs

example : compareLanguages [[1]] [[1], [2, 2], [3]] = some ([3], false) := by decide +kernel
example : compareLanguages ([] : List (List Nat)) [[1, 1], [2, 2]] = some ([1, 1], false) := by decide +kernel

#print axioms langUnion_spec
#print axioms langInter_spec
#print axioms langSymDiff_spec
#print axioms langConcat_spec
#print axioms langReverse_spec
#print axioms langNoPrefix_spec
#print axioms langNoExtend_spec
#print axioms wordsOfLength_spec
#print axioms wordsUpTo_spec
#print axioms compare_none_iff
#print axioms compare_extra
#print axioms compare_missing

end Gamba
